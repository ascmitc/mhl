/-
`create -sf` (commands.py `create_for_single_files_subcommand`) in named pieces.  The targets are one fold of
`appendNew` over what the named paths contribute (`sfTargets_eq`); the session is `Session.addAll` of one write per
target (`sfFold_addAll`), so it satisfies the invariant `SInv` of folder-mode `create` with the targets as the visited
items (`sfFold_sinv`, under `SfOk`); what the command returns is the commit of that session (`createSingleFiles_eq`), as
`createFolder_eq_gen` says for folder mode.  Beside these: what `filesBelow` yields in terms of the whole tree
(`mem_visFrom_at`), every record is a file record whatever is named (`sfFold_filesOnly`).
-/
import MhlProps.Proofs.SessionLemmas

namespace MhlModel

/-! ## the pieces of `createSingleFiles` -/

/-- one named path: a folder of the tree contributes the files below it (duplicates skipped), anything else — a file
of the tree or a path that does not resolve — contributes itself -/
def sfTargetStep (hit : RelPath → Bool) (t : Node) (acc : List RelPath) (p : RelPath) : List RelPath :=
  match t.at? p with
  | some (.dir _ _ _) => (filesBelow hit t p).foldl appendNew acc
  | _ => appendNew acc p

/-- the list `createSingleFiles` folds `sealFile` over -/
def sfTargets (hit : RelPath → Bool) (t : Node) (named : List RelPath) : List RelPath :=
  named.foldl (sfTargetStep hit t) []

/-- one step of the sealing fold of `createSingleFiles`: seal the file, count a failure of the first format -/
def sfStep (env : Env) (t : Node) (rootHist : Hist) (fmts : List String) (first : String)
    (acc : Session × Nat × List String) (p : RelPath) : Session × Nat × List String :=
  let r := sealFile env.H rootHist acc.1 p (fileContent t p) fmts
  match r.2.find? (fun x => x.1 == first) with
  | some (_, _, ok) => if ok then (r.1, acc.2.1, acc.2.2) else (r.1, acc.2.1 + 1, appendNew acc.2.2 (posix p))
  | none => (r.1, acc.2.1, acc.2.2)

/-- the session part of the fold: `sealFile` folded over the targets -/
def sfFold (env : Env) (t : Node) (rootHist : Hist) (fmts : List String) (s : Session) (ps : List RelPath) :
    Session :=
  ps.foldl (fun s p => (sealFile env.H rootHist s p (fileContent t p) fmts).1) s

theorem sfStep_fst (env : Env) (t : Node) (rootHist : Hist) (fmts : List String) (first : String)
    (acc : Session × Nat × List String) (p : RelPath) :
    (sfStep env t rootHist fmts first acc p).1 = (sealFile env.H rootHist acc.1 p (fileContent t p) fmts).1 := by
  unfold sfStep
  dsimp only
  split
  · split <;> rfl
  · rfl

theorem sfStep_fold_fst (env : Env) (t : Node) (rootHist : Hist) (fmts : List String) (first : String)
    (ps : List RelPath) (acc : Session × Nat × List String) :
    (ps.foldl (sfStep env t rootHist fmts first) acc).1 = sfFold env t rootHist fmts acc.1 ps := by
  induction ps generalizing acc with
  | nil => rfl
  | cons p ps ih =>
    rw [List.foldl_cons, ih, sfStep_fst]
    rfl

/-- the effective pattern list of the run: the expression `cHit` / `cSession` / `cState` (CreateLemmas) spell out -/
def sfPats (rootHist : Hist) (o : CreateOpts) : List String :=
  setPatterns (latestIgnore rootHist.gens) o.ignoreCli o.ignoreFile

end MhlModel

namespace MhlProps.C02sf
open MhlModel

/-- the targets of `create -sf`: for every named path in order — if it is a folder of the tree, the files the
traversal that starts AT that folder yields (patterns matched relative to the root), else the path itself; a path
already in the list is skipped -/
def targets (env : Env) (t : Node) (rootHist : Hist) (o : CreateOpts) : List RelPath :=
  sfTargets (MhlProps.C02rec.cHit env rootHist o) t o.singleFiles

/-- the session `create -sf` commits: `sealFile` folded over the targets from the empty session -/
def sfSession (env : Env) (t : Node) (rootHist : Hist) (o : CreateOpts) : Session :=
  sfFold env t rootHist (isort strLe o.formats) { patterns := sfPats rootHist o } (targets env t rootHist o)

/-- the failure counter and the mismatch list of the run (success is judged on the first format only) -/
def sfCounters (env : Env) (t : Node) (rootHist : Hist) (o : CreateOpts) : Nat × List String :=
  ((targets env t rootHist o).foldl
    (sfStep env t rootHist (isort strLe o.formats) ((isort strLe o.formats).headD ""))
    (({ patterns := sfPats rootHist o } : Session), 0, [])).2

end MhlProps.C02sf

namespace MhlModel

section command
open MhlProps.C02sf

/-- What `create -sf` returns once the history loaded: `createSingleFiles` folds `sealFile` over exactly `targets` and
commits the resulting session. -/
theorem createSingleFiles_eq (env : Env) (t : Node) (o : CreateOpts) (rootHist : Hist)
    (hl : loadHistory t = .ok rootHist) :
    createSingleFiles env t o =
      match commit rootHist (sfSession env t rootHist o) env.rootName env.stamp "in-place" with
      | .error e => { err := some e }
      | .ok written =>
        { err := if (sfCounters env t rootHist o).1 > 0 then some errVerifyFailed else none,
          report := { mismatch := (sfCounters env t rootHist o).2 }, written := written } := by
  unfold sfSession
  rw [← sfStep_fold_fst env t rootHist _ ((isort strLe o.formats).headD "") _ (_, 0, [])]
  unfold createSingleFiles
  simp only [hl]
  rfl

theorem createSingleFiles_cases (env : Env) (t : Node) (o : CreateOpts) (rootHist : Hist)
    (hl : loadHistory t = .ok rootHist) :
    (∃ e, commit rootHist (sfSession env t rootHist o) env.rootName env.stamp "in-place" = .error e ∧
        createSingleFiles env t o = { err := some e }) ∨
      commit rootHist (sfSession env t rootHist o) env.rootName env.stamp "in-place" =
        .ok (createSingleFiles env t o).written := by
  rw [createSingleFiles_eq env t o rootHist hl]
  cases commit rootHist (sfSession env t rootHist o) env.rootName env.stamp "in-place" with
  | error e => exact Or.inl ⟨e, rfl, rfl⟩
  | ok ws => exact Or.inr rfl

theorem create_eq_createSingleFiles (env : Env) (t : Node) (o : CreateOpts) (hsf : o.singleFiles ≠ []) :
    create env t o = createSingleFiles env t o := by
  unfold create
  rw [if_neg (by simpa using hsf)]

end command

/-! ## `filesBelow` -/

theorem filesBelow_of_at (hit : RelPath → Bool) {t : Node} {d : RelPath} {n : Node} (h : t.at? d = some n) :
    filesBelow hit t d = (visFrom hit d n).filterMap fun x => if x.2 = true then none else some x.1 := by
  unfold filesBelow
  rw [h]
  simp only [visFrom, visitPaths, List.filterMap_flatMap, List.filterMap_map]
  rfl

theorem mem_filesBelow (hit : RelPath → Bool) (t : Node) (d p : RelPath) :
    p ∈ filesBelow hit t d ↔ ∃ n, t.at? d = some n ∧ (p, false) ∈ visFrom hit d n := by
  cases h : t.at? d with
  | none => simp [filesBelow, h]
  | some n =>
    rw [filesBelow_of_at hit h, List.mem_filterMap]
    constructor
    · rintro ⟨⟨q, b⟩, hx, hq⟩
      cases b <;> simp at hq
      exact ⟨n, rfl, hq ▸ hx⟩
    · rintro ⟨n', hn', hx⟩
      cases hn'
      exact ⟨_, hx, by simp⟩

/-- what the traversal that starts at the node `n` found at `d` yields, in terms of the whole tree: the entries
strictly below `d`, none of whose path prefixes LONGER than `d` is matched by the patterns (the patterns are matched
against root-relative paths; `d` itself and the folders above it are not tested).  `C02.visible_iff_at` is the case
`d = []`. -/
theorem mem_visFrom_at (hit : RelPath → Bool) {t : Node} (hd : t.NamesDistinct) {d : RelPath} {n : Node}
    (hn : t.at? d = some n) (p : RelPath) (b : Bool) :
    (p, b) ∈ visFrom hit d n ↔
      ∃ q, q ≠ [] ∧ p = d ++ q ∧ (∃ c, t.at? p = some c ∧ c.isDir = b) ∧
        ∀ k, d.length < k → k ≤ p.length → hit (p.take k) = false := by
  have hdn := Node.NamesDistinct.at? t d n hd hn
  rw [mem_visFrom_iff]
  constructor
  · rintro ⟨hp, hk⟩
    obtain ⟨q, rfl, hq, -⟩ := Node.paths_shape n d p b hp
    obtain ⟨-, c, hc, hcd⟩ := (Node.mem_paths_iff_at n d q b hdn).1 hp
    exact ⟨q, hq, rfl, ⟨c, by rw [Node.at?_append, hn]; exact hc, hcd⟩, hk⟩
  · rintro ⟨q, hq, rfl, ⟨c, hc, hcd⟩, hk⟩
    rw [Node.at?_append, hn] at hc
    exact ⟨(Node.mem_paths_iff_at n d q b hdn).2 ⟨hq, c, hc, hcd⟩, hk⟩

theorem mem_visFrom_traverse (hit : RelPath → Bool) (d : RelPath) (n : Node) (p : RelPath) (b : Bool) :
    (p, b) ∈ visFrom hit d n ↔ ∃ v ∈ traverse hit d n, ∃ c ∈ v.children, c.2 = b ∧ p = v.folder ++ [c.1] := by
  simp only [visFrom, visitPaths, List.mem_flatMap, List.mem_map, Prod.mk.injEq]
  exact exists_congr fun v => and_congr_right fun _ => exists_congr fun c => and_congr_right fun _ =>
    ⟨fun h => ⟨h.2, h.1.symm⟩, fun h => ⟨h.2.symm, h.1⟩⟩

theorem mem_filesBelow_iff (hit : RelPath → Bool) (t : Node) (hd : t.NamesDistinct) (d p : RelPath) :
    p ∈ filesBelow hit t d ↔
      ∃ n, t.at? d = some n ∧ ∃ q, q ≠ [] ∧ p = d ++ q ∧ (∃ c, t.at? p = some c ∧ c.isDir = false) ∧
        ∀ k, d.length < k → k ≤ p.length → hit (p.take k) = false := by
  rw [mem_filesBelow]
  exact exists_congr fun n => and_congr_right fun hn => mem_visFrom_at hit hd hn p false

theorem filesBelow_nodup (hit : RelPath → Bool) (t : Node) (hd : t.NamesDistinct) (d : RelPath) :
    (filesBelow hit t d).Nodup := by
  cases h : t.at? d with
  | none => simp [filesBelow, h]
  | some n =>
    rw [filesBelow_of_at hit h]
    refine (nodup_visFrom hit n d (Node.NamesDistinct.at? t d n hd h)).filterMap ?_
    rintro ⟨a1, a2⟩ ⟨b1, b2⟩ b hb hb'
    cases a2 <;> cases b2 <;> simp_all

/-! ## the targets: what the named paths contribute, each path once -/

/-- what one named path contributes (the step `sfTargetStep` without the accumulator) -/
def sfContrib (hit : RelPath → Bool) (t : Node) (x : RelPath) : List RelPath :=
  match t.at? x with
  | some (.dir _ _ _) => filesBelow hit t x
  | _ => [x]

theorem sfTargetStep_eq (hit : RelPath → Bool) (t : Node) (acc : List RelPath) (x : RelPath) :
    sfTargetStep hit t acc x = (sfContrib hit t x).foldl appendNew acc := by
  unfold sfTargetStep sfContrib
  split <;> rfl

theorem sfTargets_eq (hit : RelPath → Bool) (t : Node) (named : List RelPath) :
    sfTargets hit t named = (named.flatMap (sfContrib hit t)).foldl appendNew [] := by
  have : ∀ acc : List RelPath,
      named.foldl (sfTargetStep hit t) acc = (named.flatMap (sfContrib hit t)).foldl appendNew acc := by
    induction named with
    | nil => intro acc; rfl
    | cons x xs ih => intro acc; rw [List.foldl_cons, sfTargetStep_eq, ih, List.flatMap_cons, List.foldl_append]
  exact this []

theorem mem_sfContrib (hit : RelPath → Bool) (t : Node) (x p : RelPath) :
    p ∈ sfContrib hit t x ↔ (p = x ∧ ∀ n, t.at? x = some n → n.isDir = false) ∨
      ∃ n, t.at? x = some n ∧ n.isDir = true ∧ (p, false) ∈ visFrom hit x n := by
  unfold sfContrib
  split
  · next n cs h heq =>
    rw [mem_filesBelow, heq]
    exact ⟨fun ⟨n', hn', h1⟩ => Or.inr ⟨n', hn', by cases hn'; rfl, h1⟩,
      fun h1 => h1.elim (fun h2 => absurd (h2.2 _ rfl) (by simp [Node.isDir])) fun ⟨n', hn', _, h2⟩ => ⟨n', hn', h2⟩⟩
  · next hnd =>
    have hfile : ∀ n, t.at? x = some n → n.isDir = false := by
      intro n hn
      cases n with
      | file nm c => rfl
      | dir nm cs h => exact absurd hn (hnd nm cs h)
    rw [List.mem_singleton]
    exact ⟨fun h1 => Or.inl ⟨h1, hfile⟩, fun h1 => h1.elim (fun h2 => h2.1) fun ⟨n, hn, hnd', _⟩ => by
      rw [hfile n hn] at hnd'; cases hnd'⟩

theorem mem_sfTargets (hit : RelPath → Bool) (t : Node) (named : List RelPath) (p : RelPath) :
    p ∈ sfTargets hit t named ↔
      (p ∈ named ∧ ∀ n, t.at? p = some n → n.isDir = false) ∨
        ∃ d ∈ named, ∃ n, t.at? d = some n ∧ n.isDir = true ∧ (p, false) ∈ visFrom hit d n := by
  rw [sfTargets_eq, mem_foldl_appendNew', List.mem_flatMap]
  simp only [List.not_mem_nil, false_or, mem_sfContrib]
  constructor
  · rintro ⟨x, hx, ⟨rfl, h⟩ | h⟩
    · exact Or.inl ⟨hx, h⟩
    · exact Or.inr ⟨x, hx, h⟩
  · rintro (⟨hp, h⟩ | ⟨d, hd, h⟩)
    · exact ⟨p, hp, Or.inl ⟨rfl, h⟩⟩
    · exact ⟨d, hd, Or.inr h⟩

theorem sfTargets_nodup (hit : RelPath → Bool) (t : Node) (named : List RelPath) :
    (sfTargets hit t named).Nodup := by
  rw [sfTargets_eq]
  exact (foldl_appendNew_nodup _ _).2 List.nodup_nil

/-! ## well-formed named paths: the targets as unambiguous items -/

/-- the named paths are well-formed: a named path that does NOT resolve in the tree is made of names that can be path
components (no '/', not "."; for paths that resolve this follows from `Node.NamesOk`), and the root itself is only
named when it is a folder (the command is run on a folder; the model also admits a tree that is a single file) -/
def SfOk (t : Node) (named : List RelPath) : Prop :=
  (∀ p ∈ named, t.at? p = none → ∀ n ∈ p, NameOk n) ∧ ([] ∈ named → t.isDir = true)

theorem sfTargets_shape (hit : RelPath → Bool) (t : Node) (hd : t.NamesDistinct) (named : List RelPath)
    (p : RelPath) (hp : p ∈ sfTargets hit t named) :
    (∀ n, t.at? p = some n → n.isDir = false) ∧ (p ∈ named ∨ (p ≠ [] ∧ ∃ c, t.at? p = some c)) := by
  rcases (mem_sfTargets hit t named p).1 hp with ⟨h1, h2⟩ | ⟨d, -, n, hn, -, h⟩
  · exact ⟨h2, Or.inl h1⟩
  · obtain ⟨q, hq, rfl, ⟨c, hc, hcd⟩, -⟩ := (mem_visFrom_at hit hd hn p false).1 h
    refine ⟨?_, Or.inr ⟨by simp [hq], c, hc⟩⟩
    intro n' hn'
    rw [hc] at hn'
    cases hn'
    exact hcd

/-- The first clause of `SfOk` gives `names` for the targets that are not on disk (`NamesOk` gives it for the others),
the second gives `files` for the target `[]`; no other target sits where a history is rooted, since the tree has a
folder there. -/
theorem sfTargets_itemsOk {t : Node} {g : Hist} (hg : HistOK t g) (hit : RelPath → Bool) (hd : t.NamesDistinct)
    (hn : t.NamesOk) (named : List RelPath) (hwf : SfOk t named) :
    ItemsOk g ((sfTargets hit t named).map fun p => (p, false)) := by
  refine ⟨?_, ?_, ?_⟩
  · rw [List.map_map]
    have : ((fun x : RelPath × Bool => x.1) ∘ fun p : RelPath => (p, false)) = id := rfl
    rw [this, List.map_id]
    exact sfTargets_nodup hit t named
  · intro x hx
    obtain ⟨p, hp, rfl⟩ := List.mem_map.1 hx
    obtain ⟨-, hsh⟩ := sfTargets_shape hit t hd named p hp
    cases hat : t.at? p with
    | some c => exact fun n hnm => hn n (Node.at?_names t p c hat n hnm)
    | none =>
      rcases hsh with h | ⟨-, c, hc⟩
      · exact hwf.1 p h hat
      · rw [hat] at hc; cases hc
  · intro p hp hrel
    obtain ⟨q, hq, hqp⟩ := List.mem_map.1 hp
    have hqe : q = p := congrArg Prod.fst hqp
    subst hqe
    obtain ⟨hfile, hsh⟩ := sfTargets_shape hit t hd named q hq
    obtain ⟨-, h0 | ⟨c, hc, hcr⟩⟩ := relOf_nil hg.root hrel
    · subst h0
      have := hfile t (Node.at?_nil t)
      rcases hsh with h | ⟨h, -⟩
      · rw [hwf.2 h] at this; cases this
      · exact h rfl
    · obtain ⟨-, n, hn1, hn2⟩ := hg.isDir c hc
      rw [hcr] at hn1
      rw [hfile n hn1] at hn2
      cases hn2

/-! ## the session after the sealing fold -/

theorem sfFold_cons (env : Env) (t : Node) (g : Hist) (fmts : List String) (s : Session) (p : RelPath)
    (ps : List RelPath) :
    sfFold env t g fmts s (p :: ps) =
      sfFold env t g fmts (sealFile env.H g s p (fileContent t p) fmts).1 ps := rfl

theorem sfFold_addAll (env : Env) (t : Node) (g : Hist) (fmts : List String) (ps : List RelPath) :
    ∀ s : Session, sfFold env t g fmts s ps = s.addAll (ps.flatMap (fileWrites env t g fmts)) := by
  induction ps with
  | nil => intro s; rfl
  | cons p ps ih => intro s; rw [sfFold_cons, ih, sealFile_addAll, List.flatMap_cons, Session.addAll_append]

/-- the session `create -sf` commits, for a loaded history and well-formed named paths: that of folder-mode `create`
(`SInv`), the visited items being the targets (all of them files) -/
theorem sfFold_sinv {env : Env} {t : Node} {g : Hist} {fmts : List String} (pats : List String) (hg : HistOK t g)
    (hit : RelPath → Bool) (hd : t.NamesDistinct) (hn : t.NamesOk) (named : List RelPath)
    (hwf : SfOk t named) :
    ItemsOk g ((sfTargets hit t named).map fun p => (p, false)) ∧
    SInv env t g fmts (fun _ => []) pats (sfFold env t g fmts { patterns := pats } (sfTargets hit t named))
      ((sfTargets hit t named).map fun p => (p, false)) := by
  have hok := sfTargets_itemsOk hg hit hd hn named hwf
  refine ⟨hok, ?_⟩
  rw [sfFold_addAll, show (sfTargets hit t named).flatMap (fileWrites env t g fmts) =
    ((sfTargets hit t named).map fun p => (p, false)).flatMap (itemWrites env t g fmts hit false) by
      rw [List.flatMap_map]; rfl]
  have hs := sinv_addAll (env := env) (fmts := fmts) hg hit false hok pats
  exact ⟨hs.core, hs.roots, hs.files, fun d hd => by simp at hd⟩

theorem SCore.item_of_files {g : Hist} {pats : List String} {s : Session} {ps : List RelPath}
    (hg : g.root = []) (hok : ItemsOk g (ps.map fun p => (p, false))) (hc : SCore g pats s (ps.map fun p => (p, false)))
    {R : RelPath} {r : Record} (hr : r ∈ (s.get R).records) :
    ∃ p ∈ ps, R = ownerOf g p ∧ r.path = posix (relOf g p) ∧ R ++ splitPath r.path = p ∧ r.isDir = false := by
  obtain ⟨x, hx, -, hden, hdir, hj, -, hpath, -⟩ := hc.item_of hg hok hr
  obtain ⟨p, hp, rfl⟩ := List.mem_map.1 hx
  have hown : R = ownerOf g p := hj.resolve_right fun h => Bool.noConfusion h.1
  exact ⟨p, hp, hown, hpath hown, hden, hdir⟩

theorem SCore.rootRec_files {g : Hist} {pats : List String} {s : Session} {ps : List RelPath}
    (hc : SCore g pats s (ps.map fun p => (p, false))) (R : RelPath) : (s.get R).rootRec = none := by
  cases hrr : (s.get R).rootRec with
  | none => rfl
  | some rr =>
    obtain ⟨p, -, hp⟩ := List.mem_map.1 (hc.rootRecs _ rr hrr)
    cases hp

/-! ## no directory records, whatever is named -/

theorem sfFold_filesOnly (env : Env) (t : Node) (g : Hist) (fmts : List String) (ps : List RelPath) :
    ∀ s : Session, (s.AllRecs fun _ r => r.isDir = false) →
      (sfFold env t g fmts s ps).AllRecs fun _ r => r.isDir = false := by
  induction ps with
  | nil => intro s h; exact h
  | cons p ps ih =>
    intro s h
    rw [sfFold_cons]
    exact ih _ (sealFile_allRecs _ _ h _ _ _ fun _ _ hr => hr.elim id fun ⟨_, _, h⟩ => h ▸ rfl)

end MhlModel
