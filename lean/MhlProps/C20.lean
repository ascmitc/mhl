/-
C20 — The background update check can never change or stall a command.

About `MhlModel.Updater` (ascmhl/cli/update.py + the click result callback): main thread ∥ daemon checker thread ∥
update server with an abstract clock.  Everything below holds for EVERY command `cmd`, EVERY server behaviour `srv`
(quick / late / newer / older / pre-release / dev / malformed / connection refused / other exception / never answers)
and EVERY reachable state, i.e. every finite interleaving.  The inductive invariant is
`MhlProps.UpdaterLemmas.Inv` (MhlProps/Proofs/UpdaterLemmas.lean).

The bound of section 3 (`bounded_delay`) needs no assumption on the scheduler: the only clock advances after the
command finished are the two join steps, both bounded by `joinTimeoutMs` (`Step.tick` is enabled only in `start` /
`running`).
-/
import MhlProps.Proofs.UpdaterLemmas

namespace MhlProps.C20
open MhlModel.Updater MhlProps.UpdaterLemmas

variable {cmd : Cmd} {srv : ServerBehaviour} {s : State}

/-! ### 1. exit code -/

/-- the exit code of the process is the command's own exit code; before the exit there is none -/
theorem exit_preserved (h : Reach cmd srv s) :
    (s.mainPc = .exited → s.exitCode = some cmd.exitCode) ∧ (s.mainPc ≠ .exited → s.exitCode = none) :=
  ⟨fun he => ((inv_reach h).exited he).1, fun hne => ((inv_reach h).beforeExit hne).1⟩

/-! ### 2. standard output -/

/-- how a run can have ended: the command raised, or it returned and the flag read by the main thread decided about
the notice -/
theorem exited_cases (h : Reach cmd srv s) (he : s.mainPc = .exited) :
    (cmd.normalReturn = false ∧ s.stdout = cmd.stdout ∧ s.exitTime = s.joinStart) ∨
    (cmd.normalReturn = true ∧ ((s.seenNeedsUpdate = false ∧ s.stdout = cmd.stdout) ∨
      (s.seenNeedsUpdate = true ∧ s.stdout = cmd.stdout ++ [notice]))) := by
  rcases ((inv_reach h).exited he).2.2.2 with ⟨hn, ho, _, ht⟩ | ⟨hn, ho⟩
  · exact .inl ⟨hn, ho, ht⟩
  · cases hs : s.seenNeedsUpdate <;> simp [hs] at ho
    · exact .inr ⟨hn, .inl ⟨rfl, ho⟩⟩
    · exact .inr ⟨hn, .inr ⟨rfl, ho⟩⟩

/-- at exit stdout is the command's output, possibly followed by the one update notice; a command that raised never
gets the notice (the result callback is not run) -/
theorem stdout_preserved (h : Reach cmd srv s) (he : s.mainPc = .exited) :
    (s.stdout = cmd.stdout ∨ s.stdout = cmd.stdout ++ [notice]) ∧
    (cmd.normalReturn = false → s.stdout = cmd.stdout) := by
  rcases exited_cases h he with ⟨_, ho, _⟩ | ⟨hn, ⟨_, ho⟩ | ⟨_, ho⟩⟩
  · exact ⟨.inl ho, fun _ => ho⟩
  · exact ⟨.inl ho, fun _ => ho⟩
  · exact ⟨.inr ho, fun hf => by simp [hn] at hf⟩

theorem stdout_cases (h : Reach cmd srv s) :
    s.stdout = [] ∨ s.stdout = cmd.stdout ∨ s.stdout = cmd.stdout ++ [notice] := by
  by_cases he : s.mainPc = .exited
  · exact .inr (stdout_preserved h he).1
  · exact ((inv_reach h).beforeExit he).2.1.elim .inl fun ho => .inr (.inl ho)

/-! ### 3. bounded delay -/

/-- `updater.join(timeout=1)` ALWAYS returns within the bound, whatever the server does (also `srv = .never`, also a
dead checker): every step that leaves `joining` ends at a clock reading ≤ joinStart + joinTimeoutMs. -/
theorem join_returns_in_time {s' : State} (h : Reach cmd srv s) (hj : s.mainPc = .joining)
    (st : Step cmd srv s s') (hm : s'.mainPc ≠ .joining) :
    s'.mainPc = .reading ∧ s'.joinStart = s.joinStart ∧ s'.now ≤ s.joinStart + joinTimeoutMs := by
  have hc : s.now = s.joinStart := ((inv_reach h).joining hj).2.2.2.2
  -- only the two join steps survive: the other main steps and `tick` are not enabled at `joining`, the checker's steps
  -- leave `mainPc = joining`.  `mainJoinThreadDone` has the bound as a premise; `mainJoinTimeout` ends at
  -- `max now (joinStart + joinTimeoutMs)`, which is the bound since `now = joinStart` (`hc`)
  cases st <;> simp_all <;> omega

/-- a command that raised exits at the very instant it finished: the update check costs it nothing -/
theorem bounded_delay_raises (h : Reach cmd srv s) (he : s.mainPc = .exited) (hn : cmd.normalReturn = false) :
    s.exitTime = s.joinStart := by
  rcases exited_cases h he with ⟨_, _, ht⟩ | ⟨ht, _⟩
  · exact ht
  · simp [hn] at ht

/-- the process exits at most `joinTimeoutMs` after the command finished, whatever the server does — in
particular when it never answers (`srv = .never`) and when the checker died -/
theorem bounded_delay (h : Reach cmd srv s) (he : s.mainPc = .exited) :
    s.exitTime ≤ s.joinStart + joinTimeoutMs :=
  ((inv_reach h).exited he).2.2.1

/-- the same bound holds for the clock at every moment after the join returned -/
theorem bounded_delay_after_join (h : Reach cmd srv s)
    (hp : s.mainPc = .reading ∨ s.mainPc = .printing ∨ s.mainPc = .exited) :
    s.now ≤ s.joinStart + joinTimeoutMs := by
  have inv := inv_reach h
  rcases hp with hp | hp | hp
  · exact (inv.reading hp).2.2.2.2
  · exact (inv.printing hp).2.2.2
  · have := inv.exited hp
    omega

/-! ### 4. the notice -/

/-- whenever the flag read by the main thread is set, the checker had ALREADY stored a strictly newer, non-pre-release,
non-dev version (so the store happened before the read), and that version is what the server replied -/
theorem seen_implies_stored (h : Reach cmd srv s) (hs : s.seenNeedsUpdate = true) :
    s.latest = some ⟨true, false, false⟩ ∧ s.chkPc = .done ∧ srv = .reply true false false ∧
    (s.mainPc = .printing ∨ s.mainPc = .exited) := by
  have inv := inv_reach h
  have hn := inv.seen hs
  cases hl : s.latest with
  | none => simp [hl] at hn
  | some l =>
    obtain ⟨n, p, d⟩ := l
    rw [hl, needsUpdate_some] at hn
    obtain ⟨rfl, rfl, rfl⟩ : n = true ∧ p = false ∧ d = false := hn
    refine ⟨rfl, Decidable.by_contra fun hc => ?_, inv.latest _ hl, ?_⟩
    · rw [inv.latestDone hc] at hl; cases hl
    · by_cases he : s.mainPc = .exited
      · exact .inr he
      · exact .inl (Decidable.by_contra fun hp => by simp [(inv.beforeExit he).2.2 hp] at hs)

/-- the notice is printed only after a normally returning command and only if the server replied with a strictly
newer, non-pre-release, non-dev version — which had been stored by the checker before the main thread read it -/
theorem notice_only_if_newer (h : Reach cmd srv s) (he : s.mainPc = .exited)
    (hn : s.stdout = cmd.stdout ++ [notice]) :
    cmd.normalReturn = true ∧ (∃ p d, srv = .reply true p d ∧ p = false ∧ d = false) ∧
    s.seenNeedsUpdate = true ∧ s.latest = some ⟨true, false, false⟩ ∧ s.chkPc = .done := by
  have hne : cmd.stdout ≠ cmd.stdout ++ [notice] := fun e => by simpa using congrArg List.length e
  rcases exited_cases h he with ⟨_, ho, _⟩ | ⟨ht, ⟨_, ho⟩ | ⟨hs, _⟩⟩
  · exact absurd (ho.symm.trans hn) hne
  · exact absurd (ho.symm.trans hn) hne
  · obtain ⟨h3, h4, h5, _⟩ := seen_implies_stored h hs
    exact ⟨ht, ⟨false, false, h5, rfl, rfl⟩, hs, h3, h4⟩

theorem latest_only_from_reply (h : Reach cmd srv s) (n p d : Bool) (hl : s.latest = some ⟨n, p, d⟩) :
    srv = .reply n p d :=
  (inv_reach h).latest _ hl

/-- so for every server behaviour other than `reply true false false` no run prints the notice -/
theorem no_notice_unless_newer (h : Reach cmd srv s) (he : s.mainPc = .exited) (hsrv : srv ≠ .reply true false false) :
    s.stdout = cmd.stdout := by
  rcases (stdout_preserved h he).1 with h1 | h1
  · exact h1
  · obtain ⟨_, ⟨p, d, h2, rfl, rfl⟩, _⟩ := notice_only_if_newer h he h1
    exact absurd h2 hsrv

/-! ### 5. the main thread is never blocked -/

/-- in every state (reachable or not) in which the process has not exited the MAIN thread has an enabled step, and it
changes its program counter: not blocked by a silent server, not blocked by a dead checker -/
theorem main_can_move (cmd : Cmd) (srv : ServerBehaviour) (s : State) (hne : s.mainPc ≠ .exited) :
    ∃ s', Step cmd srv s s' ∧ s'.mainPc ≠ s.mainPc := by
  cases hpc : s.mainPc with
  | start => exact ⟨_, .mainStart s hpc, by simp⟩
  | running =>
    cases hn : cmd.normalReturn with
    | true => exact ⟨_, .mainCommandNormal s 0 hpc hn, by simp⟩
    | false => exact ⟨_, .mainCommandRaises s 0 hpc hn, by simp⟩
  | joining => exact ⟨_, .mainJoinTimeout s hpc, by simp⟩
  | reading => exact ⟨_, .mainRead s hpc, by simp⟩
  | printing => exact ⟨_, .mainFinish s hpc, by simp⟩
  | exited => exact absurd hpc hne

/-- the statement of `main_can_move` at a reachable state, under the name the property is claimed by -/
theorem no_deadlock (_h : Reach cmd srv s) (hne : s.mainPc ≠ .exited) :
    ∃ s', Step cmd srv s s' ∧ s'.mainPc ≠ s.mainPc :=
  main_can_move cmd srv s hne

/-- measure of the main thread's remaining work -/
def mainRank : MainPc → Nat
  | .start => 5 | .running => 4 | .joining => 3 | .reading => 2 | .printing => 1 | .exited => 0

/-- every step either leaves the main thread where it is or moves it strictly forward: it never loops -/
theorem main_progress {s' : State} (st : Step cmd srv s s') :
    s'.mainPc = s.mainPc ∨ mainRank s'.mainPc < mainRank s.mainPc := by
  cases st <;> simp [*, mainRank]

/-! ### 6. exits are reachable (non-vacuity), and the race is real -/

/-- for every command and every server there is a run that exits: the main thread alone
(start · command · join-timeout · read · finish, or start · command raises) -/
theorem exit_reachable (cmd : Cmd) (srv : ServerBehaviour) :
    ∃ s, Reach cmd srv s ∧ s.mainPc = .exited ∧ s.stdout = cmd.stdout ∧ s.exitCode = some cmd.exitCode := by
  have r0 : Reach cmd srv {} := .init
  have r1 := Reach.step _ _ r0 (.mainStart _ rfl)
  cases hn : cmd.normalReturn with
  | false =>
    have r2 := Reach.step _ _ r1 (.mainCommandRaises _ 0 rfl hn)
    exact ⟨_, r2, rfl, by simp, rfl⟩
  | true =>
    have r2 := Reach.step _ _ r1 (.mainCommandNormal _ 0 rfl hn)
    have r3 := Reach.step _ _ r2 (.mainJoinTimeout _ rfl)
    have r4 := Reach.step _ _ r3 (.mainRead _ rfl)
    have r5 := Reach.step _ _ r4 (.mainFinish _ rfl)
    exact ⟨_, r5, rfl, by simp [needsUpdate], rfl⟩

/-- newer release on the server, checker faster than the command: the run
start · reply · store · command · join(thread done) · read · finish exits WITH the notice -/
theorem exit_reachable_with_notice (cmd : Cmd) (hn : cmd.normalReturn = true) :
    ∃ s, Reach cmd (.reply true false false) s ∧ s.mainPc = .exited ∧ s.stdout = cmd.stdout ++ [notice] ∧
      s.exitCode = some cmd.exitCode := by
  have r0 : Reach cmd (.reply true false false) {} := .init
  have r1 := Reach.step _ _ r0 (.mainStart _ rfl)
  have r2 := Reach.step _ _ r1 (.chkReply _ true false false rfl rfl)
  have r3 := Reach.step _ _ r2 (.chkStore _ true false false rfl rfl)
  have r4 := Reach.step _ _ r3 (.mainCommandNormal _ 0 rfl hn)
  have r5 := Reach.step _ _ r4 (.mainJoinThreadDone _ 0 rfl (.inl rfl) (by simp))
  have r6 := Reach.step _ _ r5 (.mainRead _ rfl)
  have r7 := Reach.step _ _ r6 (.mainFinish _ rfl)
  exact ⟨_, r7, rfl, by simp [needsUpdate], rfl⟩

/-- same server, same command, but the checker's store comes after the main thread's read: the run
start · reply · command · join-timeout · read · STORE · finish exits WITHOUT the notice although `latest` holds the
newer version at exit — the race between the store and the read is real (and harmless) -/
theorem exit_reachable_without_notice (cmd : Cmd) (hn : cmd.normalReturn = true) :
    ∃ s, Reach cmd (.reply true false false) s ∧ s.mainPc = .exited ∧ s.stdout = cmd.stdout ∧
      s.latest = some ⟨true, false, false⟩ ∧ s.exitCode = some cmd.exitCode := by
  have r0 : Reach cmd (.reply true false false) {} := .init
  have r1 := Reach.step _ _ r0 (.mainStart _ rfl)
  have r2 := Reach.step _ _ r1 (.chkReply _ true false false rfl rfl)
  have r3 := Reach.step _ _ r2 (.mainCommandNormal _ 0 rfl hn)
  have r4 := Reach.step _ _ r3 (.mainJoinTimeout _ rfl)
  have r5 := Reach.step _ _ r4 (.mainRead _ rfl)
  have r6 := Reach.step _ _ r5 (.chkStore _ true false false rfl rfl)
  have r7 := Reach.step _ _ r6 (.mainFinish _ rfl)
  exact ⟨_, r7, rfl, by simp [needsUpdate], rfl, rfl⟩

/-! ### 7. stdout / stderr separation -/

/-- every line on stdout is one of the command's own lines or the notice; stderr only ever holds checker tracebacks,
and only when the checker died of a malformed answer or a non-Request exception -/
theorem stderr_only_from_checker (h : Reach cmd srv s) :
    (∀ x ∈ s.stdout, x ∈ cmd.stdout ∨ x = notice) ∧
    (∀ x ∈ s.stderr, x = traceback) ∧
    (s.stderr ≠ [] → s.chkPc = .dead ∧ (srv = .garbage ∨ srv = .otherException)) := by
  have inv := inv_reach h
  refine ⟨fun x hx => ?_, inv.stderrOnly, fun hne => ⟨inv.stderrDead hne, inv.dead (inv.stderrDead hne)⟩⟩
  rcases stdout_cases h with h1 | h1 | h1 <;> rw [h1] at hx
  · simp at hx
  · exact .inl hx
  · simpa using hx

/-- the checker's traceback never shows up on stdout (unless the command itself printed that very line) -/
theorem traceback_not_on_stdout (h : Reach cmd srv s) (hc : traceback ∉ cmd.stdout) :
    traceback ∉ s.stdout := by
  intro hx
  rcases (stderr_only_from_checker h).1 _ hx with h1 | h1
  · exact hc h1
  · exact absurd h1 (by decide +kernel)

/-- two runs of the same command against different servers: the exit codes agree, and the outputs agree up to the one
notice (when neither server offers a newer release they agree, `no_notice_unless_newer`) -/
theorem exit_independent_of_server {srv₁ srv₂ : ServerBehaviour} {s₁ s₂ : State}
    (h₁ : Reach cmd srv₁ s₁) (h₂ : Reach cmd srv₂ s₂) (e₁ : s₁.mainPc = .exited) (e₂ : s₂.mainPc = .exited) :
    s₁.exitCode = s₂.exitCode ∧ (s₁.stdout = s₂.stdout ∨ s₁.stdout = s₂.stdout ++ [notice] ∨
      s₂.stdout = s₁.stdout ++ [notice]) := by
  refine ⟨by rw [(exit_preserved h₁).1 e₁, (exit_preserved h₂).1 e₂], ?_⟩
  rcases (stdout_preserved h₁ e₁).1 with a | a <;> rcases (stdout_preserved h₂ e₂).1 with b | b <;> simp [a, b]

/-! ### non-vacuity on concrete values -/

/-- a verify command that fails (exit 12), server never answers: the hypotheses of sections 1–4 and 7 hold on a
concrete run -/
example : ∃ s, Reach ⟨12, false, ["ERROR: hash mismatch"]⟩ .never s ∧ s.mainPc = .exited ∧
    s.exitCode = some 12 ∧ s.stdout = ["ERROR: hash mismatch"] ∧ s.exitTime = s.joinStart := by
  obtain ⟨s, hr, he, ho, hc⟩ := exit_reachable ⟨12, false, ["ERROR: hash mismatch"]⟩ .never
  exact ⟨s, hr, he, hc, ho, bounded_delay_raises hr he rfl⟩

/-- a successful command against a server offering a newer release: the hypotheses of `notice_only_if_newer` are
satisfiable -/
example : ∃ s, Reach ⟨0, true, ["created a.mhl"]⟩ (.reply true false false) s ∧ s.mainPc = .exited ∧
    s.stdout = (⟨0, true, ["created a.mhl"]⟩ : Cmd).stdout ++ [notice] := by
  obtain ⟨s, hr, he, ho, _⟩ := exit_reachable_with_notice ⟨0, true, ["created a.mhl"]⟩ rfl
  exact ⟨s, hr, he, ho⟩

/-- the checker dies of a malformed answer: traceback on stderr, stdout and exit code untouched -/
example : ∃ s, Reach ⟨0, true, ["ok"]⟩ .garbage s ∧ s.mainPc = .exited ∧ s.stderr = [traceback] ∧
    s.stdout = ["ok"] ∧ s.exitCode = some 0 ∧ s.chkPc = .dead := by
  have r0 : Reach ⟨0, true, ["ok"]⟩ .garbage {} := .init
  have r1 := Reach.step _ _ r0 (.mainStart _ rfl)
  have r2 := Reach.step _ _ r1 (.chkGarbage _ rfl rfl)
  have r3 := Reach.step _ _ r2 (.mainCommandNormal _ 7 rfl rfl)
  have r4 := Reach.step _ _ r3 (.mainJoinThreadDone _ 3 rfl (.inr rfl) (by decide))
  have r5 := Reach.step _ _ r4 (.mainRead _ rfl)
  have r6 := Reach.step _ _ r5 (.mainFinish _ rfl)
  exact ⟨_, r6, rfl, rfl, rfl, rfl, rfl⟩

/-- a run against a server that never answers exits exactly at the join bound: `bounded_delay` is tight -/
example : ∃ s, Reach ⟨0, true, ["ok"]⟩ .never s ∧ s.mainPc = .exited ∧ s.joinStart = 40 ∧
    s.exitTime = s.joinStart + joinTimeoutMs := by
  have r0 : Reach ⟨0, true, ["ok"]⟩ .never {} := .init
  have r1 := Reach.step _ _ r0 (.mainStart _ rfl)
  have r2 := Reach.step _ _ r1 (.tick _ 15 (.inr rfl))
  have r3 := Reach.step _ _ r2 (.mainCommandNormal _ 25 rfl rfl)
  have r4 := Reach.step _ _ r3 (.mainJoinTimeout _ rfl)
  have r5 := Reach.step _ _ r4 (.mainRead _ rfl)
  have r6 := Reach.step _ _ r5 (.mainFinish _ rfl)
  exact ⟨_, r6, rfl, by decide, by decide⟩

end MhlProps.C20
