/-
`verify -dh`, the helpers of the command: `dhCompare` in closed form (the mismatching entries append their formats to
the failed formats and the label to the reported folders) and what a comparison marks in either list (`marksOf`); the
invariant `DhInv` of the failed formats, the state after the traversal and the final state by name (`dhFold`,
`dhFinal`, `verifyDh_ok`); the formats; the fold of `dhVisit` against the compositional definition of the directory
hashes (an instance of `foldl_visits_spec`); and, for C09e2e and C09nested, reading back what a run recorded (a tree
without `ascmhl` folder loads as the empty history; the entries of a list of specified hashes).
-/
import MhlProps.Proofs.CreateLemmas
import MhlProps.Proofs.DirHashImplLemmas

/-! ## the comparison of one folder (`dhCompare`) -/

namespace MhlModel

/-- one step of `dhCompare` (the anonymous function of the fold, named) -/
def dhCompareStep (fmts : List String) (count : Bool) (label : String) (computed : List (String × String × String))
    (st : DhState) (e : Entry) : DhState :=
  if !fmts.contains e.fmt then st
  else match computed.find? (fun x => x.1 == e.fmt) with
    | some (_, c', s') =>
      if compareDir e c' s' == 1 then
        { st with failedFormats := if count then appendNew st.failedFormats e.fmt else st.failedFormats,
                  dirMismatch := if count || label == "." then appendNew st.dirMismatch label else st.dirMismatch }
      else st
    | none => st

theorem dhCompare_eq (fmts : List String) (count : Bool) (label : String)
    (computed : List (String × String × String)) (st : DhState) (recorded : List Entry) :
    dhCompare fmts count label computed st recorded = recorded.foldl (dhCompareStep fmts count label computed) st := rfl

/-- a recorded entry that is in a computed format, has a computed counterpart (first match) and differs from it -/
def mismatches (fmts : List String) (computed : List (String × String × String)) (e : Entry) : Bool :=
  fmts.contains e.fmt &&
    match computed.find? (fun x => x.1 == e.fmt) with
    | some (_, c', s') => compareDir e c' s' == 1
    | none => false

theorem mismatches_iff (fmts : List String) (computed : List (String × String × String)) (e : Entry) :
    mismatches fmts computed e = true ↔
      e.fmt ∈ fmts ∧ ∃ c' s', computed.find? (fun x => x.1 == e.fmt) = some (e.fmt, c', s') ∧
        compareDir e c' s' = 1 := by
  unfold mismatches
  cases h : computed.find? (fun x => x.1 == e.fmt) with
  | none => simp
  | some x =>
    obtain ⟨k, c', s'⟩ := x
    have hk : k = e.fmt := by simpa using List.find?_some h
    subst hk
    simp only [Bool.and_eq_true, List.contains_eq_mem, decide_eq_true_eq, beq_iff_eq, Option.some.injEq,
      Prod.mk.injEq, true_and]
    constructor
    · rintro ⟨h1, h2⟩; exact ⟨h1, c', s', ⟨rfl, rfl⟩, h2⟩
    · rintro ⟨h1, c'', s'', ⟨rfl, rfl⟩, h2⟩; exact ⟨h1, h2⟩

theorem dhCompareStep_eq (fmts : List String) (count : Bool) (label : String)
    (computed : List (String × String × String)) (st : DhState) (e : Entry) :
    dhCompareStep fmts count label computed st e =
      if mismatches fmts computed e then
        { st with failedFormats := if count then appendNew st.failedFormats e.fmt else st.failedFormats,
                  dirMismatch := if count || label == "." then appendNew st.dirMismatch label else st.dirMismatch }
      else st := by
  unfold dhCompareStep mismatches
  cases fmts.contains e.fmt with
  | false => rfl
  | true =>
    cases computed.find? (fun x => x.1 == e.fmt) with
    | none => rfl
    | some y => obtain ⟨k, c', s'⟩ := y; rfl

theorem dhCompare_closed (fmts : List String) (count : Bool) (label : String)
    (computed : List (String × String × String)) (st : DhState) (recorded : List Entry) :
    dhCompare fmts count label computed st recorded =
      { st with
        failedFormats := if count then (recorded.filter (mismatches fmts computed)).foldl
          (fun a e => appendNew a e.fmt) st.failedFormats else st.failedFormats,
        dirMismatch := if count || label == "." then (recorded.filter (mismatches fmts computed)).foldl
          (fun a _ => appendNew a label) st.dirMismatch else st.dirMismatch } := by
  rw [dhCompare_eq]
  induction recorded generalizing st with
  | nil => cases count <;> cases label == "." <;> rfl
  | cons e es ih =>
    rw [List.foldl_cons, ih, dhCompareStep_eq, List.filter_cons]
    cases mismatches fmts computed e with
    | false => rfl
    | true => cases count <;> cases label == "." <;> rfl

theorem dhCompare_dirHashes (fmts : List String) (count : Bool) (label : String)
    (computed : List (String × String × String)) (st : DhState) (recorded : List Entry) :
    (dhCompare fmts count label computed st recorded).dirHashes = st.dirHashes ∧
    (dhCompare fmts count label computed st recorded).lines = st.lines := by
  rw [dhCompare_closed]
  exact ⟨rfl, rfl⟩

theorem dhCompare_failed (fmts : List String) (count : Bool) (label : String)
    (computed : List (String × String × String)) (st : DhState) (recorded : List Entry) :
    (dhCompare fmts count label computed st recorded).failedFormats =
      if count then ((recorded.filter (mismatches fmts computed)).foldl (fun a e => appendNew a e.fmt)
        st.failedFormats) else st.failedFormats := by
  rw [dhCompare_closed]

theorem dhCompare_of_no_mismatch (fmts : List String) (count : Bool) (label : String)
    (computed : List (String × String × String)) (st : DhState) (recorded : List Entry)
    (h : ∀ e ∈ recorded, mismatches fmts computed e = false) :
    dhCompare fmts count label computed st recorded = st := by
  rw [dhCompare_closed, List.filter_eq_nil_iff.2 fun e he => by simp [h e he]]
  cases count <;> cases label == "." <;> rfl

theorem foldl_dhCompare (fmts : List String) (count : Bool) (label : String)
    (computed : List (String × String × String)) {α : Type} (f : α → List Entry) (l : List α) (st : DhState) :
    l.foldl (fun (st : DhState) g => dhCompare fmts count label computed st (f g)) st =
      dhCompare fmts count label computed st (l.flatMap f) := by
  simp only [dhCompare_eq, List.foldl_flatMap]

/-! ### what a comparison marks: failed formats and reported folders alike -/

/-- the two lists a comparison may extend, selected by a flag: `true` = `failedFormats`, `false` = `dirMismatch` -/
def marksOf (b : Bool) (st : DhState) : List String := if b then st.failedFormats else st.dirMismatch

theorem marksOf_true (st : DhState) : marksOf true st = st.failedFormats := rfl

/-- what a mismatching entry `e` of the folder labelled `label` adds to that list -/
def tagOf (b : Bool) (label : String) (e : Entry) : String := if b then e.fmt else label

theorem marksOf_dhCompare (b : Bool) (fmts : List String) (count : Bool) (label : String)
    (computed : List (String × String × String)) (st : DhState) (recorded : List Entry) :
    marksOf b (dhCompare fmts count label computed st recorded) =
      if (if b then count else count || label == ".") then
        (recorded.filter (mismatches fmts computed)).foldl (fun a e => appendNew a (tagOf b label e)) (marksOf b st)
      else marksOf b st := by
  rw [dhCompare_closed]
  cases b <;> rfl

theorem mem_marksOf_dhCompare (b : Bool) (fmts : List String) (count : Bool) (label : String)
    (computed : List (String × String × String)) (st : DhState) (recorded : List Entry) (x : String) :
    x ∈ marksOf b (dhCompare fmts count label computed st recorded) ↔
      x ∈ marksOf b st ∨ ((if b then count else count || label == ".") = true ∧
        ∃ e ∈ recorded, mismatches fmts computed e = true ∧ tagOf b label e = x) := by
  rw [marksOf_dhCompare]
  cases (if b then count else count || label == ".")
  · simp only [Bool.false_eq_true, if_false, false_and, or_false]
  · simp only [if_true, true_and, mem_foldl_appendNew (tagOf b label), List.mem_filter, and_assoc]

theorem marksOf_dirHashes (b : Bool) (st : DhState) (dh : List (RelPath × List (String × String × String))) :
    marksOf b { st with dirHashes := dh } = marksOf b st := by
  cases b <;> rfl

/-! ## the command: the invariant of its failed formats, the state after the traversal, the final state -/

/-- the invariant of `failedFormats` through the whole command: computed formats, each once (`dhExit` counts them) -/
def DhInv (fmts : List String) (st : DhState) : Prop :=
  st.failedFormats.Nodup ∧ ∀ f ∈ st.failedFormats, f ∈ fmts

theorem dhCompare_inv (fmts : List String) (count : Bool) (label : String)
    (computed : List (String × String × String)) (st : DhState) (recorded : List Entry) (h : DhInv fmts st) :
    DhInv fmts (dhCompare fmts count label computed st recorded) := by
  unfold DhInv
  rw [dhCompare_failed]
  cases count with
  | false => exact h
  | true =>
    simp only [if_true]
    refine ⟨nodup_foldl_appendNew _ _ _ h.1, ?_⟩
    intro f hf
    rw [mem_foldl_appendNew] at hf
    rcases hf with hf | ⟨e, he, rfl⟩
    · exact h.2 f hf
    · rw [List.mem_filter, mismatches_iff] at he
      exact he.2.1

theorem dhVisit_inv (env : Env) (t : Node) (rootHist : Hist) (fmts : List String) (o : DhOpts) (st : DhState)
    (v : Visit) (h : DhInv fmts st) : DhInv fmts (dhVisit env t rootHist fmts o st v) := by
  rw [dhVisit_eq]
  have hinv : DhInv fmts (dhKids env t rootHist fmts o st v).1 := by
    refine foldl_invariant (fun acc : DhState × List (String × DirCtx) => DhInv fmts acc.1) _ _ ?_ _ h
    rintro ⟨st', ctx'⟩ ⟨nm, b⟩ - hacc
    cases b
    · exact hacc
    · simp only [dhChildStep, if_true]
      split
      · exact hacc
      · exact dhCompare_inv _ _ _ _ _ _ hacc
  dsimp only
  split <;> exact hinv

/-- the state `verify -dh` reaches after the traversal, before the root folder is compared -/
def dhFold (env : Env) (t : Node) (rootHist : Hist) (o : DhOpts) : DhState :=
  (traverse (env.hit (setPatterns (latestIgnore rootHist.gens) o.ignoreCli o.ignoreFile)) [] t).foldl
    (dhVisit env t rootHist (dhFormats rootHist o.format) o) ({} : DhState)

theorem dhFold_inv (env : Env) (t : Node) (rootHist : Hist) (o : DhOpts) :
    DhInv (dhFormats rootHist o.format) (dhFold env t rootHist o) :=
  foldl_invariant (DhInv _) _ _ (fun st v _ h => dhVisit_inv env t rootHist _ o st v h) _
    ⟨List.nodup_nil, fun _ h => nomatch h⟩

/-- the recorded entries the root folder is compared with: the root hashes of every generation, in order -/
def allRootEntries (h : Hist) : List Entry := h.gens.flatMap fun g => g.gen.rootHash.getD []

/-- the computed hashes the root folder is compared by: what the traversal left in `dirHashes` under `[]` -/
def dhRootHashes (env : Env) (t : Node) (rootHist : Hist) (o : DhOpts) : List (String × String × String) :=
  (alookup ([] : RelPath) (dhFold env t rootHist o).dirHashes).getD []

/-- the final state of `verify -dh` -/
def dhFinal (env : Env) (t : Node) (rootHist : Hist) (o : DhOpts) : DhState :=
  dhCompare (dhFormats rootHist o.format) (!o.rootOnly) "." (dhRootHashes env t rootHist o)
    (dhFold env t rootHist o) (allRootEntries rootHist)

theorem verifyDh_ok (env : Env) (t : Node) (o : DhOpts) (h : Hist) (hl : loadHistory t = .ok h) :
    verifyDh env t o =
      { err := dhExit (dhFormats h o.format) (dhFinal env t h o).failedFormats,
        report := { dirMismatch := (dhFinal env t h o).dirMismatch, lines := (dhFinal env t h o).lines } } := by
  unfold verifyDh
  simp only [hl]
  rw [foldl_dhCompare]
  rfl

/-! ## the formats -/

/-- the formats occurring in root hashes, in order of first occurrence -/
def rootFmts (gens : List LGen) : List String :=
  gens.foldl (fun acc g => (g.gen.rootHash.getD []).foldl (fun a e => appendNew a e.fmt) acc) []

theorem rootFmts_eq (gens : List LGen) :
    rootFmts gens = (gens.flatMap fun g => g.gen.rootHash.getD []).foldl (fun a e => appendNew a e.fmt) [] := by
  rw [List.foldl_flatMap]
  rfl

theorem rootFmts_nodup (gens : List LGen) : (rootFmts gens).Nodup := by
  rw [rootFmts_eq]
  exact nodup_foldl_appendNew _ _ _ List.nodup_nil

theorem mem_rootFmts (gens : List LGen) (f : String) :
    f ∈ rootFmts gens ↔ ∃ g ∈ gens, ∃ e ∈ g.gen.rootHash.getD [], e.fmt = f := by
  simp only [rootFmts_eq, mem_foldl_appendNew, List.not_mem_nil, false_or, List.mem_flatMap]
  exact ⟨fun ⟨e, ⟨g, hg, he⟩, hf⟩ => ⟨g, hg, e, he, hf⟩, fun ⟨g, hg, e, he, hf⟩ => ⟨e, ⟨g, hg, he⟩, hf⟩⟩

theorem dhFormats_none (h : Hist) :
    dhFormats h none = isort strLe (if (rootFmts h.gens).isEmpty then ["c4"] else rootFmts h.gens) := rfl

theorem dhFormats_some (h : Hist) (f : String) : dhFormats h (some f) = [f] := rfl

theorem dhFormats_nodup (h : Hist) (fo : Option String) : (dhFormats h fo).Nodup := by
  cases fo with
  | some f => simp [dhFormats_some]
  | none =>
    rw [dhFormats_none]
    refine (isort_perm strLe _).nodup_iff.2 ?_
    split
    · simp
    · exact rootFmts_nodup _

theorem dhFormats_sorted (h : Hist) (fo : Option String) : (dhFormats h fo).Pairwise (· ≤ ·) := by
  unfold dhFormats
  exact isort_strLe_sorted _

theorem dhFormats_ne_nil (h : Hist) (fo : Option String) : dhFormats h fo ≠ [] := by
  cases fo with
  | some f => simp [dhFormats_some]
  | none =>
    rw [dhFormats_none]
    refine isort_ne_nil_of_ne_nil strLe ?_
    split
    · simp
    · next hne => exact fun h0 => hne (by rw [h0]; rfl)

theorem mem_dhFormats_none (h : Hist) (hne : rootFmts h.gens ≠ []) (f : String) :
    f ∈ dhFormats h none ↔ ∃ g ∈ h.gens, ∃ e ∈ g.gen.rootHash.getD [], e.fmt = f := by
  rw [dhFormats_none, mem_isort]
  have : (rootFmts h.gens).isEmpty = false := by
    cases hh : rootFmts h.gens <;> simp_all
  simp only [this, Bool.false_eq_true, if_false]
  exact mem_rootFmts _ f

/-! ## `dhVisit` carries directory hashes -/

theorem dhVisit_dirHashes (env : Env) (t : Node) (rootHist : Hist) (fmts : List String) (o : DhOpts) (st : DhState)
    (v : Visit) :
    (dhVisit env t rootHist fmts o st v).dirHashes =
      (dhKids env t rootHist fmts o st v).1.dirHashes ++
        [(v.folder, ctxHashes env (dhKids env t rootHist fmts o st v).2)] := by
  rw [dhVisit_eq]
  dsimp only
  split <;> rfl

/-- the part of the state of the per-child fold of `dhVisit` that `dhDirStep` works on -/
def dhProj (acc : DhState × List (String × DirCtx)) : DirHashes × List (String × DirCtx) :=
  (acc.1.dirHashes, acc.2)

theorem dhChildStep_proj (env : Env) (t : Node) (rootHist : Hist) (fmts : List String) (o : DhOpts)
    (folder : RelPath) (acc : DhState × List (String × DirCtx)) (ch : String × Bool) :
    dhProj (dhChildStep env t rootHist fmts o folder acc ch) = dhDirStep env t folder (dhProj acc) ch := by
  obtain ⟨st, ctx⟩ := acc
  obtain ⟨nm, b⟩ := ch
  cases b
  · simp only [dhChildStep, dhDirStep, dhProj, Bool.false_eq_true, if_false]
  · simp only [dhChildStep, dhDirStep, dhProj, if_true]
    cases o.rootOnly
    · simp only [Bool.false_eq_true, if_false, (dhCompare_dirHashes _ _ _ _ _ _).1]
    · simp only [if_true]

theorem dhVisit_carriesDh (env : Env) (t : Node) (rootHist : Hist) (fmts : List String) (o : DhOpts) :
    CarriesDh env t fmts (dhVisit env t rootHist fmts o) DhState.dirHashes :=
  .of_step (dhChildStep env t rootHist fmts o) (dhVisit_dirHashes env t rootHist fmts o)
    fun folder acc ch _ => dhChildStep_proj env t rootHist fmts o folder acc ch

/-! ## the traversal of `verify -dh` computes the specified hashes -/

theorem foldl_dhVisit_dirHashes (env : Env) (t : Node) (rootHist : Hist) (fmts : List String) (o : DhOpts)
    (hit : RelPath → Bool) (d : Node) (hd : d.isDir = true) (here : RelPath) (st : DhState)
    (hat : t.at? here = some d) (hnd : d.NamesDistinct) (hst : ∀ x ∈ st.dirHashes, ¬ here <+: x.1) :
    ((traverse hit here d).foldl (dhVisit env t rootHist fmts o) st).dirHashes =
      st.dirHashes ++ [specEntry env hit (ctxKeys fmts) here d] :=
  (foldl_visits_spec env t fmts _ _ (dhVisit_carriesDh env t rootHist fmts o) hit d hd here st hat hnd hst).1

theorem dhFold_dirHashes (env : Env) (t : Node) (h : Hist) (o : DhOpts) (hdir : t.isDir = true)
    (hnd : t.NamesDistinct) :
    (dhFold env t h o).dirHashes =
      [specEntry env (env.hit (setPatterns (latestIgnore h.gens) o.ignoreCli o.ignoreFile))
        (dhFormats h o.format) [] t] := by
  unfold dhFold
  rw [foldl_dhVisit_dirHashes env t h (dhFormats h o.format) o _ t hdir [] {} rfl hnd (by simp),
    ctxKeys_of_nodup _ (dhFormats_nodup h o.format)]
  rfl

theorem dhRootHashes_spec (env : Env) (t : Node) (h : Hist) (o : DhOpts) (hdir : t.isDir = true)
    (hnd : t.NamesDistinct) :
    dhRootHashes env t h o =
      (specEntry env (env.hit (setPatterns (latestIgnore h.gens) o.ignoreCli o.ignoreFile))
        (dhFormats h o.format) [] t).2 := by
  unfold dhRootHashes
  rw [dhFold_dirHashes env t h o hdir hnd]
  simp [alookup, specEntry]

/-! ## reading back what a run recorded -/

theorem mem_dirEnts_spec (env : Env) (hit : RelPath → Bool) (K : List String) (p : RelPath) (c : Node) (e : Entry)
    (he : e ∈ dirEnts (specEntry env hit K p c).2) :
    e.fmt ∈ K ∧ e.digest = (nodeHashes env.H env.D e.fmt hit p c).1 ∧
      e.shash = some (nodeHashes env.H env.D e.fmt hit p c).2 := by
  simp only [dirEnts, specEntry, List.map_map, List.mem_map, Function.comp] at he
  obtain ⟨f, hf, rfl⟩ := he
  exact ⟨hf, rfl, rfl⟩

theorem dirEnts_spec_mem (env : Env) (hit : RelPath → Bool) (K : List String) (p : RelPath) (c : Node) (f : String)
    (hf : f ∈ K) : ∃ e ∈ dirEnts (specEntry env hit K p c).2, e.fmt = f := by
  refine ⟨{ fmt := f, digest := (nodeHashes env.H env.D f hit p c).1,
            shash := some (nodeHashes env.H env.D f hit p c).2 }, ?_, rfl⟩
  simp only [dirEnts, specEntry, List.map_map, List.mem_map, Function.comp]
  exact ⟨f, hf, rfl⟩

theorem find?_specEntry (env : Env) (hit : RelPath → Bool) (K : List String) (p : RelPath) (c : Node) (f k c' s' : String)
    (h : (specEntry env hit K p c).2.find? (fun x => x.1 == f) = some (k, c', s')) :
    k = f ∧ c' = (nodeHashes env.H env.D f hit p c).1 ∧ s' = (nodeHashes env.H env.D f hit p c).2 := by
  have hk : k = f := by simpa using List.find?_some h
  have hm := List.mem_of_find?_eq_some h
  simp only [specEntry, List.mem_map, Prod.mk.injEq] at hm
  obtain ⟨g, -, rfl, rfl, rfl⟩ := hm
  subst hk
  exact ⟨rfl, rfl, rfl⟩

end MhlModel
