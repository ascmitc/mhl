/-
The session of a create run.  Every step that touches the session (`sealFile`, `appendDirHashes`) is one
`Session.addTo`, so a session is `Session.addAll` of a list of writes; built from nothing by writes with pairwise
different keys (list, path), each list holds, in order, the records of the writes addressed to it (`listOf`,
`Session.get_addAll`).  A run writes one record per file and one or two per folder (`itemWrites`).  Whatever the tree, a
fold of `createVisit` only adds writes (`createFold_addAll`); on a tree with pairwise different sibling names the folders
carry the hashes of the compositional definition (`createFold_session`).  What the property files use is read off that
(`SInv`, `sinv_addAll`, `SCore.item_of`; for one history the ordered list, `records_flat`); last, the other fields
of the state after the fold (`found`, `failed`, `newPaths`), which NestedSealLemmas, RenameLemmas and C04nested use.
-/
import MhlProps.Proofs.DirHashImplLemmas
import MhlProps.Proofs.HistLemmas
import Mathlib.Data.List.Induction
import Mathlib.Data.List.Forall2

namespace MhlModel

/-! ## the steps that touch the session -/

/-- what `sealFile` does to the record of a file -/
def fileUpd (ents : List Entry) (r : Record) : Record := { r with entries := r.entries ++ ents }
/-- what `appendDirHashes` does to the record of a folder -/
def dirUpd (hashes : List (String × String × String)) (r : Record) : Record :=
  { r with isDir := true, entries := r.entries ++ dirEnts hashes }

theorem dirUpd_actions (hashes : List (String × String × String)) (p : String) :
    ∀ e ∈ (dirUpd hashes { path := p, size := none }).entries, e.action = "" := by
  intro e he
  simp only [dirUpd, List.nil_append] at he
  exact dirEnts_action hashes e he

theorem sealFile_session (H : HashFn) (g : Hist) (s : Session) (file : RelPath) (c : Bytes) (fmts : List String) :
    (sealFile H g s file c fmts).1 =
      if (sealEntries (route g file).1.gens (posix (relOf g file)) (fun f => H f c) fmts).1.isEmpty then s
      else s.addTo (ownerOf g file) (posix (relOf g file)) (some c.length)
        (fileUpd (sealEntries (route g file).1.gens (posix (relOf g file)) (fun f => H f c) fmts).1) := by
  unfold sealFile ownerOf relOf
  generalize route g file = x
  obtain ⟨h, hrel⟩ := x
  dsimp only
  generalize sealEntries h.gens (posix hrel) (fun f => H f c) fmts = se
  obtain ⟨ents, res⟩ := se
  dsimp only
  split <;> rfl

theorem appendDirHashes_addTo (g : Hist) (s : Session) (folder : RelPath)
    (hashes : List (String × String × String)) :
    appendDirHashes g s folder hashes =
      if (relOf g folder).isEmpty then
        match parentRoot g (ownerOf g folder) with
        | some pr => (s.addTo (ownerOf g folder) (posix (relOf g folder)) none (dirUpd hashes)).addTo pr
            (posix (folder.drop pr.length)) none (dirUpd hashes)
        | none => s.addTo (ownerOf g folder) (posix (relOf g folder)) none (dirUpd hashes)
      else s.addTo (ownerOf g folder) (posix (relOf g folder)) none (dirUpd hashes) := by
  unfold appendDirHashes ownerOf relOf
  generalize route g folder = x
  obtain ⟨h, hrel⟩ := x
  rfl

theorem sealFile_allRecs {P : RelPath → Record → Prop} (H : HashFn) (g : Hist) {s : Session} (h : s.AllRecs P)
    (file : RelPath) (c : Bytes) (fmts : List String)
    (hf : ∀ R r, (P R r ∨ ∃ p sz, r = { path := p, size := sz }) →
      P R (fileUpd (sealEntries (route g file).1.gens (posix (relOf g file)) (fun f => H f c) fmts).1 r)) :
    (sealFile H g s file c fmts).1.AllRecs P := by
  rw [sealFile_session]
  split
  · exact h
  · exact h.addTo _ _ _ _ (fun r hr => hf _ r (Or.inl hr)) (hf _ _ (Or.inr ⟨_, _, rfl⟩))

theorem appendDirHashes_allRecs {P : RelPath → Record → Prop} (g : Hist) {s : Session} (h : s.AllRecs P)
    (folder : RelPath) (hashes : List (String × String × String))
    (hf : ∀ R r, (P R r ∨ ∃ p sz, r = { path := p, size := sz }) → P R (dirUpd hashes r)) :
    (appendDirHashes g s folder hashes).AllRecs P := by
  have hadd : ∀ {s : Session}, s.AllRecs P → ∀ R p, (s.addTo R p none (dirUpd hashes)).AllRecs P :=
    fun h R p => h.addTo R p none _ (fun r hr => hf _ r (Or.inl hr)) (hf _ _ (Or.inr ⟨_, _, rfl⟩))
  rw [appendDirHashes_addTo]
  split
  · split
    · exact hadd (hadd h _ _) _ _
    · exact hadd h _ _
  · exact hadd h _ _

theorem createFold_allRecs {P : RelPath → Record → Prop} (env : Env) (t : Node) (g : Hist) (fmts : List String)
    (noDir : Bool) (vs : List Visit) (st : CreateState) (h : st.session.AllRecs P)
    (hfile : ∀ v ∈ vs, ∀ ch ∈ v.children, ch.2 = false →
      ∀ R r, (P R r ∨ ∃ p sz, r = { path := p, size := sz }) →
        P R (fileUpd (sealEntries (route g (v.folder ++ [ch.1])).1.gens (posix (relOf g (v.folder ++ [ch.1])))
          (fun f => env.H f (fileContent t (v.folder ++ [ch.1]))) fmts).1 r))
    (hdir : ∀ hashes R r, (P R r ∨ ∃ p sz, r = { path := p, size := sz }) → P R (dirUpd hashes r)) :
    (vs.foldl (createVisit env t g fmts noDir) st).session.AllRecs P :=
  foldl_invariant (fun st' : CreateState => st'.session.AllRecs P) _ vs
    (fun st' v hv hP => createVisit_inv (·.AllRecs P) env t g fmts noDir st' v hP
      (fun _ hs ch hch hf => sealFile_allRecs env.H g hs _ _ fmts (hfile v hv ch hch hf))
      (fun _ hashes hs => appendDirHashes_allRecs g hs v.folder hashes (hdir hashes))) st h

/-! ## the session in closed form -/

/-- one `Session.addTo`: the list, the path in it, the size of a fresh record, what is done to the record -/
structure Wr where
  root : RelPath
  path : String
  size : Option Nat
  upd : Record → Record

/-- the record the write creates when nothing was recorded under its key before -/
def Wr.record (w : Wr) : Record := w.upd { path := w.path, size := w.size }

def Session.addAll (s : Session) (W : List Wr) : Session :=
  W.foldl (fun s w => s.addTo w.root w.path w.size w.upd) s

theorem Session.addAll_append (s : Session) (W W' : List Wr) : s.addAll (W ++ W') = (s.addAll W).addAll W' :=
  List.foldl_append ..

theorem Session.addAll_snoc (s : Session) (W : List Wr) (w : Wr) :
    s.addAll (W ++ [w]) = (s.addAll W).addTo w.root w.path w.size w.upd := by
  rw [Session.addAll_append]; rfl

theorem Session.addAll_patterns (s : Session) (W : List Wr) : (s.addAll W).patterns = s.patterns := by
  induction W using List.reverseRecOn with
  | nil => rfl
  | append_singleton W w ih => rw [Session.addAll_snoc, Session.addTo_patterns, ih]

theorem Session.addAll_roots (s : Session) (W : List Wr) :
    (s.addAll W).roots = W.foldl (fun a w => appendNew a w.root) s.roots := by
  induction W generalizing s with
  | nil => rfl
  | cons w W ih =>
    rw [Session.addAll, List.foldl_cons, ← Session.addAll, ih, Session.addTo_roots, List.foldl_cons]

theorem Session.mem_addAll_roots (s : Session) (W : List Wr) (R : RelPath) :
    R ∈ (s.addAll W).roots ↔ R ∈ s.roots ∨ ∃ w ∈ W, w.root = R := by
  rw [Session.addAll_roots]
  exact mem_foldl_appendNew _ _ _ _

theorem Session.addAll_roots_nodup (s : Session) (W : List Wr) (h : s.roots.Nodup) : (s.addAll W).roots.Nodup := by
  rw [Session.addAll_roots]
  exact nodup_foldl_appendNew _ _ _ h

/-- the list of `R` that the writes `W` build from nothing -/
def listOf (W : List Wr) (R : RelPath) : NewList :=
  { root := R,
    records := (W.filter fun w => w.root == R && w.path != ".").map Wr.record,
    rootRec := (W.find? fun w => w.root == R && w.path == ".").map Wr.record }

theorem mem_listOf_records {W : List Wr} {R : RelPath} {r : Record} :
    r ∈ (listOf W R).records ↔ ∃ w ∈ W, w.root = R ∧ w.path ≠ "." ∧ w.record = r := by
  simp [listOf, and_assoc]

theorem listOf_rootRec_some {W : List Wr} {R : RelPath} {rr : Record} (h : (listOf W R).rootRec = some rr) :
    ∃ w ∈ W, w.root = R ∧ w.path = "." ∧ w.record = rr := by
  obtain ⟨w, hf, rfl⟩ := Option.map_eq_some_iff.1 h
  have hp := List.find?_some hf
  simp only [Bool.and_eq_true, beq_iff_eq] at hp
  exact ⟨w, List.mem_of_find?_eq_some hf, hp.1, hp.2, rfl⟩

/-- the updaters keep the path they are given, and no two writes have the same key -/
structure WritesOk (W : List Wr) : Prop where
  path : ∀ w ∈ W, w.record.path = w.path
  keys : (W.map fun w => (w.root, w.path)).Nodup

theorem WritesOk.left {W W' : List Wr} (h : WritesOk (W ++ W')) : WritesOk W :=
  ⟨fun w hw => h.path w (List.mem_append_left _ hw), by
    have := h.keys; rw [List.map_append] at this; exact (List.nodup_append.1 this).1⟩

theorem WritesOk.fresh {W : List Wr} {w : Wr} (h : WritesOk (W ++ [w])) :
    ∀ w' ∈ W, ¬ (w'.root = w.root ∧ w'.path = w.path) := by
  intro w' hw' ⟨h1, h2⟩
  have := h.keys
  rw [List.map_append, List.nodup_append] at this
  exact this.2.2 (w'.root, w'.path) (List.mem_map.2 ⟨w', hw', rfl⟩) (w.root, w.path) (by simp) (by rw [h1, h2])

theorem WritesOk.rootRec {W : List Wr} (hW : WritesOk W) {w : Wr} (hw : w ∈ W) (hdot : w.path = ".") :
    (listOf W w.root).rootRec = some w.record :=
  congrArg (Option.map Wr.record)
    (find?_of_nodup_map hW.keys hw (by simp [hdot]) fun w' _ hp => by simp_all)

theorem WritesOk.paths_nodup {W : List Wr} (hW : WritesOk W) (R : RelPath) :
    ((listOf W R).records.map (·.path)).Nodup := by
  have h1 := hW.keys.sublist
    ((List.filter_sublist (p := fun w => w.root == R && w.path != ".") (l := W)).map fun w => (w.root, w.path))
  refine List.Nodup.of_map (fun p : String => (R, p)) ?_
  rw [listOf, List.map_map, List.map_map]
  refine (List.map_congr_left fun w hw => ?_) ▸ h1
  simp only [List.mem_filter, Bool.and_eq_true, beq_iff_eq] at hw
  simp only [Function.comp, hW.path w hw.1, hw.2.1]

/-- Induction from the right: the last write has a fresh key, so `addTo` either sets the root record of its list (path
".") or appends one record to it; every other list is untouched. -/
theorem Session.get_addAll (pats : List String) (W : List Wr) (hW : WritesOk W) :
    ∀ R, (({ patterns := pats } : Session).addAll W).get R = listOf W R := by
  induction W using List.reverseRecOn with
  | nil => exact fun R => Session.get_not_mem _ List.not_mem_nil
  | append_singleton W w ih =>
    intro R
    have ih := ih hW.left
    have hfr := hW.fresh
    rw [Session.addAll_snoc]
    by_cases hdot : w.path = "."
    · rw [hdot, Session.addTo_dot_get _ _ _ _ (by
        rw [ih, listOf]
        simp only [Option.map_eq_none_iff, List.find?_eq_none, Bool.and_eq_true, beq_iff_eq, not_and]
        exact fun w' hw' h1 h2 => hfr w' hw' ⟨h1, h2.trans hdot.symm⟩)]
      simp only [ih, listOf, List.filter_append, List.find?_append, List.map_append]
      split
      · next h =>
        subst h
        have hnone : (W.find? fun w' => w'.root == w.root && w'.path == ".") = none := by
          simp only [List.find?_eq_none, Bool.and_eq_true, beq_iff_eq, not_and]
          exact fun w' hw' h1 h2 => hfr w' hw' ⟨h1, h2.trans hdot.symm⟩
        simp [hnone, hdot, Wr.record]
      · next h =>
        have h' : (w.root == R) = false := by simpa using fun e => h e.symm
        simp [h']
    · rw [Session.addTo_fresh_get _ _ _ _ _ hdot (by
        intro r hr
        rw [ih, listOf] at hr
        obtain ⟨w', hw', rfl⟩ := List.mem_map.1 hr
        simp only [List.mem_filter, Bool.and_eq_true, beq_iff_eq] at hw'
        rw [hW.path w' (List.mem_append_left _ hw'.1)]
        exact fun h2 => hfr w' hw'.1 ⟨hw'.2.1, h2⟩)]
      simp only [ih, listOf, List.filter_append, List.find?_append, List.map_append]
      split
      · next h =>
        subst h
        simp [hdot, Wr.record]
      · next h =>
        have h' : (w.root == R) = false := by simpa using fun e => h e.symm
        simp [h']

/-! ## the writes of a create run -/

section
variable (env : Env) (t : Node) (g : Hist) (fmts : List String)

/-- what sealing the file `p` writes: one record in the list of the history that owns it -/
def fileWrites (p : RelPath) : List Wr :=
  if (sealEntries (route g p).1.gens (posix (relOf g p)) (fun f => env.H f (fileContent t p)) fmts).1.isEmpty then []
  else [⟨ownerOf g p, posix (relOf g p), some (fileContent t p).length,
    fileUpd (sealEntries (route g p).1.gens (posix (relOf g p)) (fun f => env.H f (fileContent t p)) fmts).1⟩]

/-- what recording the hashes of the folder `d` writes: a record in the list of the history that owns it, and, when
`d` is the root of a nested history, a second one in the list of the parent history -/
def dirWrites (g : Hist) (d : RelPath) (hashes : List (String × String × String)) : List Wr :=
  ⟨ownerOf g d, posix (relOf g d), none, dirUpd hashes⟩ ::
    if (relOf g d).isEmpty then
      match parentRoot g (ownerOf g d) with
      | some pr => [⟨pr, posix (d.drop pr.length), none, dirUpd hashes⟩]
      | none => []
    else []

theorem sealFile_addAll (s : Session) (p : RelPath) :
    (sealFile env.H g s p (fileContent t p) fmts).1 = s.addAll (fileWrites env t g fmts p) := by
  rw [sealFile_session, fileWrites]
  split <;> rfl

theorem appendDirHashes_addAll (s : Session) (d : RelPath) (hashes : List (String × String × String)) :
    appendDirHashes g s d hashes = s.addAll (dirWrites g d hashes) := by
  rw [appendDirHashes_addTo, dirWrites]
  split
  · cases parentRoot g (ownerOf g d) <;> rfl
  · rfl

/-- the hashes recorded for the folder at `d`: none with `-n`, else those of the compositional definition -/
def visitSpecHashes (hit : RelPath → Bool) (noDir : Bool) (d : RelPath) : List (String × String × String) :=
  if noDir then [] else
    match t.at? d with
    | some c => (specEntry env hit (ctxKeys fmts) d c).2
    | none => []

def itemWrites (hit : RelPath → Bool) (noDir : Bool) (x : RelPath × Bool) : List Wr :=
  if x.2 then dirWrites g x.1 (visitSpecHashes env t fmts hit noDir x.1) else fileWrites env t g fmts x.1

/-- the hashes `createVisit` records for the folder of the visit `v` when started from `st` -/
def visitHashes (noDir : Bool) (st : CreateState) (v : Visit) : List (String × String × String) :=
  ctxHashes env (v.children.foldl (childStep env t g fmts noDir v.folder) (st, if noDir then [] else ctxInit fmts)).2

theorem foldl_childStep_session (noDir : Bool) (folder : RelPath) (L : List (String × Bool))
    (acc : CreateState × List (String × DirCtx)) :
    (L.foldl (childStep env t g fmts noDir folder) acc).1.session =
      acc.1.session.addAll (L.flatMap fun c => if c.2 then [] else fileWrites env t g fmts (folder ++ [c.1])) := by
  induction L generalizing acc with
  | nil => rfl
  | cons c L ih =>
    rw [List.foldl_cons, ih, childStep_session, List.flatMap_cons, Session.addAll_append]
    split
    · rfl
    · rw [sealFile_addAll]

theorem createVisit_session_addAll (noDir : Bool) (st : CreateState) (v : Visit) :
    (createVisit env t g fmts noDir st v).session =
      st.session.addAll ((v.children.flatMap fun c => if c.2 then [] else fileWrites env t g fmts (v.folder ++ [c.1])) ++
        dirWrites g v.folder (visitHashes env t g fmts noDir st v)) := by
  have hv : (createVisit env t g fmts noDir st v).session =
      appendDirHashes g
        (v.children.foldl (childStep env t g fmts noDir v.folder) (st, if noDir then [] else ctxInit fmts)).1.session
        v.folder (visitHashes env t g fmts noDir st v) := by
    rw [createVisit_eq]; rfl
  rw [hv, foldl_childStep_session, appendDirHashes_addAll, Session.addAll_append]

theorem visitItems_writes (hit : RelPath → Bool) (noDir : Bool) (v : Visit) :
    (visitItems v).flatMap (itemWrites env t g fmts hit noDir) =
      (v.children.flatMap fun c => if c.2 then [] else fileWrites env t g fmts (v.folder ++ [c.1])) ++
        dirWrites g v.folder (visitSpecHashes env t fmts hit noDir v.folder) := by
  rw [visitItems, List.flatMap_append, List.flatMap_singleton, List.flatMap_assoc]
  congr 1
  refine List.flatMap_congr fun c _ => ?_
  split
  · rfl
  · exact List.flatMap_singleton ..

theorem createFold_addAll (noDir : Bool) (vs : List Visit) (st : CreateState) :
    ∃ W, (vs.foldl (createVisit env t g fmts noDir) st).session = st.session.addAll W ∧
      ∀ v ∈ vs, ∃ w ∈ W, w.root = ownerOf g v.folder := by
  induction vs generalizing st with
  | nil => exact ⟨[], rfl, fun _ h => nomatch h⟩
  | cons v vs ih =>
    obtain ⟨W, hW, hown⟩ := ih (createVisit env t g fmts noDir st v)
    refine ⟨_ ++ W, by rw [List.foldl_cons, hW, createVisit_session_addAll, ← Session.addAll_append], ?_⟩
    intro v' hv'
    rcases List.mem_cons.1 hv' with rfl | hv'
    · exact ⟨_, List.mem_append_left _ (List.mem_append_right _ List.mem_cons_self), rfl⟩
    · obtain ⟨w, hw, h⟩ := hown v' hv'
      exact ⟨w, List.mem_append_right _ hw, h⟩

theorem createFold_patterns (noDir : Bool) (vs : List Visit) (st : CreateState) :
    (vs.foldl (createVisit env t g fmts noDir) st).session.patterns = st.session.patterns := by
  obtain ⟨W, hW, -⟩ := createFold_addAll env t g fmts noDir vs st
  rw [hW, Session.addAll_patterns]

theorem createFold_session_of (hit : RelPath → Bool) (noDir : Bool) (vs : List Visit) (st : CreateState)
    (h : EachVisit (createVisit env t g fmts noDir)
      (fun st v => visitHashes env t g fmts noDir st v = visitSpecHashes env t fmts hit noDir v.folder) vs st) :
    (vs.foldl (createVisit env t g fmts noDir) st).session =
      st.session.addAll ((recItems vs).flatMap (itemWrites env t g fmts hit noDir)) := by
  induction vs generalizing st with
  | nil => rfl
  | cons v vs ih =>
    rw [List.foldl_cons, ih _ h.2, createVisit_session_addAll, h.1, ← visitItems_writes, ← Session.addAll_append,
      ← List.flatMap_append]
    rfl

/-- with `-n` there are no contexts, so no hashes -/
theorem visitHashes_noDir (st : CreateState) (v : Visit) : visitHashes env t g fmts true st v = [] := by
  have : ∀ (L : List (String × Bool)) (st : CreateState),
      (L.foldl (childStep env t g fmts true v.folder) (st, [])).2 = [] := by
    intro L
    induction L with
    | nil => intro _; rfl
    | cons c L ih =>
      intro st
      rw [List.foldl_cons, show childStep env t g fmts true v.folder (st, []) c = (_, []) from
        Prod.ext rfl (childStep_nil env t g fmts true v.folder c st)]
      exact ih _
  rw [visitHashes, if_pos rfl, this]
  rfl

/-- without `-n`, `create` computes at every visit of the traversal of a folder the specified hashes of the folder
visited: every visit is `VisitReady` (`foldl_visits_spec`), and a ready visit appends the specified entry -/
theorem visitHashes_traverse (hit : RelPath → Bool) (d : Node) (hdir : d.isDir = true) (here : RelPath)
    (st : CreateState) (hat : t.at? here = some d) (hnd : d.NamesDistinct)
    (hst : ∀ x ∈ st.dirHashes, ¬ here <+: x.1) :
    EachVisit (createVisit env t g fmts false)
      (fun st v => visitHashes env t g fmts false st v = visitSpecHashes env t fmts hit false v.folder)
      (traverse hit here d) st := by
  have hf := createVisit_carriesDh env t g fmts
  refine (foldl_visits_spec env t fmts _ _ hf hit d hdir here st hat hnd hst).2.imp fun st v hr => ?_
  -- the hashes recorded are those of the entry the visit appends to `dirHashes`
  obtain ⟨c, base, hatv, hv⟩ := hr.visit hf
  rw [createVisit_dirHashes] at hv
  rw [visitSpecHashes, if_neg (by simp), hatv]
  exact congrArg Prod.snd (List.singleton_inj.1 (List.append_inj_right' hv rfl))

/-- The session in closed form: the traversal of a folder with pairwise different sibling names leaves the session
that the writes of its recorded items build, each folder carrying the hashes of the compositional definition -/
theorem createFold_session (hit : RelPath → Bool) (noDir : Bool) (hd : t.NamesDistinct) (s : Session) :
    ((traverse hit [] t).foldl (createVisit env t g fmts noDir) { session := s }).session =
      s.addAll ((recItems (traverse hit [] t)).flatMap (itemWrites env t g fmts hit noDir)) := by
  apply createFold_session_of
  cases noDir
  · cases hdir : t.isDir
    · cases t with
      | file n c => trivial
      | dir n cs h => cases hdir
    · exact visitHashes_traverse env t g fmts hit t hdir [] _ rfl hd (fun x hx => by cases hx)
  · generalize ({ session := s } : CreateState) = st
    induction traverse hit [] t generalizing st with
    | nil => trivial
    | cons v vs ih => exact ⟨(visitHashes_noDir env t g fmts st v).trans rfl, ih _⟩

/-- the three cases are the three writes `fileWrites` / `dirWrites` can make -/
theorem mem_itemWrites (hit : RelPath → Bool) (noDir : Bool) (x : RelPath × Bool) (w : Wr) :
    w ∈ itemWrites env t g fmts hit noDir x ↔
      (x.2 = false ∧
        (sealEntries (route g x.1).1.gens (posix (relOf g x.1)) (fun f => env.H f (fileContent t x.1)) fmts).1 ≠ [] ∧
        w = ⟨ownerOf g x.1, posix (relOf g x.1), some (fileContent t x.1).length,
          fileUpd (sealEntries (route g x.1).1.gens (posix (relOf g x.1)) (fun f => env.H f (fileContent t x.1)) fmts).1⟩) ∨
      (x.2 = true ∧ w = ⟨ownerOf g x.1, posix (relOf g x.1), none, dirUpd (visitSpecHashes env t fmts hit noDir x.1)⟩) ∨
      (x.2 = true ∧ relOf g x.1 = [] ∧ ∃ pr, parentRoot g (ownerOf g x.1) = some pr ∧
        w = ⟨pr, posix (x.1.drop pr.length), none, dirUpd (visitSpecHashes env t fmts hit noDir x.1)⟩) := by
  obtain ⟨p, b⟩ := x
  cases b
  · simp only [itemWrites, Bool.false_eq_true, if_false, fileWrites, false_and, or_false, true_and]
    split
    · next h => simp [List.isEmpty_iff.1 h]
    · next h => rw [List.isEmpty_iff] at h; simp [h]
  · simp only [itemWrites, if_true, dirWrites, reduceCtorEq, false_and, false_or, true_and, List.mem_cons]
    refine or_congr Iff.rfl ?_
    split
    · next h =>
      rw [List.isEmpty_iff] at h
      cases parentRoot g (ownerOf g p) <;> simp [h]
    · next h => simp [List.isEmpty_iff] at h; simp [h]

end

/-! ## the recorded items and the keys of their writes -/

/-- the visited items are unambiguous: pairwise different paths, names that can be path components, and no file
sits where a history is rooted -/
structure ItemsOk (g : Hist) (L : List (RelPath × Bool)) : Prop where
  nodup : (L.map (·.1)).Nodup
  names : ∀ x ∈ L, ∀ n ∈ x.1, NameOk n
  files : ∀ p, (p, false) ∈ L → relOf g p ≠ []

theorem mem_recItems (hit : RelPath → Bool) (t : Node) (x : RelPath × Bool) :
    x ∈ recItems (traverse hit [] t) ↔ x ∈ visiblePaths hit t ∨ (x = ([], true) ∧ t.isDir = true) := by
  rw [(recItems_perm hit t []).mem_iff, ← visiblePaths_eq, List.mem_append]
  constructor
  · rintro (h | h)
    · exact Or.inl h
    · split at h
      · next hd => exact Or.inr ⟨by simpa using h, hd⟩
      · simp at h
  · rintro (h | ⟨h1, h2⟩)
    · exact Or.inl h
    · right; rw [if_pos h2, h1]; simp

theorem recItems_itemsOk {t : Node} {g : Hist} (hg : HistOK t g) (hit : RelPath → Bool) (hd : t.NamesDistinct)
    (hn : t.NamesOk) : ItemsOk g (recItems (traverse hit [] t)) := by
  refine ⟨recItems_fst_nodup hit t hd, ?_, ?_⟩
  · intro x hx
    rcases (mem_recItems hit t x).1 hx with h | ⟨h, -⟩
    · exact (visible_names_ok hit t hn x h).2
    · rw [h]; simp
  · intro p hp hrel
    rcases (mem_recItems hit t _).1 hp with h | ⟨h, -⟩
    · obtain ⟨c, hc, hcd⟩ := MhlProps.C02.visible_on_disk hit t hd p false h
      obtain ⟨-, h0 | ⟨c', hc', hcr⟩⟩ := relOf_nil hg.root hrel
      · exact (MhlProps.C02.visible_relative hit t p false h).2.1 h0
      · obtain ⟨-, n, hn1, hn2⟩ := hg.isDir c' hc'
        rw [hcr, hc] at hn1
        cases hn1
        rw [hcd] at hn2
        cases hn2
    · cases h

section keys
variable {env : Env} {t : Node} {g : Hist} {fmts : List String} (hg : HistOK t g) (hit : RelPath → Bool)
  (noDir : Bool) {L : List (RelPath × Bool)} (hok : ItemsOk g L)
include hg hok

omit hok in
/-- the shape of a write made for the item `x`: it goes to the owner under the path relative to the owner, or - the
second write for the root folder of a nested history - to the parent history under the path relative to that -/
theorem itemWrites_shape {x : RelPath × Bool} {w : Wr} (hw : w ∈ itemWrites env t g fmts hit noDir x) :
    ∃ q, w.path = posix q ∧ w.root ++ q = x.1 ∧ w.record.path = w.path ∧ w.record.isDir = x.2 ∧
      ((w.root = ownerOf g x.1 ∧ q = relOf g x.1) ∨
        (q ≠ [] ∧ x.2 = true ∧ relOf g x.1 = [] ∧ parentRoot g x.1 = some w.root)) := by
  rcases (mem_itemWrites env t g fmts hit noDir x w).1 hw with ⟨hb, -, rfl⟩ | ⟨hb, rfl⟩ | ⟨hb, h0, pr, hpr, rfl⟩
  · exact ⟨_, rfl, owner_append hg.root x.1, rfl, hb.symm, Or.inl ⟨rfl, rfl⟩⟩
  · exact ⟨_, rfl, owner_append hg.root x.1, rfl, hb.symm, Or.inl ⟨rfl, rfl⟩⟩
  · rw [(relOf_nil hg.root h0).1] at hpr
    obtain ⟨⟨q, hq⟩, hlt, -⟩ := parentRoot_prefix hg hpr
    refine ⟨q, by rw [← hq, List.drop_left], hq, rfl, hb.symm, Or.inr ⟨?_, hb, h0, hpr⟩⟩
    rintro rfl
    rw [← hq, List.append_nil] at hlt
    exact Nat.lt_irrefl _ hlt

omit hok in
theorem itemWrites_keys_nodup {x : RelPath × Bool} (hx : x ∈ L) :
    ((itemWrites env t g fmts hit noDir x).map fun w => (w.root, w.path)).Nodup := by
  obtain ⟨p, b⟩ := x
  cases b
  · unfold itemWrites fileWrites
    simp only [Bool.false_eq_true, if_false]
    split <;> simp
  · unfold itemWrites dirWrites
    simp only [if_true]
    split
    · next h0 =>
      rw [List.isEmpty_iff] at h0
      cases hpr : parentRoot g (ownerOf g p) with
      | none => simp
      | some pr =>
        rw [(relOf_nil hg.root h0).1] at hpr
        have hlt := (parentRoot_prefix hg hpr).2.1
        simp only [List.map_cons, List.map_nil, List.nodup_cons, List.mem_singleton, Prod.mk.injEq, not_and,
          List.not_mem_nil, not_false_eq_true, List.nodup_nil, and_true]
        intro h
        rw [(relOf_nil hg.root h0).1] at h
        rw [h] at hlt
        exact absurd hlt (Nat.lt_irrefl _)
    · simp

theorem itemWrites_ok : WritesOk (L.flatMap (itemWrites env t g fmts hit noDir)) := by
  refine ⟨?_, ?_⟩
  · intro w hw
    obtain ⟨x, hx, hwx⟩ := List.mem_flatMap.1 hw
    exact (itemWrites_shape hg hit noDir hwx).choose_spec.2.2.1
  · rw [List.map_flatMap, List.nodup_flatMap]
    refine ⟨fun x hx => itemWrites_keys_nodup hg hit noDir hx, ?_⟩
    -- a write made for an item denotes it: the root of its list followed by its path is the path of the item
    have hden : ∀ {x w}, x ∈ L → w ∈ itemWrites env t g fmts hit noDir x → w.root ++ splitPath w.path = x.1 := by
      intro x w hx hw
      obtain ⟨q, hp, hq, -⟩ := itemWrites_shape hg hit noDir hw
      rw [hp, splitPath_posix fun n hn => hok.names x hx n (mem_of_append_eq hq n hn), hq]
    have hnd := hok.nodup
    rw [List.nodup_iff_pairwise_ne, List.pairwise_map] at hnd
    refine List.Pairwise.imp_of_mem ?_ hnd
    intro x y hx hy hne k hkx hky
    obtain ⟨w, hw, rfl⟩ := List.mem_map.1 hkx
    obtain ⟨w', hw', hk⟩ := List.mem_map.1 hky
    apply hne
    rw [← hden hx hw, ← hden hy hw']
    simp only [Prod.mk.injEq] at hk
    rw [hk.1, hk.2]

end keys

/-! ## what the property files read off -/

/-- `s'` extends `s`: more lists, more records, root records kept -/
def Session.Le (s s' : Session) : Prop :=
  (∀ R ∈ s.roots, R ∈ s'.roots) ∧
  ∀ R, (∀ r ∈ (s.get R).records, r ∈ (s'.get R).records) ∧
    ∀ rr, (s.get R).rootRec = some rr → (s'.get R).rootRec = some rr

theorem Session.Le.refl (s : Session) : s.Le s := ⟨fun _ h => h, fun _ => ⟨fun _ h => h, fun _ h => h⟩⟩

/-- the visited file `p` is recorded in the list of the history it is routed to -/
def FileDone (env : Env) (t : Node) (g : Hist) (fmts : List String) (s : Session) (p : RelPath) : Prop :=
  ownerOf g p ∈ s.roots ∧ ∃ r ∈ (s.get (ownerOf g p)).records,
    r.path = posix (relOf g p) ∧ r.isDir = false ∧ r.prev = none ∧ r.size = some (fileContent t p).length ∧
    r.entries = (sealEntries (route g p).1.gens (posix (relOf g p)) (fun f => env.H f (fileContent t p)) fmts).1

/-- the visited folder `d` is recorded with the entries `ents`: as a directory record of the list of the history it
is routed to, or — when it is the root folder of a history — as that list's root record and (nested history) as a
directory record of the PARENT history's list -/
def DirDone (g : Hist) (s : Session) (d : RelPath) (ents : List Entry) : Prop :=
  ownerOf g d ∈ s.roots ∧
  (relOf g d ≠ [] → ∃ r ∈ (s.get (ownerOf g d)).records,
      r.path = posix (relOf g d) ∧ r.isDir = true ∧ r.prev = none ∧ r.size = none ∧ r.entries = ents) ∧
  (relOf g d = [] → ∃ rr, (s.get d).rootRec = some rr ∧ rr.isDir = true ∧ rr.path = "." ∧ rr.entries = ents ∧
      ∀ pr, parentRoot g d = some pr → pr ∈ s.roots ∧ ∃ r ∈ (s.get pr).records,
        r.path = posix (d.drop pr.length) ∧ r.isDir = true ∧ r.prev = none ∧ r.size = none ∧ r.entries = ents)

/-- soundness of the session with respect to the items `L` visited so far: every record of every list denotes a
visited item and sits in the list the item is routed to (or, for the root folder of a nested history, in the list of
the parent history) -/
structure SCore (g : Hist) (pats : List String) (s : Session) (L : List (RelPath × Bool)) : Prop where
  pats : s.patterns = pats
  nodup : s.roots.Nodup
  paths : ∀ R, ((s.get R).records.map (·.path)).Nodup
  recs : ∀ R, ∀ r ∈ (s.get R).records, ∃ x ∈ L, ∃ q, q ≠ [] ∧ r.path = posix q ∧ R ++ q = x.1 ∧ r.isDir = x.2 ∧
    (R = ownerOf g x.1 ∨ (x.2 = true ∧ relOf g x.1 = [] ∧ parentRoot g x.1 = some R))
  rootRecs : ∀ R rr, (s.get R).rootRec = some rr → (R, true) ∈ L
  rootsJ : ∀ R ∈ s.roots, ∃ x ∈ L, R <+: x.1

/-- the session after the items `L`: sound, and every item is recorded where it belongs, a file with the entries
`sealEntries` returns against its history, a folder `d` with the entries of the hashes `dh d` -/
structure SInv (env : Env) (t : Node) (g : Hist) (fmts : List String) (dh : RelPath → List (String × String × String))
    (pats : List String) (s : Session) (L : List (RelPath × Bool)) : Prop where
  core : SCore g pats s L
  /-- every list belongs to the owner of an item, or to the parent of a nested history whose root folder is one
  (`SCore.rootsJ` is the other half of this fact: the root of the list is a prefix of the item's path) -/
  roots : ∀ R ∈ s.roots, ∃ x ∈ L,
    R = ownerOf g x.1 ∨ (x.2 = true ∧ relOf g x.1 = [] ∧ parentRoot g x.1 = some R)
  /-- a file for which there is something to record (always, when a format is requested) -/
  files : ∀ p, (p, false) ∈ L →
    (sealEntries (route g p).1.gens (posix (relOf g p)) (fun f => env.H f (fileContent t p)) fmts).1 ≠ [] →
    FileDone env t g fmts s p
  dirs : ∀ d, (d, true) ∈ L → DirDone g s d (dirEnts (dh d))

theorem SInv.file_done {env : Env} {t : Node} {g : Hist} {fmts pats : List String}
    {dh : RelPath → List (String × String × String)} {s : Session}
    {L : List (RelPath × Bool)} (hs : SInv env t g fmts dh pats s L) (hfm : fmts ≠ []) {p : RelPath}
    (hp : (p, false) ∈ L) : FileDone env t g fmts s p :=
  hs.files p hp (sealEntries_ne_nil _ _ _ fmts hfm)

/-- a record that denotes the visited item `x` (its list's root followed by its path is the path of `x`) is the
record made for `x` -/
theorem SCore.denotes {g : Hist} {pats : List String} {s : Session} {L : List (RelPath × Bool)}
    (hc : SCore g pats s L) (hok : ItemsOk g L) {R : RelPath} {r : Record} (hr : r ∈ (s.get R).records)
    {x : RelPath × Bool} (hx : x ∈ L) (hden : R ++ splitPath r.path = x.1) :
    r.isDir = x.2 ∧ ∃ q, q ≠ [] ∧ r.path = posix q ∧ R ++ q = x.1 ∧
      (R = ownerOf g x.1 ∨ (x.2 = true ∧ relOf g x.1 = [] ∧ parentRoot g x.1 = some R)) := by
  obtain ⟨y, hy, q, hq0, hq, hy1, hyd, hj⟩ := hc.recs R r hr
  have hqn : ∀ n ∈ q, NameOk n := fun n hn => hok.names y hy n (mem_of_append_eq hy1 n hn)
  rw [hq, splitPath_posix hqn] at hden
  have hxy : y = x := List.inj_on_of_nodup_map hok.nodup hy hx (hy1.symm.trans hden)
  subst hxy
  exact ⟨hyd, q, hq0, hq, hy1, hj⟩

/-- more than `SCore.denotes`: every record of the session is the record of exactly one item: it sits in the list of the item's owner — or, for the
root folder of a nested history, of the parent history — under the rest of the item's path -/
theorem SCore.item_of {g : Hist} {pats : List String} {s : Session} {L : List (RelPath × Bool)}
    (hg : g.root = []) (hok : ItemsOk g L) (hc : SCore g pats s L) {R : RelPath} {r : Record}
    (hr : r ∈ (s.get R).records) :
    ∃ x ∈ L, splitPath r.path ≠ [] ∧ R ++ splitPath r.path = x.1 ∧ r.isDir = x.2 ∧
      (R = ownerOf g x.1 ∨ (x.2 = true ∧ relOf g x.1 = [] ∧ parentRoot g x.1 = some R)) ∧
      r.path = posix (x.1.drop R.length) ∧ (R = ownerOf g x.1 → r.path = posix (relOf g x.1)) ∧
      ∀ y ∈ L, R ++ splitPath r.path = y.1 → y = x := by
  obtain ⟨x, hx, q, hq0, hq, hqx, hdir, hj⟩ := hc.recs R r hr
  have hqn : ∀ n ∈ q, NameOk n := fun n hn => hok.names x hx n (mem_of_append_eq hqx n hn)
  have hsp : splitPath r.path = q := by rw [hq, splitPath_posix hqn]
  have hdrop : q = x.1.drop R.length := by rw [← hqx, List.drop_left]
  refine ⟨x, hx, hsp ▸ hq0, hsp ▸ hqx, hdir, hj, hdrop ▸ hq, fun hown => ?_, fun y hy hy1 => ?_⟩
  · rw [hq]
    congr 1
    exact List.append_cancel_left ((hown ▸ hqx).trans (owner_append hg x.1).symm)
  · exact List.inj_on_of_nodup_map hok.nodup hy hx (hy1.symm.trans (hsp ▸ hqx))

section read
variable {env : Env} {t : Node} {g : Hist} {fmts : List String} (hg : HistOK t g) (hit : RelPath → Bool)
  (noDir : Bool) {L : List (RelPath × Bool)} (hok : ItemsOk g L)
include hg hok

theorem sinv_addAll (pats : List String) :
    SInv env t g fmts (visitSpecHashes env t fmts hit noDir) pats
      (({ patterns := pats } : Session).addAll (L.flatMap (itemWrites env t g fmts hit noDir))) L := by
  have hW := itemWrites_ok (env := env) (fmts := fmts) hg hit noDir hok
  have hget := Session.get_addAll pats _ hW
  have hroots : ∀ R, R ∈ (({ patterns := pats } : Session).addAll
      (L.flatMap (itemWrites env t g fmts hit noDir))).roots ↔
        ∃ w ∈ L.flatMap (itemWrites env t g fmts hit noDir), w.root = R := fun R =>
    (Session.mem_addAll_roots _ _ R).trans (or_iff_right (by simp [Session.roots]))
  have hpats := Session.addAll_patterns ({ patterns := pats } : Session) (L.flatMap (itemWrites env t g fmts hit noDir))
  have hnd := Session.addAll_roots_nodup ({ patterns := pats } : Session)
    (L.flatMap (itemWrites env t g fmts hit noDir)) (by simp [Session.roots])
  generalize ({ patterns := pats } : Session).addAll (L.flatMap (itemWrites env t g fmts hit noDir)) = s
    at hget hroots hpats hnd ⊢
  have hmem : ∀ {w}, w ∈ L.flatMap (itemWrites env t g fmts hit noDir) ↔
      ∃ x ∈ L, w ∈ itemWrites env t g fmts hit noDir x := List.mem_flatMap
  have hdotrel : ∀ x ∈ L, posix (relOf g x.1) = "." ↔ relOf g x.1 = [] := fun x hx =>
    posix_eq_dot fun n hn => hok.names x hx n (mem_of_append_eq (owner_append hg.root x.1) n hn)
  -- a write of an item under a path other than "." has its list in the session and its record in that list
  have hin : ∀ {x w}, x ∈ L → w ∈ itemWrites env t g fmts hit noDir x → w.path ≠ "." →
      w.root ∈ s.roots ∧ w.record ∈ (s.get w.root).records := fun hx hw hne =>
    ⟨(hroots _).2 ⟨_, hmem.2 ⟨_, hx, hw⟩, rfl⟩, hget _ ▸ mem_listOf_records.2 ⟨_, hmem.2 ⟨_, hx, hw⟩, rfl, hne, rfl⟩⟩
  -- every list was written to by an item that lies below its root
  have hlist : ∀ R ∈ s.roots, ∃ x ∈ L, R <+: x.1 ∧
      (R = ownerOf g x.1 ∨ (x.2 = true ∧ relOf g x.1 = [] ∧ parentRoot g x.1 = some R)) := fun R hR => by
    obtain ⟨w, hwW, rfl⟩ := (hroots R).1 hR
    obtain ⟨x, hx, hwx⟩ := hmem.1 hwW
    obtain ⟨q, -, hq, -, -, hj⟩ := itemWrites_shape hg hit noDir hwx
    exact ⟨x, hx, ⟨q, hq⟩, hj.imp (·.1) (·.2)⟩
  refine ⟨⟨hpats, hnd, fun R => hget R ▸ hW.paths_nodup R, ?_, ?_,
    fun R hR => (hlist R hR).imp fun _ h => ⟨h.1, h.2.1⟩⟩, fun R hR => (hlist R hR).imp fun _ h => ⟨h.1, h.2.2⟩, ?_, ?_⟩
  · -- every record denotes an item
    intro R r hr
    rw [hget] at hr
    obtain ⟨w, hwW, rfl, hne, rfl⟩ := mem_listOf_records.1 hr
    obtain ⟨x, hx, hwx⟩ := hmem.1 hwW
    obtain ⟨q, hp, hq, hrp, hrd, hj⟩ := itemWrites_shape hg hit noDir hwx
    exact ⟨x, hx, q, fun h => hne (by rw [hp, h]; rfl), hrp.trans hp, hq, hrd, hj.imp (·.1) (·.2)⟩
  · -- a root record belongs to a visited folder
    intro R rr hrr
    rw [hget] at hrr
    obtain ⟨w, hwW, rfl, hdot, -⟩ := listOf_rootRec_some hrr
    obtain ⟨x, hx, hwx⟩ := hmem.1 hwW
    obtain ⟨q, hp, hq, -, -, hj⟩ := itemWrites_shape hg hit noDir hwx
    have hq0 : q = [] :=
      (posix_eq_dot fun n hn => hok.names x hx n (mem_of_append_eq hq n hn)).1 (hp.symm.trans hdot)
    rcases hj with ⟨-, hrel⟩ | ⟨hne, -⟩
    · rw [hq0, List.append_nil] at hq
      obtain ⟨p, b⟩ := x
      cases b
      · exact absurd (hrel.symm.trans hq0) (hok.files p hx)
      · rw [hq]; exact hx
    · exact absurd hq0 hne
  · -- files
    intro p hp hne
    obtain ⟨h1, h2⟩ := hin hp ((mem_itemWrites env t g fmts hit noDir (p, false) _).2 (Or.inl ⟨rfl, hne, rfl⟩))
      fun h => hok.files p hp ((hdotrel _ hp).1 h)
    exact ⟨h1, _, h2, rfl, rfl, rfl, rfl, List.nil_append _⟩
  · -- folders
    intro d hd
    let w : Wr := ⟨ownerOf g d, posix (relOf g d), none, dirUpd (visitSpecHashes env t fmts hit noDir d)⟩
    have hw : w ∈ itemWrites env t g fmts hit noDir (d, true) :=
      (mem_itemWrites env t g fmts hit noDir (d, true) _).2 (Or.inr (Or.inl ⟨rfl, rfl⟩))
    refine ⟨(hroots _).2 ⟨w, hmem.2 ⟨_, hd, hw⟩, rfl⟩, fun hne => ?_, fun h0 => ?_⟩
    · exact ⟨w.record, (hin hd hw fun h => hne ((hdotrel _ hd).1 h)).2, rfl, rfl, rfl, rfl, List.nil_append _⟩
    · have hdot : posix (relOf g d) = "." := (hdotrel _ hd).2 h0
      refine ⟨w.record, ?_, rfl, hdot, List.nil_append _, fun pr hpr => ?_⟩
      · rw [hget, ← (relOf_nil hg.root h0).1]
        exact hW.rootRec (hmem.2 ⟨_, hd, hw⟩) hdot
      · -- the second write, to the parent history: `d` lies strictly below the parent's root
        obtain ⟨-, hlt, -⟩ := parentRoot_prefix hg hpr
        have hne : d.drop pr.length ≠ [] := fun h => by
          have := congrArg List.length h
          simp only [List.length_drop, List.length_nil] at this
          omega
        obtain ⟨h1, h2⟩ := hin hd ((mem_itemWrites env t g fmts hit noDir (d, true) _).2
            (Or.inr (Or.inr ⟨rfl, h0, pr, by rw [(relOf_nil hg.root h0).1]; exact hpr, rfl⟩)))
          fun h => hne ((posix_eq_dot fun n hn => hok.names _ hd n (List.mem_of_mem_drop hn)).1 h)
        exact ⟨h1, _, h2, rfl, rfl, rfl, rfl, List.nil_append _⟩

end read

theorem createFold_sinv {env : Env} {t : Node} {g : Hist} (hg : HistOK t g) (hd : t.NamesDistinct) (hn : t.NamesOk)
    (fmts : List String) (noDir : Bool) (pats : List String) (hit : RelPath → Bool) :
    SInv env t g fmts (visitSpecHashes env t fmts hit noDir) pats
      ((traverse hit [] t).foldl (createVisit env t g fmts noDir) { session := { patterns := pats } }).session
      (recItems (traverse hit [] t)) := by
  rw [createFold_session env t g fmts hit noDir hd]
  exact sinv_addAll hg hit noDir (recItems_itemsOk hg hit hd hn) pats

/-! ## a history without nested histories: one list, rooted at the command root -/

section flat
variable {env : Env} {t : Node} {g : Hist} {fmts : List String} (hc : g.children = []) (hr : g.root = [])
  (hfm : fmts ≠ []) (hit : RelPath → Bool) (noDir : Bool)
include hc hr hfm

theorem itemWrites_flat (x : RelPath × Bool) :
    ∃ w, itemWrites env t g fmts hit noDir x = [w] ∧ w.root = [] ∧ w.path = posix x.1 ∧
      RecFor env t g fmts x w.record := by
  obtain ⟨p, b⟩ := x
  cases b
  · have hne := sealEntries_ne_nil (route g p).1.gens (posix (relOf g p)) (fun f => env.H f (fileContent t p)) fmts hfm
    have hw : itemWrites env t g fmts hit noDir (p, false) = [_] :=
      (if_neg Bool.false_ne_true : itemWrites env t g fmts hit noDir (p, false) = fileWrites env t g fmts p).trans
        (if_neg (by simpa using hne))
    refine ⟨_, hw, ?_, ?_, ?_⟩ <;> simp only [ownerOf, relOf, route_flat g hc, hr]
    exact ⟨rfl, rfl, rfl, fun _ => ⟨rfl, by simp [Wr.record, fileUpd]⟩, fun h => Bool.noConfusion h⟩
  · refine ⟨⟨[], posix p, none, dirUpd (visitSpecHashes env t fmts hit noDir p)⟩, ?_, rfl, rfl,
      ⟨rfl, rfl, rfl, fun h => Bool.noConfusion h, fun _ => ⟨rfl, dirUpd_actions _ _⟩⟩⟩
    simp only [itemWrites, if_true, dirWrites, ownerOf, relOf, route_flat g hc, hr, parentRoot_flat g hc]
    split <;> rfl

theorem records_flat (L : List (RelPath × Bool)) (hn : ∀ x ∈ L, ∀ n ∈ x.1, NameOk n) :
    List.Forall₂ (RecFor env t g fmts) (nonRoot L) (listOf (L.flatMap (itemWrites env t g fmts hit noDir)) []).records := by
  unfold listOf
  induction L with
  | nil => exact List.Forall₂.nil
  | cons x L ih =>
    obtain ⟨w, hw, hR, hp, hrec⟩ := itemWrites_flat (env := env) (t := t) hc hr hfm hit noDir x
    have ih := ih fun y hy => hn y (List.mem_cons_of_mem _ hy)
    have hdot : (w.path != ".") = !x.1.isEmpty := by
      have := posix_eq_dot (hn x List.mem_cons_self)
      rw [hp]; cases h : x.1 <;> simp_all
    simp only [List.flatMap_cons, hw, List.singleton_append, nonRoot, List.filter_cons, hR, hdot,
      beq_self_eq_true, Bool.true_and]
    split
    · exact List.Forall₂.cons hrec ih
    · exact ih

end flat

theorem Session.lists_flat (s : Session) (hnd : s.roots.Nodup) (h : ∀ R ∈ s.roots, R = []) :
    s.lists = [] ∨ s.lists = [s.get []] := by
  unfold Session.roots at hnd h
  match hl : s.lists with
  | [] => exact Or.inl rfl
  | [l] => exact .inr (by rw [← h l.root (by simp [hl]), s.get_of_mem hnd (hl ▸ List.mem_singleton_self l)])
  | l :: l' :: _ =>
    rw [hl] at hnd h
    simp [h l.root (by simp), h l'.root (by simp)] at hnd

/-! ## the other fields of the state after the fold: found paths, failures, new paths -/

theorem visiblePaths_map_fst (hit : RelPath → Bool) (t : Node) :
    (visiblePaths hit t).map (·.1) = (traverse hit [] t).flatMap visitFound := by
  unfold visiblePaths visitFound
  rw [List.map_flatMap]
  simp [List.map_map, Function.comp_def]

theorem createFold_found (env : Env) (t : Node) (h : Hist) (fmts : List String) (noDir : Bool)
    (vs : List Visit) (st : CreateState) :
    (vs.foldl (createVisit env t h fmts noDir) st).found = st.found ++ vs.flatMap visitFound := by
  induction vs generalizing st with
  | nil => simp
  | cons v vs ih => rw [List.foldl_cons, ih, createVisit_found, List.flatMap_cons, List.append_assoc]

theorem createFold_failed (env : Env) (t : Node) (h : Hist) (fmts : List String) (noDir : Bool)
    (vs : List Visit) (st : CreateState)
    (hok : ∀ v ∈ vs, ∀ ch ∈ v.children, ch.2 = false →
      ∀ r ∈ (sealEntries (route h (v.folder ++ [ch.1])).1.gens (posix (route h (v.folder ++ [ch.1])).2)
        (fun f => env.H f (fileContent t (v.folder ++ [ch.1]))) fmts).2, r.2.2 = true)
    (h0 : st.failed = 0 ∧ st.mismatch = []) :
    (vs.foldl (createVisit env t h fmts noDir) st).failed = 0 ∧
      (vs.foldl (createVisit env t h fmts noDir) st).mismatch = [] :=
  foldl_invariant (fun (st' : CreateState) => st'.failed = 0 ∧ st'.mismatch = []) _ vs
    (fun b a ha hP => createVisit_failed env t h fmts noDir b a (hok a ha) hP) st h0

open MhlProps.C02rec in
theorem cSession_patterns (env : Env) (t : Node) (rootHist : Hist) (o : CreateOpts) :
    (cSession env t rootHist o).patterns = setPatterns (latestIgnore rootHist.gens) o.ignoreCli o.ignoreFile :=
  createFold_patterns ..

open MhlProps.C02rec in
theorem cState_found (env : Env) (t : Node) (rootHist : Hist) (o : CreateOpts) :
    (cState env t rootHist o).found = (visiblePaths (cHit env rootHist o) t).map (·.1) := by
  unfold cState
  rw [createFold_found, visiblePaths_map_fst]
  rfl

theorem createVisit_newPaths (env : Env) (t : Node) (h : Hist) (fmts : List String) (noDir : Bool)
    (st : CreateState) (v : Visit) :
    (createVisit env t h fmts noDir st v).newPaths =
      ((visitFound v).filter (isNewPath h)).foldl appendNew st.newPaths := by
  rw [createVisit_eq, List.foldl_filter]
  exact foldl_childStep_newPaths env t h fmts noDir v.folder v.children _

theorem createFold_newPaths (env : Env) (t : Node) (h : Hist) (fmts : List String) (noDir : Bool)
    (vs : List Visit) (st : CreateState) :
    (vs.foldl (createVisit env t h fmts noDir) st).newPaths =
      ((vs.flatMap visitFound).filter (isNewPath h)).foldl appendNew st.newPaths := by
  induction vs generalizing st with
  | nil => rfl
  | cons v vs ih =>
    rw [List.foldl_cons, ih, createVisit_newPaths, List.flatMap_cons, List.filter_append, List.foldl_append]

open MhlProps.C02rec in
/-- the new paths of the run: the visited paths no record of (some generation of) the root history names -/
theorem cState_newPaths (env : Env) (t : Node) (rootHist : Hist) (o : CreateOpts) (hd : t.NamesDistinct) :
    (cState env t rootHist o).newPaths =
      ((visiblePaths (cHit env rootHist o) t).map (·.1)).filter (isNewPath rootHist) := by
  unfold cState
  rw [createFold_newPaths, ← visiblePaths_map_fst,
    foldl_appendNew_of_nodup _ _ (by simpa using (visiblePaths_fst_nodup _ t hd).filter _)]
  rfl

end MhlModel
