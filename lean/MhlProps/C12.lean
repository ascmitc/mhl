/-
C12 — Ignore patterns exclude consistently and only ever accumulate.

Pattern-list part: `MhlModel.appendPatterns` / `setPatterns` (ascmhl/ignore.py `MHLIgnoreSpec`) and the list written
by `writeOne` (generator.py `commit`); what the three list functions compute is in MhlProps/Proofs/PatternLemmas.lean.
The exclusion part ("a matched path is never hashed, recorded, part of a directory hash, reported new or missing")
rests on one lemma about the traversal that all four commands share
(`MhlProps.C02.ignored_nowhere`); it is carried through whole commands on nested trees in MhlProps/C12nested.lean.
The matcher itself (pathspec gitwildmatch) is a parameter of the model.
-/
import MhlProps.Proofs.PatternLemmas
import MhlProps.Proofs.SealLemmas

namespace MhlProps.C12
open MhlModel

/-! ### appending patterns -/

/-- the existing list is a prefix of the result: patterns are never dropped or reordered -/
theorem appendPatterns_prefix (cur batch : List String) : cur <+: appendPatterns cur batch :=
  prefix_foldl_appendNew batch cur

/-- no duplicates are ever introduced - not even by a batch that repeats a pattern -/
theorem appendPatterns_nodup (cur batch : List String) (h : cur.Nodup) : (appendPatterns cur batch).Nodup :=
  (nodup_appendPatterns cur batch).2 h

/-- the part that is added: the new patterns that were not present, each once, in the order given -/
theorem appendPatterns_eq (cur batch : List String) :
    ∃ added, appendPatterns cur batch = cur ++ added ∧ (∀ x ∈ added, x ∈ batch ∧ x ∉ cur) ∧
      (cur.Nodup → (cur ++ added).Nodup) := by
  obtain ⟨added, he, -, -, hm⟩ := foldl_appendNew_eq batch cur
  exact ⟨added, he, fun x hx => (hm x).1 hx, fun h => he ▸ appendPatterns_nodup cur batch h⟩

/-! ### the list written into a generation -/

theorem defaults_nodup : Gen.defaultIgnore.Nodup := by decide +kernel

/-- the three default patterns: `.DS_Store` and the `ascmhl` folder, both as a name and as a directory pattern -/
theorem defaults_are : Gen.defaultIgnore = [".DS_Store", "ascmhl", "ascmhl/"] ∧ Gen.folderName = "ascmhl" := by decide +kernel

/-- without a previous generation the list starts with the defaults -/
theorem setPatterns_fresh (cli file : List String) :
    Gen.defaultIgnore <+: setPatterns none cli file :=
  basePatterns_none ▸ basePatterns_prefix_setPatterns none cli file

/-- with a previous generation whose (duplicate-free, non-empty) list is `prev`: `prev` is a prefix of the new list,
in the same order -/
theorem setPatterns_keeps_previous (prev cli file : List String) (hne : prev ≠ []) (hnd : prev.Nodup) :
    prev <+: setPatterns (some prev) cli file := by
  have := basePatterns_prefix_setPatterns (some prev) cli file
  rwa [basePatterns_some prev hne hnd] at this

/-- every pattern given on the command line or in the pattern file ends up in the list -/
theorem setPatterns_contains_new (ex : Option (List String)) (cli file : List String) :
    (∀ p ∈ cli, p ∈ setPatterns ex cli file) ∧ (∀ p ∈ file, p ∈ setPatterns ex cli file) :=
  ⟨fun p hp => (mem_setPatterns ex cli file p).2 (Or.inr (Or.inl hp)),
    fun p hp => (mem_setPatterns ex cli file p).2 (Or.inr (Or.inr hp))⟩

/-- the list written is duplicate free whatever was recorded before and whatever is given -/
theorem setPatterns_nodup (ex : Option (List String)) (cli file : List String) :
    (setPatterns ex cli file).Nodup :=
  nodup_setPatterns ex cli file

/-- a generation written into a (nested) history during a run carries that history's previous list followed by the
patterns of the run's session (those of the root history's latest generation plus the new ones) -/
theorem written_ignore (rootHist : Hist) (s : Session) (fn stamp process : String) (cb : Option String) (h : Hist)
    (refs : List Written) (w : Written) (hw : writeOne rootHist s fn stamp process cb h refs = .ok w) :
    w.gen.ignore = setPatterns (latestIgnore h.gens) s.patterns [] := by
  obtain ⟨recs, -, rfl⟩ := writeOne_ok_eq rootHist s fn stamp process cb h refs w hw
  rfl

theorem written_contains_session_patterns (rootHist : Hist) (s : Session) (fn stamp process : String)
    (cb : Option String) (h : Hist) (refs : List Written) (w : Written)
    (hw : writeOne rootHist s fn stamp process cb h refs = .ok w) : ∀ p ∈ s.patterns, p ∈ w.gen.ignore := by
  rw [written_ignore rootHist s fn stamp process cb h refs w hw]
  exact (setPatterns_contains_new _ _ _).1

example : setPatterns (some [".DS_Store", "ascmhl", "ascmhl/", "*.tmp"]) ["*.bak", "*.tmp", "*.bak"] ["x/"]
    = [".DS_Store", "ascmhl", "ascmhl/", "*.tmp", "*.bak", "x/"] := by decide +kernel

end MhlProps.C12
