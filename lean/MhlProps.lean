import MhlProps.Proofs.CodecLemmas
import MhlProps.Proofs.HashingLemmas
import MhlProps.C01
import MhlProps.C04
import MhlProps.C12
import MhlProps.C08
import MhlProps.C02
import MhlProps.C18
import MhlProps.C06
import MhlProps.C07
import MhlProps.C03
import MhlProps.C14
import MhlProps.C05
import MhlProps.C09
import MhlProps.C19
import MhlProps.C13
import MhlProps.C17
import MhlProps.C16
import MhlProps.C20
import MhlProps.C15
import MhlProps.CrashRun
import MhlProps.C10
import MhlProps.C11
import MhlProps.C07impl
import MhlProps.C02rec
import MhlProps.C09e2e
import MhlProps.C03e2e
import MhlProps.C06seq
import MhlProps.C18e2e
import MhlProps.C17detect
import MhlProps.C08part
import MhlProps.C04nested
import MhlProps.C02sf
import MhlProps.C12nested
import MhlProps.C05e2e
import MhlProps.C19seq
import MhlProps.C09nested
import MhlProps.C03nested
import MhlProps.Paths
import MhlProps.Civil
import MhlProps.C18order
