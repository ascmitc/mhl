/-
C05e2e — C05 END TO END, composed from the model's own operations.

  After any run of creates, if the bytes of any manifest listed in a chain differ from what was hashed when it was
  written (state `.modified`), or such a manifest is missing (state `.missing`), or the chain file of an existing
  `ascmhl` folder is missing, then every command refuses with the dedicated code (31 modified / 33 manifest missing /
  32 chain missing), reports nothing and writes nothing; an untouched history never refuses.

The damage is a tree operation on the store of the folder at a path `r` (`r = []`: the root history), defined in
Proofs/TamperLemmas.lean: `tamperGen t r k` (the `k`-th stored manifest, 0-based, gets state `.modified`),
`removeGen t r k` (`.missing`, as the driver's `tamper` operation: the chain entry stays), `removeChain t r`, in general
`damageAt g t r`.  One statement carries sections 2 – 4: `damage_outcome`, loading after ANY damage `g` to the store `s`
of the folder at ANY path of a tree that loads says what is wrong with `g s`.  The runs are those of C06seq; what is
used of them is `run_shape`.  The statement for an ARBITRARY stored manifest is false (comment at section 4; witnesses
`unlisted_not_loaded_witness`, `nested_tamper_shadowed_false`).
Examples: `exSteps` of C06seq and the nested trees of C04nested; what has to be evaluated of each (`exT_facts`,
`big2_A`, `c2_sub`) is evaluated once by `decide +kernel`, the examples follow from that through the theorems.
-/
import MhlProps.C04nested
import MhlProps.C05
import MhlProps.C06seq
import MhlProps.Proofs.TamperLemmas

namespace MhlProps.C05e2e
open MhlModel MhlProps.C05 MhlProps.C06seq

/-! ### 1. an untouched history never refuses -/

theorem untouched_run_loads (env : Env) (hrn : '\n' ∉ env.rootName.toList) (t : Node) (hdir : t.isDir = true)
    (hn : noNested t = true) (hh : t.hist = none) (steps : List Step) (hok : ∀ st ∈ steps, st.Ok) :
    ∃ h, loadHistory (run env t steps) = .ok h := by
  obtain ⟨n, -, hi⟩ := run_inv env hrn t hdir hn hh steps hok
  obtain ⟨h, hl, -⟩ := hi.good
  exact ⟨h, hl⟩

theorem ok_never_chain_error (env : Env) (t : Node) (h : Hist) (hl : loadHistory t = .ok h) (e : Err)
    (he : ChainErr e) (o : CreateOpts) (vo : VerifyOpts) (dop : DhOpts) (a b : List String) (f : RelPath) :
    (createFolder env t o).err ≠ some e ∧ (createSingleFiles env t o).err ≠ some e ∧ (create env t o).err ≠ some e ∧
    (verify env t vo).err ≠ some e ∧ (diff env t vo).err ≠ some e ∧ (verifyDh env t dop).err ≠ some e ∧
    (flatten env t a b).err ≠ some e ∧ info t ≠ .error e ∧ infoSingleFile t f ≠ .error e := by
  have nc : ∀ x, OwnEnd x → x ≠ some e := fun x hx => ownEnd_not_chain x hx e he
  refine ⟨nc _ (createFolder_ownEnd env t o h hl), nc _ (createSingleFiles_ownEnd env t o h hl),
    nc _ (create_ownEnd env t o h hl), nc _ (verifyOrDiff_ownEnd env t vo true h hl),
    nc _ (verifyOrDiff_ownEnd env t _ false h hl), nc _ (verifyDh_ownEnd env t dop h hl),
    nc _ (flatten_ownEnd env t a b h hl), ?_, ?_⟩
  · intro hx; exact nc _ (info_ownEnd t h hl) (by rw [hx]; rfl)
  · intro hx; exact nc _ (infoSingleFile_ownEnd t f h hl) (by rw [hx]; rfl)

/-- An untouched history never refuses: after any run of creates from a folder without history, whatever command
comes next (with any parameters `env'`, which need not be those of the run) does not end with 31, 32 or 33 -/
theorem untouched_never_refuses (env : Env) (hrn : '\n' ∉ env.rootName.toList) (t : Node) (hdir : t.isDir = true)
    (hn : noNested t = true) (hh : t.hist = none) (steps : List Step) (hok : ∀ st ∈ steps, st.Ok)
    (env' : Env) (code : Nat) (hc : code = 31 ∨ code = 33 ∨ code = 32)
    (o : CreateOpts) (vo : VerifyOpts) (dop : DhOpts) (a b : List String) (f : RelPath) :
    let T := run env t steps
    (createFolder env' T o).err ≠ some (.exit code) ∧ (createSingleFiles env' T o).err ≠ some (.exit code) ∧
    (create env' T o).err ≠ some (.exit code) ∧ (verify env' T vo).err ≠ some (.exit code) ∧
    (diff env' T vo).err ≠ some (.exit code) ∧ (verifyDh env' T dop).err ≠ some (.exit code) ∧
    (flatten env' T a b).err ≠ some (.exit code) ∧ info T ≠ .error (.exit code) ∧
    infoSingleFile T f ≠ .error (.exit code) := by
  intro T
  obtain ⟨h, hl⟩ := untouched_run_loads env hrn t hdir hn hh steps hok
  have he : ChainErr (.exit code) := by
    obtain ⟨e1, e2, e3⟩ := exit_codes
    rcases hc with rfl | rfl | rfl
    exacts [Or.inl e1.symm, Or.inr (Or.inl e3.symm), Or.inr (Or.inr e2.symm)]
  exact ok_never_chain_error env' T h hl _ he o vo dop a b f

/-- the three codes are reserved: a command ends with `e` ∈ {31, 33, 32} IF AND ONLY IF loading the history fails
with `e` (⇐ is `C05.commands_refuse`, ⇒ is `ok_never_chain_error`) -/
theorem chain_error_iff_load_fails (env : Env) (t : Node) (e : Err) (he : ChainErr e)
    (o : CreateOpts) (vo : VerifyOpts) (dop : DhOpts) (a b : List String) (f : RelPath) :
    ((createFolder env t o).err = some e ↔ loadHistory t = .error e) ∧
    ((createSingleFiles env t o).err = some e ↔ loadHistory t = .error e) ∧
    ((create env t o).err = some e ↔ loadHistory t = .error e) ∧
    ((verify env t vo).err = some e ↔ loadHistory t = .error e) ∧
    ((diff env t vo).err = some e ↔ loadHistory t = .error e) ∧
    ((verifyDh env t dop).err = some e ↔ loadHistory t = .error e) ∧
    ((flatten env t a b).err = some e ↔ loadHistory t = .error e) ∧
    (info t = .error e ↔ loadHistory t = .error e) ∧
    (infoSingleFile t f = .error e ↔ loadHistory t = .error e) := by
  cases hl : loadHistory t with
  | error e' =>
    obtain ⟨h1, h2, h3, h4, h5, h6, h7, h8, h9⟩ := commands_refuse env t e' hl o vo dop a b f
    rw [h1, h2, h3, h4, h5, h6, h7, h8, h9]
    simp [refusal]
  | ok h =>
    obtain ⟨h1, h2, h3, h4, h5, h6, h7, h8, h9⟩ := ok_never_chain_error env t h hl e he o vo dop a b f
    simp [h1, h2, h3, h4, h5, h6, h7, h8, h9]

/-! ### damage at one folder: loading says what is wrong with the damaged store -/

/-- The general form of sections 2 – 4.  A tree that loads; sibling names distinct along the path `r`; the folder at
`r` (any depth; `r = []` is the root) holds the store `s`.  After ANY damage `g` to that store, loading fails with the fault of
`g s` — the stores of the parent folders are checked first and are fine, then the walk reaches `r` — and succeeds if
`g s` has none. -/
theorem damage_outcome (t : Node) (r : RelPath) (hd : t.DistinctAlong r) (h : Hist) (hl : loadHistory t = .ok h)
    (s : HistStore) (hs : storeAt t r = some s) (g : HistStore → HistStore) :
    exceptErr (loadHistory (damageAt g t r)) = storeFault (some (g s)) := by
  obtain ⟨d, hat, hds⟩ := (storeAt_eq_some t r s).1 hs
  rw [loadHistory_err, allFaults_damageAt g r t d s hd ((loadHistory_ok_iff t).1 ⟨h, hl⟩) hat hds]
  cases storeFault (some (g s)) <;> rfl

/-- Any tree that loads, the folder at any path `r` (`[]`: the root) holding the store `s`: with the chain file of `s`
deleted loading fails with 32; with the `k`-th stored manifest altered it fails with 31, deleted with 33, provided
that manifest is listed in the chain and is the first stored manifest of its name, so that the chain entry means this
file (always so in a folder on disk, where names are unique). -/
theorem tamper_refuses_at (t : Node) (r : RelPath) (hd : t.DistinctAlong r) (h : Hist)
    (hl : loadHistory t = .ok h) (s : HistStore) (hs : storeAt t r = some s) :
    loadHistory (removeChain t r) = .error errNoChain ∧
    ∀ (k : Nat) (g : Generation), s.gens[k]? = some g → (∃ e ∈ s.chain, e.fileName = g.fileName) →
      (∀ j < k, ∀ g', s.gens[j]? = some g' → g'.fileName ≠ g.fileName) →
      loadHistory (tamperGen t r k) = .error errModified ∧
      loadHistory (removeGen t r k) = .error errMissingManifest := by
  have key : ∀ (g : HistStore → HistStore) (x : Err), storeFault (some (g s)) = some x →
      loadHistory (damageAt g t r) = .error x :=
    fun g x hx => error_of_decide _ _ ((damage_outcome t r hd h hl s hs g).trans hx)
  refine ⟨key _ _ (storeFault_dropChain s), ?_⟩
  intro k g hk hch hfirst
  -- in a tree that loads every store passes its checks
  have hfine := storeFault_of_allFaults_nil t ((loadHistory_ok_iff t).1 ⟨h, hl⟩) r s hs
  exact ⟨key _ _ (storeFault_mark s hfine k g hk hch hfirst .modified (by decide)),
    key _ _ (storeFault_mark s hfine k g hk hch hfirst .missing (by decide))⟩

/-- a store in the shape the tool leaves: pairwise different manifest names, every manifest listed in the chain
(`MhlProps.C06.Listed`; `HistStore.add` keeps it, `C06.listed_add`) -/
abbrev Listed (s : HistStore) : Prop := MhlProps.C06.Listed s

theorem listed_iff (s : HistStore) :
    Listed s ↔ (s.gens.map (·.fileName)).Nodup ∧ ∀ g ∈ s.gens, ∃ e ∈ s.chain, e.fileName = g.fileName := by
  unfold Listed MhlProps.C06.Listed
  constructor
  · rintro ⟨h1, h2⟩; exact ⟨h1, fun g hg => (MhlProps.C06.lists_iff s _).1 (h2 g hg)⟩
  · rintro ⟨h1, h2⟩; exact ⟨h1, fun g hg => (MhlProps.C06.lists_iff s _).2 (h2 g hg)⟩

/-- for a store in that shape every stored manifest qualifies -/
theorem tamper_refuses_listed (t : Node) (r : RelPath) (hd : t.DistinctAlong r) (h : Hist)
    (hl : loadHistory t = .ok h) (s : HistStore) (hs : storeAt t r = some s) (hlist : Listed s)
    (k : Nat) (hk : k < s.gens.length) :
    loadHistory (tamperGen t r k) = .error errModified ∧
    loadHistory (removeGen t r k) = .error errMissingManifest ∧
    loadHistory (removeChain t r) = .error errNoChain := by
  obtain ⟨h1, h2⟩ := tamper_refuses_at t r hd h hl s hs
  have hget : s.gens[k]? = some s.gens[k] := List.getElem?_eq_getElem hk
  obtain ⟨h3, h4⟩ := h2 k s.gens[k] hget (((listed_iff s).1 hlist).2 _ (List.getElem_mem hk))
    (first_of_name s.gens hlist.1 k _ hget)
  exact ⟨h3, h4, h1⟩

/-! ### 2. a damaged root history: every command refuses -/

theorem run_shape (env : Env) (hrn : '\n' ∉ env.rootName.toList) (t : Node) (hdir : t.isDir = true)
    (hn : noNested t = true) (hh : t.hist = none) (steps : List Step) (hok : ∀ st ∈ steps, st.Ok)
    (hpos : 0 < (gensOf (run env t steps)).length) :
    ∃ nm cs gs, run env t steps = .dir nm cs (some { gens := gs, chain := chainFrom 1 gs, chainPresent := true }) ∧
      gensOf (run env t steps) = gs ∧ (∃ h, loadHistory (run env t steps) = .ok h) ∧ (gs.map (·.fileName)).Nodup ∧
      ∀ g ∈ gs, g.state = .ok := by
  obtain ⟨n, -, hi⟩ := run_inv env hrn t hdir hn hh steps hok
  generalize hgs : gensOf (run env t steps) = gs at hi hpos
  generalize run env t steps = T at hi hgs
  cases T with
  | file nm c => exact absurd hi.isDir (by simp [Node.isDir])
  | dir nm cs h =>
    rcases hi.exact with ⟨-, h2⟩ | h1
    · subst h2; simp at hpos
    · have h1' : h = some { gens := gs, chain := chainFrom 1 gs, chainPresent := true } := h1
      subst h1'
      refine ⟨nm, cs, gs, rfl, rfl, ⟨_, hi.good.choose_spec.1⟩, goodHist_names _ _ _ hi.good, ?_⟩
      obtain ⟨_, _, _, _, _, hst⟩ := hi.good
      exact hst _ rfl

/-- any folder in the shape a run leaves, whatever is below it -/
theorem run_shape_fault (nm : String) (cs : List Node) (gs gs' : List Generation)
    (hl : ∃ h, loadHistory (.dir nm cs (some { gens := gs, chain := chainFrom 1 gs, chainPresent := true })) = .ok h)
    (hnd : (gs.map (·.fileName)).Nodup) (hn : gs'.map (·.fileName) = gs.map (·.fileName)) (b : Bool) :
    exceptErr (loadHistory (.dir nm cs (some { gens := gs', chain := chainFrom 1 gs, chainPresent := b }))) =
      if b then gs'.findSome? genFault else some errNoChain := by
  obtain ⟨h, hl⟩ := hl
  rw [← storeFault_listed gs' 1 b (by rw [hn]; exact hnd), ← chainFrom_congr gs gs' 1 hn.symm]
  exact damage_outcome _ [] trivial h hl _ rfl fun s => { s with gens := gs', chainPresent := b }

theorem run_shape_lowest (nm : String) (cs : List Node) (gs gs' : List Generation)
    (hl : ∃ h, loadHistory (.dir nm cs (some { gens := gs, chain := chainFrom 1 gs, chainPresent := true })) = .ok h)
    (hnd : (gs.map (·.fileName)).Nodup) (hn : gs'.map (·.fileName) = gs.map (·.fileName))
    (i : Nat) (g : Generation) (x : Err) (hi : gs'[i]? = some g) (hx : genFault g = some x)
    (hlow : ∀ j < i, ∀ g', gs'[j]? = some g' → g'.state = .ok) :
    loadHistory (.dir nm cs (some { gens := gs', chain := chainFrom 1 gs, chainPresent := true })) = .error x := by
  apply error_of_decide
  rw [run_shape_fault nm cs gs gs' hl hnd hn true, if_pos rfl]
  exact findSome?_first genFault gs' i g x hi hx
    (fun j hj g' hg' => by unfold genFault; rw [hlow j hj g' hg']; rfl)

theorem tamper_refuses (env : Env) (hrn : '\n' ∉ env.rootName.toList) (t : Node) (hdir : t.isDir = true)
    (hn : noNested t = true) (hh : t.hist = none) (steps : List Step) (hok : ∀ st ∈ steps, st.Ok)
    (k : Nat) (hk : k < (gensOf (run env t steps)).length) :
    loadHistory (tamperGen (run env t steps) [] k) = .error errModified ∧
    loadHistory (removeGen (run env t steps) [] k) = .error errMissingManifest ∧
    loadHistory (removeChain (run env t steps) []) = .error errNoChain := by
  obtain ⟨nm, cs, gs, hT, hgs, ⟨h, hl⟩, hnd, -⟩ := run_shape env hrn t hdir hn hh steps hok (by omega)
  rw [hgs] at hk
  exact tamper_refuses_listed _ [] trivial h hl _ (by rw [hT]; rfl) (listed_of_chainFrom gs 1 true hnd) k hk

/-- the conclusion of `C05.commands_refuse` for all parameters of the nine command forms, under a name -/
def AllRefuse (env : Env) (t : Node) (e : Err) : Prop :=
  ∀ (o : CreateOpts) (vo : VerifyOpts) (dop : DhOpts) (a b : List String) (f : RelPath),
    createFolder env t o = refusal e ∧ createSingleFiles env t o = refusal e ∧ create env t o = refusal e ∧
    verify env t vo = refusal e ∧ diff env t vo = refusal e ∧ verifyDh env t dop = refusal e ∧
    flatten env t a b = refusal e ∧ info t = .error e ∧ infoSingleFile t f = .error e

theorem allRefuse_of_load (env : Env) (t : Node) (e : Err) (h : loadHistory t = .error e) : AllRefuse env t e :=
  fun o vo dop a b f => commands_refuse env t e h o vo dop a b f

/-- the fields of `C05.refusal_fields` at an exit code, and the exit code itself -/
theorem refusal_spelled (code : Nat) :
    (refusal (.exit code)).exitCode = code ∧ (refusal (.exit code)).err = some (.exit code) ∧
    (refusal (.exit code)).written = [] ∧
    (refusal (.exit code)).report.mismatch = [] ∧ (refusal (.exit code)).report.missing = [] ∧
    (refusal (.exit code)).report.new = [] ∧ (refusal (.exit code)).report.renamed = [] ∧
    (refusal (.exit code)).report.dirMismatch = [] ∧ (refusal (.exit code)).report.lines = [] :=
  ⟨rfl, rfl, rfl, rfl, rfl, rfl, rfl, rfl, rfl⟩

/-- After any run with n ≥ 1 generations and for every k < n: on the tree with the k-th manifest altered all nine
command forms (run with any parameters `env'`) are `refusal (.exit 31)`; with the manifest deleted
`refusal (.exit 33)`; with the chain file deleted `refusal (.exit 32)` — exit code 31 / 33 / 32, empty report,
`written = []` (`refusal_spelled`). -/
theorem tamper_all_commands_refuse (env : Env) (hrn : '\n' ∉ env.rootName.toList) (t : Node)
    (hdir : t.isDir = true) (hn : noNested t = true) (hh : t.hist = none) (steps : List Step)
    (hok : ∀ st ∈ steps, st.Ok) (k : Nat) (hk : k < (gensOf (run env t steps)).length) (env' : Env) :
    AllRefuse env' (tamperGen (run env t steps) [] k) (.exit 31) ∧
    AllRefuse env' (removeGen (run env t steps) [] k) (.exit 33) ∧
    AllRefuse env' (removeChain (run env t steps) []) (.exit 32) := by
  obtain ⟨h1, h2, h3⟩ := tamper_refuses env hrn t hdir hn hh steps hok k hk
  obtain ⟨e1, e2, e3⟩ := exit_codes
  rw [e1] at h1; rw [e3] at h2; rw [e2] at h3
  exact ⟨allRefuse_of_load _ _ _ h1, allRefuse_of_load _ _ _ h2, allRefuse_of_load _ _ _ h3⟩

/-! ### 3. several faults: the first one in generation order wins, a missing chain file wins over everything -/

/-- the stored manifests replaced by ANY manifests `gs'` of the same names in the same order (any combination of
intact, altered and deleted manifests), the chain file kept or deleted (`b`): 32 if the chain file is gone, else the
fault of the FIRST manifest in generation order that is not intact (later damage is never looked at), and success iff
there is none (`exceptErr x = none ↔ ∃ h, x = .ok h`) -/
theorem first_fault_wins (env : Env) (hrn : '\n' ∉ env.rootName.toList) (t : Node) (hdir : t.isDir = true)
    (hn : noNested t = true) (hh : t.hist = none) (steps : List Step) (hok : ∀ st ∈ steps, st.Ok)
    (hpos : 0 < (gensOf (run env t steps)).length) (gs' : List Generation)
    (hnames : gs'.map (·.fileName) = (gensOf (run env t steps)).map (·.fileName)) (b : Bool) :
    exceptErr (loadHistory (damageAt (fun s => { s with gens := gs', chainPresent := b }) (run env t steps) [])) =
      if b then gs'.findSome? genFault else some errNoChain := by
  obtain ⟨nm, cs, gs, hT, hgs, hld, hnd, -⟩ := run_shape env hrn t hdir hn hh steps hok hpos
  rw [hgs] at hnames
  rw [hT]
  exact run_shape_fault nm cs gs gs' (hT ▸ hld) hnd hnames b

/-- the lowest-numbered damaged generation decides: generation i+1 is damaged (fault `x`), generations 1..i are
intact, anything may be wrong with the later ones -/
theorem first_fault_lowest (env : Env) (hrn : '\n' ∉ env.rootName.toList) (t : Node) (hdir : t.isDir = true)
    (hn : noNested t = true) (hh : t.hist = none) (steps : List Step) (hok : ∀ st ∈ steps, st.Ok)
    (gs' : List Generation) (hnames : gs'.map (·.fileName) = (gensOf (run env t steps)).map (·.fileName))
    (i : Nat) (g : Generation) (x : Err) (hi : gs'[i]? = some g) (hx : genFault g = some x)
    (hlow : ∀ j < i, ∀ g', gs'[j]? = some g' → g'.state = .ok) :
    loadHistory (damageAt (fun s => { s with gens := gs', chainPresent := true }) (run env t steps) []) =
      .error x := by
  have hpos : 0 < (gensOf (run env t steps)).length := by
    have h1 : i < gs'.length := (List.getElem?_eq_some_iff.1 hi).1
    have h2 := congrArg List.length hnames
    simp only [List.length_map] at h2
    omega
  obtain ⟨nm, cs, gs, hT, hgs, hld, hnd, -⟩ := run_shape env hrn t hdir hn hh steps hok hpos
  rw [hgs] at hnames
  rw [hT]
  exact run_shape_lowest nm cs gs gs' (hT ▸ hld) hnd hnames i g x hi hx hlow

/-- two damaged manifests j < k, in terms of the tree operations (applied in either order): the LOWER one decides —
j deleted and k altered gives 33, j altered and k deleted gives 31 -/
theorem two_faults_lowest_wins (env : Env) (hrn : '\n' ∉ env.rootName.toList) (t : Node) (hdir : t.isDir = true)
    (hn : noNested t = true) (hh : t.hist = none) (steps : List Step) (hok : ∀ st ∈ steps, st.Ok)
    (j k : Nat) (hjk : j < k) (hk : k < (gensOf (run env t steps)).length) :
    let T := run env t steps
    loadHistory (tamperGen (removeGen T [] j) [] k) = .error errMissingManifest ∧
    loadHistory (removeGen (tamperGen T [] k) [] j) = .error errMissingManifest ∧
    loadHistory (removeGen (tamperGen T [] j) [] k) = .error errModified ∧
    loadHistory (tamperGen (removeGen T [] k) [] j) = .error errModified := by
  intro T
  obtain ⟨nm, cs, gs, hT, hgs, hld, hnd, hst⟩ := run_shape env hrn t hdir hn hh steps hok (by omega)
  rw [hgs] at hk
  have hj : j < gs.length := by omega
  -- among the manifests `markGens s1 j (markGens s2 k gs)` the `j`-th is the first that is not intact
  have key : ∀ (s1 s2 : FileState) (x : Err), stateFault s1 = some x →
      loadHistory (.dir nm cs (some
        { gens := markGens s1 j (markGens s2 k gs), chain := chainFrom 1 gs, chainPresent := true })) = .error x :=
      fun s1 s2 x hx =>
    run_shape_lowest nm cs gs _ (hT ▸ hld) hnd (by rw [markGens_names, markGens_names]) j
      { gs[j] with state := s1 } x
      (by rw [markGens_getElem?, if_pos rfl, markGens_getElem?, if_neg (Nat.ne_of_lt hjk),
        List.getElem?_eq_getElem hj]; rfl) hx
      (fun i hi g' hg' => by
        rw [markGens_getElem?, if_neg (Nat.ne_of_lt hi), markGens_getElem?,
          if_neg (Nat.ne_of_lt (Nat.lt_trans hi hjk))] at hg'
        exact hst g' (List.mem_of_getElem? hg'))
  -- the two operations applied in the other order give the same store
  have key' : ∀ (s1 s2 : FileState) (x : Err), stateFault s1 = some x →
      loadHistory (.dir nm cs (some
        { gens := markGens s2 k (markGens s1 j gs), chain := chainFrom 1 gs, chainPresent := true })) = .error x :=
      fun s1 s2 x hx => by
    rw [markGens_comm s1 s2 j k (Nat.ne_of_lt hjk)]
    exact key s1 s2 x hx
  show loadHistory (tamperGen (removeGen (run env t steps) [] j) [] k) = _ ∧
    loadHistory (removeGen (tamperGen (run env t steps) [] k) [] j) = _ ∧
    loadHistory (removeGen (tamperGen (run env t steps) [] j) [] k) = _ ∧
    loadHistory (tamperGen (removeGen (run env t steps) [] k) [] j) = _
  rw [hT]
  exact ⟨key' .missing .modified _ rfl, key .missing .modified _ rfl, key' .modified .missing _ rfl,
    key .modified .missing _ rfl⟩

/-- a missing chain file wins over everything, on ANY tree: whatever else is damaged in the root's `ascmhl` folder or
anywhere below, loading fails with 32 -/
theorem missing_chain_wins (t : Node) (s : HistStore) (hs : t.hist = some s) :
    loadHistory (removeChain t []) = .error errNoChain := by
  apply loadHistory_root_error
  unfold removeChain
  rw [damageAt_nil_hist, hs]
  rfl

/-- … in particular after a run, on top of ANY other damage `g` to the root's `ascmhl` folder -/
theorem missing_chain_wins_run (env : Env) (hrn : '\n' ∉ env.rootName.toList) (t : Node) (hdir : t.isDir = true)
    (hn : noNested t = true) (hh : t.hist = none) (steps : List Step) (hok : ∀ st ∈ steps, st.Ok)
    (hpos : 0 < (gensOf (run env t steps)).length) (g : HistStore → HistStore) :
    loadHistory (removeChain (damageAt g (run env t steps) []) []) = .error errNoChain := by
  obtain ⟨nm, cs, gs, hT, -⟩ := run_shape env hrn t hdir hn hh steps hok hpos
  apply missing_chain_wins _ (g { gens := gs, chain := chainFrom 1 gs, chainPresent := true })
  rw [damageAt_nil_hist, hT]
  rfl

/-! ### 4. nested histories, any depth -/

/-
The statement for an ARBITRARY stored manifest of a nested history is false of the model: the chain check follows the
chain ENTRIES, and an entry means the FIRST stored manifest of its name.
  * A manifest file that the chain does not list (what a `create` leaves that was killed between its two replaces) can
    be altered or deleted without any command refusing, and rightly so: `load_from_path` does not load it, it is not
    part of the history (`unlisted_not_loaded`).
  * Two stored manifests of one name (impossible in a folder on disk): `nested_tamper_shadowed_false`.
Every manifest that the chain lists, and so every LOADED generation (`nested_tamper_loaded_refuses`), is protected.
`nested_tamper_refuses_chained` carries the two hypotheses per manifest (listed; first of its name) and
`t.NamesDistinct` (`Node.updateAt` and the walk then agree on which folder a path means); `nested_tamper_refuses` needs
pairwise different names only and says of EVERY stored manifest which of the two it is: listed, refused; not listed,
nothing changes.  All hold at any nesting depth.
-/

theorem nested_tamper_refuses_chained (t : Node) (hd : t.NamesDistinct) (h : Hist) (hl : loadHistory t = .ok h)
    (c : Hist) (hc : c ∈ allDescendants h) :
    ∃ s, storeAt t c.root = some s ∧ c.gens = loadGens s ∧ c.chain = s.chain ∧
      loadHistory (removeChain t c.root) = .error errNoChain ∧
      ∀ (k : Nat) (g : Generation), s.gens[k]? = some g → (∃ e ∈ c.chain, e.fileName = g.fileName) →
        (∀ j < k, ∀ g', s.gens[j]? = some g' → g'.fileName ≠ g.fileName) →
        loadHistory (tamperGen t c.root k) = .error errModified ∧
        loadHistory (removeGen t c.root k) = .error errMissingManifest := by
  obtain ⟨d, s, hat, hds, hg, hch⟩ := loadHistory_stores t h hl hd c hc
  have hs : storeAt t c.root = some s := (storeAt_eq_some _ _ _).2 ⟨d, hat, hds⟩
  obtain ⟨h1, h2⟩ := tamper_refuses_at t c.root (hd.distinctAlong _) h hl s hs
  exact ⟨s, hs, hg, hch, h1, fun k g hk hce hfirst => h2 k g hk (by rw [← hch]; exact hce) hfirst⟩

/-- a stored manifest that the chain does NOT list is not part of the history (`load_from_path` skips it): it is not
loaded under any number, and the whole tree loads exactly as before, the same history or the same error, with it
altered or deleted -/
theorem unlisted_not_loaded (t : Node) (r : RelPath) (hd : t.DistinctAlong r) (s : HistStore)
    (hs : storeAt t r = some s) (k : Nat) (g : Generation) (hk : s.gens[k]? = some g)
    (hun : s.lists g.fileName = false) :
    (∀ n, (⟨n, g⟩ : LGen) ∉ loadGens s) ∧
    (∀ st, loadGens (s.mark k st) = loadGens s ∧ checkStore (some (s.mark k st)) = checkStore (some s) ∧
      (s.mark k st).chain = s.chain) ∧
    loadHistory (tamperGen t r k) = loadHistory t ∧
    loadHistory (removeGen t r k) = loadHistory t :=
  ⟨MhlProps.C06.unlisted_not_in_loadGens s g hun,
   fun st => let ⟨hc, hg, hch⟩ := (storeView_some _ _).1 (storeView_mark_unlisted s k g hk hun st)
    ⟨hg, hc, hch⟩,
   loadHistory_damageAt_sameView _ r t s hd hs (storeView_mark_unlisted s k g hk hun .modified),
   loadHistory_damageAt_sameView _ r t s hd hs (storeView_mark_unlisted s k g hk hun .missing)⟩

/-- … or with ALL manifests removed that the chain of the folder at `r` does not list -/
theorem unlisted_removed_same_history (t : Node) (r : RelPath) (hd : t.DistinctAlong r) (s : HistStore)
    (hs : storeAt t r = some s) :
    loadHistory (damageAt MhlProps.C06.dropUnlisted t r) = loadHistory t :=
  loadHistory_damageAt_sameView _ r t s hd hs (MhlProps.C06.storeView_dropUnlisted s)

/-- every loaded generation is protected, since what is loaded is listed: `lg` a loaded generation of ANY nested
history, stored as the `k`-th manifest and the first of its name; altering it → 31, deleting it → 33 -/
theorem nested_tamper_loaded_refuses (t : Node) (hd : t.NamesDistinct) (h : Hist) (hl : loadHistory t = .ok h)
    (c : Hist) (hc : c ∈ allDescendants h) :
    ∃ s, storeAt t c.root = some s ∧ c.gens = loadGens s ∧ c.chain = s.chain ∧
      ∀ lg ∈ c.gens, ∀ k, s.gens[k]? = some lg.gen →
        (∀ j < k, ∀ g', s.gens[j]? = some g' → g'.fileName ≠ lg.gen.fileName) →
        loadHistory (tamperGen t c.root k) = .error errModified ∧
        loadHistory (removeGen t c.root k) = .error errMissingManifest := by
  obtain ⟨s, hs, hg, hch, -, h2⟩ := nested_tamper_refuses_chained t hd h hl c hc
  refine ⟨s, hs, hg, hch, ?_⟩
  intro lg hlg k hk hfirst
  rw [hg] at hlg
  exact h2 k lg.gen hk (by rw [hch]; exact (MhlProps.C06.loadGens_listed_only s).2.1 lg hlg) hfirst

/-- Any tree with distinct sibling names that loads as `h`; ANY nested history `c ∈ allDescendants h` (child,
grand-child, … — any depth), `s` the store at its root.  Chain file of the nested history deleted → loading the outer
root fails with 32.  And if the manifest names of `s` are pairwise different (as in any folder on disk), then for EVERY
stored manifest `k`:
  * the chain lists it: altered → loading the outer root fails with 31, deleted → 33 (the parents' own chains are
    checked first and are fine, then the walk reaches `c.root`);
  * the chain does not list it: it is not part of the history, and the tree loads as the SAME history `h` with it
    altered or deleted.
For a store in the shape the tool leaves (`Listed`) only the first case occurs. -/
theorem nested_tamper_refuses (t : Node) (hd : t.NamesDistinct) (h : Hist) (hl : loadHistory t = .ok h)
    (c : Hist) (hc : c ∈ allDescendants h) :
    ∃ s, storeAt t c.root = some s ∧ c.gens = loadGens s ∧ c.chain = s.chain ∧
      loadHistory (removeChain t c.root) = .error errNoChain ∧
      ((s.gens.map (·.fileName)).Nodup → ∀ k (hk : k < s.gens.length),
        (s.lists s.gens[k].fileName = true →
          loadHistory (tamperGen t c.root k) = .error errModified ∧
          loadHistory (removeGen t c.root k) = .error errMissingManifest) ∧
        (s.lists s.gens[k].fileName = false →
          loadHistory (tamperGen t c.root k) = .ok h ∧ loadHistory (removeGen t c.root k) = .ok h)) ∧
      (Listed s → ∀ k < s.gens.length,
        loadHistory (tamperGen t c.root k) = .error errModified ∧
        loadHistory (removeGen t c.root k) = .error errMissingManifest ∧
        loadHistory (removeChain t c.root) = .error errNoChain) := by
  obtain ⟨s, hs, hg, hch, h1, h2⟩ := nested_tamper_refuses_chained t hd h hl c hc
  refine ⟨s, hs, hg, hch, h1, ?_, fun hlist k hk =>
    tamper_refuses_listed t c.root (hd.distinctAlong _) h hl s hs hlist k hk⟩
  intro hnd k hk
  have hget : s.gens[k]? = some s.gens[k] := List.getElem?_eq_getElem hk
  constructor
  · intro hlisted
    exact h2 k s.gens[k] hget (by rw [hch]; exact (MhlProps.C06.lists_iff s _).1 hlisted)
      (first_of_name s.gens hnd k _ hget)
  · intro hun
    obtain ⟨-, -, h3, h4⟩ := unlisted_not_loaded t c.root (hd.distinctAlong _) s hs k s.gens[k] hget hun
    exact ⟨h3.trans hl, h4.trans hl⟩

theorem nested_all_commands_refuse (t : Node) (r : RelPath) (hd : t.DistinctAlong r) (h : Hist)
    (hl : loadHistory t = .ok h) (s : HistStore) (hs : storeAt t r = some s) (hlist : Listed s)
    (k : Nat) (hk : k < s.gens.length) (env' : Env) :
    AllRefuse env' (tamperGen t r k) (.exit 31) ∧ AllRefuse env' (removeGen t r k) (.exit 33) ∧
    AllRefuse env' (removeChain t r) (.exit 32) := by
  obtain ⟨h1, h2, h3⟩ := tamper_refuses_listed t r hd h hl s hs hlist k hk
  obtain ⟨e1, e2, e3⟩ := exit_codes
  rw [e1] at h1; rw [e3] at h2; rw [e2] at h3
  exact ⟨allRefuse_of_load _ _ _ h1, allRefuse_of_load _ _ _ h2, allRefuse_of_load _ _ _ h3⟩

/-- End to end for a nested history made by the tool.  A folder `R` that is the result of ANY run of creates (n ≥ 1
generations) sits, under its own name, in an outer folder: next to siblings that are free of faults, below an outer
`ascmhl` folder that passes its checks, sibling names distinct.  Then for every k < n: the k-th manifest of the
NESTED history altered → loading the OUTER folder fails with 31; deleted → 33; its chain file deleted → 32. -/
theorem grafted_run_tamper_refuses (env : Env) (hrn : '\n' ∉ env.rootName.toList) (t : Node) (hdir : t.isDir = true)
    (hn : noNested t = true) (hh : t.hist = none) (steps : List Step) (hok : ∀ st ∈ steps, st.Ok)
    (k : Nat) (hk : k < (gensOf (run env t steps)).length)
    (rn : String) (pre post : List Node) (rootStore : Option HistStore)
    (hroot : storeFault rootStore = none)
    (hnames : ((pre ++ run env t steps :: post).map Node.name).Nodup)
    (hsib : ∀ c ∈ pre ++ post, allFaults c = []) :
    let outer : Node := .dir rn (pre ++ run env t steps :: post) rootStore
    let r : RelPath := [(run env t steps).name]
    loadHistory (tamperGen outer r k) = .error errModified ∧
    loadHistory (removeGen outer r k) = .error errMissingManifest ∧
    loadHistory (removeChain outer r) = .error errNoChain := by
  intro outer r
  obtain ⟨nm, cs, gs, hT, hgs, hld, hnd, -⟩ := run_shape env hrn t hdir hn hh steps hok (by omega)
  have hRnil : allFaults (run env t steps) = [] := (loadHistory_ok_iff _).1 hld
  have hnil : allFaults outer = [] := by
    refine allFaults_dir_nil rn _ rootStore hroot fun c hc => ?_
    rcases List.mem_append.1 hc with hc | hc
    · exact hsib c (List.mem_append_left _ hc)
    · rcases List.mem_cons.1 hc with rfl | hc
      · exact hRnil
      · exact hsib c (List.mem_append_right _ hc)
  obtain ⟨ho, hlo⟩ := (loadHistory_ok_iff outer).2 hnil
  have hmem : run env t steps ∈ pre ++ run env t steps :: post := by simp
  have hs : storeAt outer r = some { gens := gs, chain := chainFrom 1 gs, chainPresent := true } := by
    rw [storeAt_eq_some]
    refine ⟨run env t steps, ?_, by rw [hT]; rfl⟩
    show (Node.dir rn _ rootStore).at? [(run env t steps).name] = _
    rw [Node.at?_dir_cons, findChild_of_mem hnames hmem]
    exact Node.at?_nil _
  have hd : outer.DistinctAlong r := ⟨hnames, fun _ _ _ => trivial⟩
  rw [hgs] at hk
  exact tamper_refuses_listed outer r hd ho hlo _ hs (listed_of_chainFrom gs 1 true hnd) k hk

/-! ### 5. a refused command changes nothing -/

theorem refusal_preserves_tree (env : Env) (t' : Node) (e : Err) (h : loadHistory t' = .error e)
    (o : CreateOpts) (a b : List String) :
    applyWritten t' (create env t' o).written = t' ∧
    applyWritten t' (createFolder env t' o).written = t' ∧
    applyWritten t' (createSingleFiles env t' o).written = t' ∧
    applyWritten t' (flatten env t' a b).written = t' := by
  obtain ⟨h1, h2, h3, -, -, -, h7, -, -⟩ := commands_refuse env t' e h o {} {} a b []
  rw [h1, h2, h3, h7]
  exact ⟨rfl, rfl, rfl, rfl⟩

theorem tampered_create_changes_nothing (env : Env) (hrn : '\n' ∉ env.rootName.toList) (t : Node)
    (hdir : t.isDir = true) (hn : noNested t = true) (hh : t.hist = none) (steps : List Step)
    (hok : ∀ st ∈ steps, st.Ok) (k : Nat) (hk : k < (gensOf (run env t steps)).length)
    (env' : Env) (stamp : String) (o : CreateOpts) :
    createStep env' stamp o (tamperGen (run env t steps) [] k) = tamperGen (run env t steps) [] k ∧
    createStep env' stamp o (removeGen (run env t steps) [] k) = removeGen (run env t steps) [] k ∧
    createStep env' stamp o (removeChain (run env t steps) []) = removeChain (run env t steps) [] := by
  obtain ⟨h1, h2, h3⟩ := tamper_refuses env hrn t hdir hn hh steps hok k hk
  exact ⟨(refusal_preserves_tree _ _ _ h1 o [] []).1, (refusal_preserves_tree _ _ _ h2 o [] []).1,
    (refusal_preserves_tree _ _ _ h3 o [] []).1⟩

/-- A damaged history stays as it is.  The root's `ascmhl` folder has the fault `x`.  Then under ANY further run
(media edits and creates with any options) every create is refused with `x` and the `ascmhl` folder is never
touched: the run does to the tree what the media edits alone do. -/
theorem damaged_stays_damaged (env : Env) (steps : List Step) (hok : ∀ st ∈ steps, st.Ok) :
    ∀ (t' : Node) (x : Err), t'.isDir = true → storeFault t'.hist = some x →
      (run env t' steps).hist = t'.hist ∧ loadHistory (run env t' steps) = .error x ∧
      run env t' steps = steps.foldl (fun t st => st.edit t) t' := by
  induction steps with
  | nil =>
    intro t' x _ hf
    exact ⟨rfl, loadHistory_root_error t' x hf, rfl⟩
  | cons st steps ih =>
    intro t' x hdir hf
    have hst := hok st (by simp)
    have hh : (st.edit t').hist = t'.hist := hst.edit.hist_eq t' hdir
    have hl : loadHistory (st.edit t') = .error x := loadHistory_root_error _ x (by rw [hh]; exact hf)
    have hstep : stepTree env t' st = st.edit t' := (refusal_preserves_tree _ _ _ hl st.opts [] []).1
    obtain ⟨h1, h2, h3⟩ := ih (fun s hs => hok s (by simp [hs])) (st.edit t') x (hst.edit.isDir t' hdir)
      (by rw [hh]; exact hf)
    rw [run_cons, hstep]
    exact ⟨h1.trans hh, h2, h3⟩

/-! ### non-vacuity -/

section Examples
open MhlProps.C04nested

/-- what is observable of an outcome: exit code, number of manifests written, the six report lists -/
def observe (o : Outcome) :
    Nat × Nat × List String × List String × List String × List (String × String) × List String × List String :=
  (o.exitCode, o.written.length, o.report.mismatch, o.report.missing, o.report.new, o.report.renamed,
    o.report.dirMismatch, o.report.lines)

/-- the run of C06seq (four steps, four generations; the second one ended with exit code 11) -/
def exT : Node := run exEnv exTree exSteps

def exT3 : Node := run exEnv exTree (exSteps.take 3)

theorem exSteps3_ok : ∀ st ∈ exSteps.take 3, st.Ok := fun st hst => exSteps_ok st (List.mem_of_mem_take hst)

/-- generation 2 altered, generation 3 deleted, the others intact -/
def exDamaged : List Generation := markGens .missing 2 (markGens .modified 1 (gensOf exT))

/-- what the examples below need to know of the two runs, evaluated once (each evaluation of a run by the kernel is
dear): the number of generations, that `info` succeeds, the root's name, the first fault of `exDamaged`, the
root of the tampered three-step run, and the faults of the doubly damaged four-step runs -/
theorem exT_facts :
    ((gensOf exT).length = 4 ∧ (gensOf exT3).length = 3) ∧
    ((info exT3).toOption.isSome = true ∧ (info exT).toOption.isSome = true) ∧
    exT.name = "root" ∧ exDamaged.findSome? genFault = some errModified ∧
    (tamperGen exT3 [] 1).isDir = true ∧ storeFault (tamperGen exT3 [] 1).hist = some (.exit 31) ∧
    (exceptErr (loadHistory (tamperGen (removeGen exT [] 1) [] 3)) = some (.exit 33) ∧
      exceptErr (loadHistory (removeGen (tamperGen exT [] 3) [] 1)) = some (.exit 33) ∧
      exceptErr (loadHistory (removeGen (tamperGen exT [] 0) [] 1)) = some (.exit 31) ∧
      exceptErr (loadHistory (removeChain (removeGen (tamperGen exT [] 0) [] 1) [])) = some (.exit 32) ∧
      exceptErr (loadHistory (tamperGen (removeChain exT []) [] 0)) = some (.exit 32)) := by
  decide +kernel

theorem exT_lt {k : Nat} (h : k < 4) : k < (gensOf (run exEnv exTree exSteps)).length :=
  Nat.lt_of_lt_of_eq h exT_facts.1.1.symm

example : (gensOf exT).length = 4 ∧ (gensOf exT3).length = 3 := exT_facts.1

/-- untouched: the run loads -/
example : ∃ h, loadHistory exT = .ok h := untouched_run_loads exEnv (by decide) exTree rfl (by rfl) rfl exSteps exSteps_ok

example : (info exT3).toOption.isSome = true ∧ (info exT).toOption.isSome = true := exT_facts.2.1

/-- the hypotheses of `tamper_all_commands_refuse` hold on the three-step run, generation 2 (index 1) -/
theorem exT3_refuses : AllRefuse exEnv (tamperGen exT3 [] 1) (.exit 31) ∧
    AllRefuse exEnv (removeGen exT3 [] 1) (.exit 33) ∧ AllRefuse exEnv (removeChain exT3 []) (.exit 32) :=
  tamper_all_commands_refuse exEnv (by decide) exTree rfl (by rfl) rfl (exSteps.take 3) exSteps3_ok 1
    (Nat.lt_of_lt_of_eq (by decide) exT_facts.1.2.symm) exEnv

/-- the 3-step run, generation 2 (index 1) tampered: EVERY command form ends with 31, reports nothing, writes
nothing — each is `refusal (.exit 31)`, of which `observe` shows this -/
example :
    observe (createFolder exEnv (tamperGen exT3 [] 1) {}) = (31, 0, [], [], [], [], [], []) ∧
    observe (createSingleFiles exEnv (tamperGen exT3 [] 1) { singleFiles := [["a.txt"]] }) =
      (31, 0, [], [], [], [], [], []) ∧
    observe (create exEnv (tamperGen exT3 [] 1) { formats := ["md5"], detectRenaming := true }) =
      (31, 0, [], [], [], [], [], []) ∧
    observe (verify exEnv (tamperGen exT3 [] 1) {}) = (31, 0, [], [], [], [], [], []) ∧
    observe (verify exEnv (tamperGen exT3 [] 1) { singleFile := some ["a.txt"] }) = (31, 0, [], [], [], [], [], []) ∧
    observe (diff exEnv (tamperGen exT3 [] 1) {}) = (31, 0, [], [], [], [], [], []) :=
  have h := exT3_refuses.1
  ⟨congrArg observe (h {} {} {} [] [] []).1,
   congrArg observe (h { singleFiles := [["a.txt"]] } {} {} [] [] []).2.1,
   congrArg observe (h { formats := ["md5"], detectRenaming := true } {} {} [] [] []).2.2.1,
   congrArg observe (h {} {} {} [] [] []).2.2.2.1,
   congrArg observe (h {} { singleFile := some ["a.txt"] } {} [] [] []).2.2.2.1,
   congrArg observe (h {} {} {} [] [] []).2.2.2.2.1⟩

example :
    observe (verifyDh exEnv (tamperGen exT3 [] 1) {}) = (31, 0, [], [], [], [], [], []) ∧
    observe (flatten exEnv (tamperGen exT3 [] 1) [] []) = (31, 0, [], [], [], [], [], []) ∧
    exceptErr (info (tamperGen exT3 [] 1)) = some (.exit 31) ∧
    exceptErr (infoSingleFile (tamperGen exT3 [] 1) ["a.txt"]) = some (.exit 31) :=
  have ⟨_, _, _, _, _, h6, h7, h8, h9⟩ := exT3_refuses.1 {} {} {} [] [] ["a.txt"]
  ⟨congrArg observe h6, congrArg observe h7, congrArg exceptErr h8, congrArg exceptErr h9⟩

/-- the same from the theorem: its hypotheses hold on this run -/
example : AllRefuse exEnv (tamperGen exT3 [] 1) (.exit 31) ∧ AllRefuse exEnv (removeGen exT3 [] 1) (.exit 33) ∧
    AllRefuse exEnv (removeChain exT3 []) (.exit 32) :=
  exT3_refuses

/-- every generation of the four-step run, each of the three kinds of damage -/
example : ∀ k ∈ [0, 1, 2, 3],
    exceptErr (loadHistory (tamperGen exT [] k)) = some (.exit 31) ∧
    exceptErr (loadHistory (removeGen exT [] k)) = some (.exit 33) ∧
    exceptErr (loadHistory (removeChain exT [])) = some (.exit 32) := by
  intro k hk
  simp only [List.mem_cons, List.not_mem_nil, or_false] at hk
  obtain ⟨h1, h2, h3⟩ := tamper_refuses exEnv (by decide) exTree rfl (by rfl) rfl exSteps exSteps_ok k
    (exT_lt (by omega))
  obtain ⟨e1, e2, e3⟩ := exit_codes
  rw [e1] at h1; rw [e3] at h2; rw [e2] at h3
  exact ⟨congrArg exceptErr h1, congrArg exceptErr h2, congrArg exceptErr h3⟩

/-- an index beyond the stored manifests damages nothing -/
example : exceptErr (loadHistory (tamperGen exT [] 4)) = none := by
  obtain ⟨nm, cs, gs, hT, hgs, -⟩ := run_shape exEnv (by decide) exTree rfl (by rfl) rfl exSteps exSteps_ok
    (exT_lt (by decide))
  obtain ⟨h, hl⟩ := untouched_run_loads exEnv (by decide) exTree rfl (by rfl) rfl exSteps exSteps_ok
  have h4 : gs.length ≤ 4 := by rw [← hgs]; exact Nat.le_of_eq exT_facts.1.1
  rw [exT, tamperGen, hT, damageAt_mark_of_le _ nm cs _ 4 h4, ← hT, hl]
  rfl

/-- several faults — evaluated: generation 2 deleted and generation 4 altered → 33; generation 1 altered and
generation 2 deleted → 31; anything plus a deleted chain file → 32 -/
example :
    exceptErr (loadHistory (tamperGen (removeGen exT [] 1) [] 3)) = some (.exit 33) ∧
    exceptErr (loadHistory (removeGen (tamperGen exT [] 3) [] 1)) = some (.exit 33) ∧
    exceptErr (loadHistory (removeGen (tamperGen exT [] 0) [] 1)) = some (.exit 31) ∧
    exceptErr (loadHistory (removeChain (removeGen (tamperGen exT [] 0) [] 1) [])) = some (.exit 32) ∧
    exceptErr (loadHistory (tamperGen (removeChain exT []) [] 0)) = some (.exit 32) :=
  exT_facts.2.2.2.2.2.2

/-- the hypotheses of `two_faults_lowest_wins` and `first_fault_wins` hold on the run -/
example : loadHistory (tamperGen (removeGen exT [] 1) [] 3) = .error errMissingManifest :=
  (two_faults_lowest_wins exEnv (by decide) exTree rfl (by rfl) rfl exSteps exSteps_ok 1 3 (by decide)
    (exT_lt (by decide))).1

example : exceptErr (loadHistory (damageAt (fun s => { s with gens := exDamaged, chainPresent := true }) exT [])) =
    some errModified := by
  unfold exT
  rw [first_fault_wins exEnv (by decide) exTree rfl (by rfl) rfl exSteps exSteps_ok (exT_lt (by decide)) _
    (by rw [exDamaged, markGens_names, markGens_names]; rfl) true]
  exact exT_facts.2.2.2.1

/-- a refused create leaves the damaged tree as it is; a further run of three creates too -/
example : (run exEnv (tamperGen exT3 [] 1) (exSteps.drop 3)).hist = (tamperGen exT3 [] 1).hist ∧
    loadHistory (run exEnv (tamperGen exT3 [] 1) (exSteps.drop 3)) = .error (.exit 31) := by
  obtain ⟨h1, h2, -⟩ := damaged_stays_damaged exEnv (exSteps.drop 3)
    (fun st hst => exSteps_ok st (List.mem_of_mem_drop hst)) (tamperGen exT3 [] 1) (.exit 31)
    exT_facts.2.2.2.2.1 exT_facts.2.2.2.2.2.1
  exact ⟨h1, h2⟩

/-! #### nested: the two-level and three-level trees of C04nested, the INNER history damaged -/

/-- `tamper_refuses_listed` with its hypotheses on the tree in decidable form, as one conjunction: a concrete
tree is then evaluated once -/
theorem refuses_of_checks (t : Node) (r : RelPath) (h : Hist) (hl : loadHistory t = .ok h)
    (hc : namesDistinctB t = true ∧ storeAt t r = some ((storeAt t r).getD {}) ∧ Listed ((storeAt t r).getD {}))
    (k : Nat) (hk : k < ((storeAt t r).getD {}).gens.length) :
    loadHistory (tamperGen t r k) = .error errModified ∧
    loadHistory (removeGen t r k) = .error errMissingManifest ∧
    loadHistory (removeChain t r) = .error errNoChain :=
  tamper_refuses_listed t r ((namesDistinctB_sound _ hc.1).distinctAlong _) h hl _ hc.2.1 hc.2.2 k hk

/-- what is evaluated of `big2`, once: the hypotheses of `tamper_refuses_listed` and of `nested_tamper_refuses`
at `["A"]`, and the fault of the tree whose root history is damaged as well -/
theorem big2_A :
    (namesDistinctB big2 = true ∧ storeAt big2 ["A"] = some ((storeAt big2 ["A"]).getD {}) ∧
      Listed ((storeAt big2 ["A"]).getD {})) ∧
    ((∃ c ∈ allDescendants (loadD big2), c.root = ["A"] ∧ c.gens.map (·.number) = [1, 2]) ∧
      Listed ((storeAt big2 ["A"]).getD {}) ∧ ((storeAt big2 ["A"]).getD {}).gens.length = 2) ∧
    exceptErr (loadHistory (removeGen (tamperGen big2 ["A"] 1) [] 0)) = some (.exit 33) := by
  decide +kernel

theorem big2_A_lt {k : Nat} (h : k < 2) : k < ((storeAt big2 ["A"]).getD {}).gens.length :=
  Nat.lt_of_lt_of_eq h big2_A.2.1.2.2.symm

/-- `big2`: root history (1 generation) and the nested history `A` (2 generations): damage in `A` is reported when
the OUTER root is loaded, every command form on the outer root ends with it -/
example :
    exceptErr (loadHistory (tamperGen big2 ["A"] 0)) = some (.exit 31) ∧
    exceptErr (loadHistory (tamperGen big2 ["A"] 1)) = some (.exit 31) ∧
    exceptErr (loadHistory (removeGen big2 ["A"] 1)) = some (.exit 33) ∧
    exceptErr (loadHistory (removeChain big2 ["A"])) = some (.exit 32) ∧
    observe (createFolder envR (tamperGen big2 ["A"] 1) o2) = (31, 0, [], [], [], [], [], []) ∧
    observe (verify envR (removeGen big2 ["A"] 0) {}) = (33, 0, [], [], [], [], [], []) ∧
    observe (flatten envR (removeChain big2 ["A"]) [] []) = (32, 0, [], [], [], [], [], []) ∧
    -- the root's own history damaged as well: the root is checked first
    exceptErr (loadHistory (removeGen (tamperGen big2 ["A"] 1) [] 0)) = some (.exit 33) := by
  obtain ⟨t0, r0, c0⟩ := refuses_of_checks big2 ["A"] (loadD big2) load2 big2_A.1 0 (big2_A_lt (by decide))
  obtain ⟨t1, r1, -⟩ := refuses_of_checks big2 ["A"] (loadD big2) load2 big2_A.1 1 (big2_A_lt (by decide))
  obtain ⟨e1, e2, e3⟩ := exit_codes
  rw [e1] at t0 t1; rw [e3] at r0 r1; rw [e2] at c0
  exact ⟨congrArg exceptErr t0, congrArg exceptErr t1, congrArg exceptErr r1, congrArg exceptErr c0,
    congrArg observe (commands_refuse envR _ _ t1 o2 {} {} [] [] []).1,
    congrArg observe (commands_refuse envR _ _ r0 {} {} {} [] [] []).2.2.2.1,
    congrArg observe (commands_refuse envR _ _ c0 {} {} {} [] [] []).2.2.2.2.2.2.1,
    big2_A.2.2⟩

/-- the hypotheses of `tamper_refuses_listed` hold on `big2` at `["A"]` -/
example : loadHistory (tamperGen big2 ["A"] 1) = .error errModified ∧
    loadHistory (removeGen big2 ["A"] 1) = .error errMissingManifest ∧
    loadHistory (removeChain big2 ["A"]) = .error errNoChain :=
  refuses_of_checks big2 ["A"] (loadD big2) load2 big2_A.1 1 (big2_A_lt (by decide))

/-- … and those of `nested_tamper_refuses`: `A` is a nested history of the loaded history, its store is `Listed` -/
example : (∃ c ∈ allDescendants (loadD big2), c.root = ["A"] ∧ c.gens.map (·.number) = [1, 2]) ∧
    Listed ((storeAt big2 ["A"]).getD {}) ∧ ((storeAt big2 ["A"]).getD {}).gens.length = 2 :=
  big2_A.2.1

/-- what is evaluated of `c2`, once: the hypotheses of `tamper_refuses_listed` at `["A", "sub"]`, and the fault
of the tree in which `A` is damaged as well -/
theorem c2_sub :
    (namesDistinctB c2 = true ∧ storeAt c2 ["A", "sub"] = some ((storeAt c2 ["A", "sub"]).getD {}) ∧
      Listed ((storeAt c2 ["A", "sub"]).getD {})) ∧
    0 < ((storeAt c2 ["A", "sub"]).getD {}).gens.length ∧
    exceptErr (loadHistory (removeChain (tamperGen c2 ["A", "sub"] 0) ["A"])) = some (.exit 32) := by
  decide +kernel

theorem c2_sub_refuses : loadHistory (tamperGen c2 ["A", "sub"] 0) = .error errModified ∧
    loadHistory (removeGen c2 ["A", "sub"] 0) = .error errMissingManifest ∧
    loadHistory (removeChain c2 ["A", "sub"]) = .error errNoChain :=
  refuses_of_checks c2 ["A", "sub"] (loadD c2) load_c2 c2_sub.1 0 c2_sub.2.1

/-- `c2`: three levels (root, `A`, `A/sub`).  The GRAND-CHILD history damaged: reported at the outer root -/
example :
    exceptErr (loadHistory c2) = none ∧
    exceptErr (loadHistory (tamperGen c2 ["A", "sub"] 0)) = some (.exit 31) ∧
    exceptErr (loadHistory (removeGen c2 ["A", "sub"] 0)) = some (.exit 33) ∧
    exceptErr (loadHistory (removeChain c2 ["A", "sub"])) = some (.exit 32) ∧
    -- parent before child: `A` damaged too
    exceptErr (loadHistory (removeChain (tamperGen c2 ["A", "sub"] 0) ["A"])) = some (.exit 32) ∧
    observe (verify envR (tamperGen c2 ["A", "sub"] 0) {}) = (31, 0, [], [], [], [], [], []) := by
  obtain ⟨h1, h2, h3⟩ := c2_sub_refuses
  obtain ⟨e1, e2, e3⟩ := exit_codes
  rw [e1] at h1; rw [e3] at h2; rw [e2] at h3
  exact ⟨congrArg exceptErr load_c2, congrArg exceptErr h1, congrArg exceptErr h2, congrArg exceptErr h3,
    c2_sub.2.2, congrArg observe (commands_refuse envR _ _ h1 {} {} {} [] [] []).2.2.2.1⟩

example : loadHistory (tamperGen c2 ["A", "sub"] 0) = .error errModified ∧
    loadHistory (removeGen c2 ["A", "sub"] 0) = .error errMissingManifest ∧
    loadHistory (removeChain c2 ["A", "sub"]) = .error errNoChain :=
  c2_sub_refuses

/-! #### the extra hypotheses of 4. are needed: the statement for an ARBITRARY stored manifest is false -/

/-- a nested `ascmhl` folder with a manifest file that the chain does not list (copied in by hand, say) -/
def sOrphan : HistStore :=
  { gens := [C05.gOk "0001_A_2020-01-01_000000Z.mhl", C05.gOk "0002_A_2020-01-02_000000Z.mhl"],
    chain := [⟨1, "0001_A_2020-01-01_000000Z.mhl"⟩] }

def tOrphan : Node := .dir "root" [.dir "A" [.file "x" [5]] (some sOrphan)] none

/-- the unlisted manifest is NOT loaded (the nested history has generation 1 only); the tree loads; altering or
deleting the unlisted manifest leaves the tree loading, as the same generations; the listed manifest (generation 1)
damaged is reported -/
theorem unlisted_not_loaded_witness :
    (namesDistinctB tOrphan = true) ∧ exceptErr (loadHistory tOrphan) = none ∧
    (∃ c ∈ allDescendants (loadD tOrphan), c.root = ["A"] ∧ c.gens.map (·.number) = [1] ∧
      c.gens.map (·.gen.fileName) = ["0001_A_2020-01-01_000000Z.mhl"]) ∧
    storeAt tOrphan ["A"] = some sOrphan ∧ 1 < sOrphan.gens.length ∧
    sOrphan.lists "0002_A_2020-01-02_000000Z.mhl" = false ∧
    exceptErr (loadHistory (tamperGen tOrphan ["A"] 1)) = none ∧
    exceptErr (loadHistory (removeGen tOrphan ["A"] 1)) = none ∧
    (∃ c ∈ allDescendants (loadD (tamperGen tOrphan ["A"] 1)), c.root = ["A"] ∧ c.gens.map (·.number) = [1]) ∧
    exceptErr (loadHistory (tamperGen tOrphan ["A"] 0)) = some (.exit 31) := by
  decide +kernel

/-- the hypotheses of `unlisted_not_loaded` hold on this tree: the damaged trees load as the same history -/
example : loadHistory (tamperGen tOrphan ["A"] 1) = loadHistory tOrphan ∧
    loadHistory (removeGen tOrphan ["A"] 1) = loadHistory tOrphan :=
  (unlisted_not_loaded tOrphan ["A"] ((namesDistinctB_sound _ unlisted_not_loaded_witness.1).distinctAlong _) sOrphan
    unlisted_not_loaded_witness.2.2.2.1 1 _ rfl unlisted_not_loaded_witness.2.2.2.2.2.1).2.2

/-- two stored manifests of the same name (impossible in a folder on disk): the chain entry means the first one, the
second one can be damaged unnoticed — hence "the first stored manifest of that name" -/
def sTwice : HistStore :=
  { gens := [C05.gOk "0001_A_2020-01-01_000000Z.mhl", C05.gOk "0001_A_2020-01-01_000000Z.mhl"],
    chain := [⟨1, "0001_A_2020-01-01_000000Z.mhl"⟩] }

theorem nested_tamper_shadowed_false :
    exceptErr (loadHistory (tamperGen (.dir "root" [.dir "A" [] (some sTwice)] none) ["A"] 1)) = none ∧
    exceptErr (loadHistory (tamperGen (.dir "root" [.dir "A" [] (some sTwice)] none) ["A"] 0)) = some (.exit 31) := by
  decide +kernel

/-- the run of C06seq grafted as the folder `root` into an outer folder with a history of its own and a sibling -/
example :
    let outer : Node := .dir "vol" ([.file "readme" [1]] ++ run exEnv exTree exSteps ::
      [.dir "z" [.file "q" []] none]) (some C05.sFine)
    let r : RelPath := [(run exEnv exTree exSteps).name]
    loadHistory (tamperGen outer r 2) = .error errModified ∧
    loadHistory (removeGen outer r 2) = .error errMissingManifest ∧
    loadHistory (removeChain outer r) = .error errNoChain :=
  grafted_run_tamper_refuses exEnv (by decide) exTree rfl (by rfl) rfl exSteps exSteps_ok 2 (exT_lt (by decide))
    "vol" [.file "readme" [1]] [.dir "z" [.file "q" []] none] (some C05.sFine) (by decide)
    (by
      simp only [List.map_append, List.map_cons, List.map_nil]
      rw [show (run exEnv exTree exSteps).name = "root" from exT_facts.2.2.1]
      decide)
    (by decide)

end Examples

end MhlProps.C05e2e
