/-
C04nested — "unchanged tree ⇒ every later create succeeds" (C03 / C04 end to end) for trees WITH NESTED HISTORIES
(MhlProps/C03e2e.lean has `reseal_ok` for a tree with one history).

The tree `t` and its loaded history `rootHist` are arbitrary (children, grand-children), so is `env`.  Every file is
sealed / judged in the history that OWNS it, `owner_u rootHist p = (route rootHist p).1`, under the name
`ownerRel rootHist p = posix (route rootHist p).2`.  A visible file is `Consistent` when its owner history has no record
for it, or C04's `FirstOk` holds there for the digests of its present content; `AllConsistent`: every file the
traversal of the run comes across is.  Under that hypothesis nothing fails, the commit goes through and says who wrote
(`nested_no_failed`, `nested_commit_ok`, `nested_written_only_if`), and the run ends as `createExit` says, with 0 when
nothing recorded is missing (`nested_create_exit`, `nested_create_ok`): WITH OR WITHOUT `-dr`, with or without
directory hashes, for any ignore options and ANY list of formats, without `NamesDistinct` or `NamesOk` (the invariant
used, `Session.Good`, is insensitive to two paths having the same text).  `nested_verify_ok_partial` is the verify side,
with two hypotheses more than the plain reading of the property, which is false of the model
(`nested_verify_false` and three more witnesses).  `nested_two_level_e2e`, `nested_three_level_e2e` run the whole
pipeline on the trees of Proofs/ExampleWorlds.lean by evaluation; `hyps1` … `hyps_c2` show the hypotheses hold there,
so `reseal_any_formats` gets from the theorem what evaluation cannot give.  `graft_preserves_records`: a sub-tree
sealed on its own and grafted in is treated from the outer root exactly as from its own root.
-/
import MhlProps.C03
import MhlProps.Proofs.EvalLemmas
import MhlProps.Proofs.ExampleWorlds
import MhlProps.Proofs.GraftLemmas
import MhlProps.Proofs.NestedSealLemmas
import MhlProps.Proofs.WrittenEntriesLemmas

namespace MhlProps.C04nested
open MhlModel MhlProps.C02rec MhlProps.C04

/-- the history that owns a path: the deepest (transitive) nested history whose root is a prefix of it -/
def owner_u (rootHist : Hist) (p : RelPath) : Hist := (route rootHist p).1

/-- the text under which the owner records the path: relative to the owner's root -/
def ownerRel (rootHist : Hist) (p : RelPath) : String := posix (route rootHist p).2

def Unrecorded (rootHist : Hist) (p : RelPath) : Prop :=
  ∀ g ∈ (owner_u rootHist p).gens, g.gen.find (ownerRel rootHist p) = none

def OwnerFirstOk (env : Env) (t : Node) (rootHist : Hist) (p : RelPath) : Prop :=
  FirstOk (fun f => env.H f (fileContent t p)) (owner_u rootHist p).gens (ownerRel rootHist p)

/-- the first case is a special case of the second (`consistent_iff`); it is spelt out because it is the case of every
file of a first seal -/
def Consistent (env : Env) (t : Node) (rootHist : Hist) (p : RelPath) : Prop :=
  Unrecorded rootHist p ∨ OwnerFirstOk env t rootHist p

theorem firstOk_of_unrecorded (dig : String → String) (gens : List LGen) (p : String)
    (h : ∀ g ∈ gens, g.gen.find p = none) : FirstOk dig gens p := by
  intro fmt e he
  obtain ⟨g, hg, r, hr, -⟩ := findFirstOfFormat_spec gens p fmt e he
  simp [h g hg] at hr

theorem consistent_iff (env : Env) (t : Node) (rootHist : Hist) (p : RelPath) :
    Consistent env t rootHist p ↔ OwnerFirstOk env t rootHist p :=
  ⟨fun h => h.elim (firstOk_of_unrecorded _ _ _) id, Or.inr⟩

def AllConsistent (env : Env) (t : Node) (rootHist : Hist) (o : CreateOpts) : Prop :=
  ∀ p, (p, false) ∈ visiblePaths (cHit env rootHist o) t → Consistent env t rootHist p

section
variable {env : Env} {t : Node} {o : CreateOpts} {rootHist : Hist}

/-- the traversal of a folder-mode `create` counts no failure and names no mismatch (`cState` is the state after the
fold of `createVisit` over the traversal, exactly the `st` of `createFolder`, see `createFolder_eq_gen`) -/
theorem nested_no_failed (hcons : AllConsistent env t rootHist o) :
    (cState env t rootHist o).failed = 0 ∧ (cState env t rootHist o).mismatch = [] :=
  cState_no_failed env t o rootHist fun p hp => (consistent_iff env t rootHist p).1 (hcons p hp)

/-- the session after the traversal is good (every record of every list passes `_validate_new_hash_list`) and stays
good through rename detection (`-dr`), which only sets previous paths -/
theorem nested_final_session_good (hcons : AllConsistent env t rootHist o) :
    (cRen env t rootHist o).1.Good :=
  cRen_session_inv (cSession_good env t o rootHist fun p hp => (consistent_iff env t rootHist p).1 (hcons p hp))
    fun s np nf hs => detectRenames_good env t rootHist s hs np nf

/-- every record of every list of the session passes `_validate_new_hash_list` (directory records carry no action) -/
theorem nested_records_validate (hcons : AllConsistent env t rootHist o) :
    ∀ l ∈ (cRen env t rootHist o).1.lists, ∀ r ∈ l.records, ∃ r', validateRecord r = .ok r' :=
  fun l hl r hr => validate_of_good r (nested_final_session_good hcons l hl r hr)

/-- `commit` does not raise, so `createFolder` returns what the commit wrote.  The histories that write, in commit
order (post-order), are `writtenRoots`: a history writes iff it has a list in the session or a history that wrote
before it names it as its parent -/
theorem nested_commit_ok (hl : loadHistory t = .ok rootHist) (hcons : AllConsistent env t rootHist o) :
    ∃ ws, commit rootHist (cRen env t rootHist o).1 env.rootName env.stamp "in-place" = .ok ws ∧
      (createFolder env t o).written = ws ∧
      ws.map (·.histRoot) = writtenRoots rootHist (cRen env t rootHist o).1 ∧
      (∀ w ∈ ws, ∃ h ∈ walkPost rootHist, w.histRoot = h.root ∧
        w.number = latestGenerationNumber h.gens + 1 ∧ w.gen.state = .ok) := by
  obtain ⟨ws, h1, h2, h3⟩ := commit_good rootHist _ (nested_final_session_good hcons) env.rootName env.stamp
    "in-place" none
  refine ⟨ws, h1, ?_, h2, h3⟩
  rw [createFolder_eq_gen env t o rootHist hl, h1]

/-- in particular the run never ends with an internal error (an uncaught `AssertionError` of the validation) -/
theorem nested_no_internal_error (hl : loadHistory t = .ok rootHist) (hcons : AllConsistent env t rootHist o)
    (k : String) : (createFolder env t o).err ≠ some (.internal k) := by
  obtain ⟨ws, h1, -⟩ := nested_commit_ok hl hcons
  rw [createFolder_eq_gen env t o rootHist hl, h1]
  dsimp only
  unfold createExit errVerifyFailed errMissingFiles errNoHistory
  split
  · simp
  · split
    · simp
    · split <;> simp

/-- the history that owns a folder the traversal yields has a list in the session that is committed (the folder's
record is created even when no directory hashes are computed) -/
theorem nested_session_has_owner (v : Visit) (hv : v ∈ traverse (cHit env rootHist o) [] t) :
    (cRen env t rootHist o).1.has (owner_u rootHist v.folder).root := by
  have h0 : (cState env t rootHist o).session.has (owner_u rootHist v.folder).root := by
    unfold cState
    exact createFold_has_owner env t rootHist _ _ _ _ v hv
  exact cRen_session_inv h0 fun s np nf hs => detectRenames_has_mono env t rootHist s np nf hs

theorem owner_mem_walkPost (hl : loadHistory t = .ok rootHist) (p : RelPath) :
    owner_u rootHist p ∈ walkPost rootHist :=
  (mem_walkPost _ _).2 (route_mem (loadHistory_root t rootHist hl) p)

/-- every history that owns a yielded folder writes a generation: in particular every nested history whose root
folder is not ignored, and the root history (`nested_root_writes`) -/
theorem nested_owner_writes (hl : loadHistory t = .ok rootHist) (hcons : AllConsistent env t rootHist o)
    (v : Visit) (hv : v ∈ traverse (cHit env rootHist o) [] t) :
    ∃ w ∈ (createFolder env t o).written, w.histRoot = (owner_u rootHist v.folder).root := by
  obtain ⟨ws, -, hw, hroots, -⟩ := nested_commit_ok hl hcons
  have hmem : (owner_u rootHist v.folder).root ∈ writtenRoots rootHist (cRen env t rootHist o).1 :=
    mem_foldl_writesStep_of_has rootHist _ _ [] _ (owner_mem_walkPost hl v.folder)
      (nested_session_has_owner v hv)
  rw [← hroots] at hmem
  obtain ⟨w, hw1, hw2⟩ := List.mem_map.1 hmem
  exact ⟨w, hw ▸ hw1, hw2⟩

theorem nested_root_writes (hl : loadHistory t = .ok rootHist) (hcons : AllConsistent env t rootHist o)
    (hdir : t.isDir = true) : ∃ w ∈ (createFolder env t o).written, w.histRoot = [] := by
  cases t with
  | file n c => cases hdir
  | dir n cs hs =>
    have hv : (⟨[], (visKids (cHit env rootHist o) [] cs).map fun k => (k.name, k.isDir)⟩ : Visit) ∈
        traverse (cHit env rootHist o) [] (.dir n cs hs) := by
      rw [traverse_dir]
      simp
    obtain ⟨w, hw, hr⟩ := nested_owner_writes hl hcons _ hv
    refine ⟨w, hw, ?_⟩
    rw [hr]
    unfold owner_u
    rw [route_nil]
    exact loadHistory_root _ rootHist hl

/-- conversely a generation is only written for a history in scope that has a list in the session or that a written
generation names as its parent (`parentRoot`, the model's notion of "direct child") -/
theorem nested_written_only_if (hl : loadHistory t = .ok rootHist) (hcons : AllConsistent env t rootHist o)
    (w : Written) (hw : w ∈ (createFolder env t o).written) :
    ∃ h ∈ walkPost rootHist, h.root = w.histRoot ∧
      ((cRen env t rootHist o).1.has w.histRoot ∨
        ∃ w' ∈ (createFolder env t o).written, parentRoot rootHist w'.histRoot = some w.histRoot) := by
  obtain ⟨ws, -, hws, hroots, -⟩ := nested_commit_ok hl hcons
  rw [hws] at hw ⊢
  have hmem : w.histRoot ∈ writtenRoots rootHist (cRen env t rootHist o).1 := by
    rw [← hroots]; exact List.mem_map_of_mem hw
  rcases mem_foldl_writesStep_cases rootHist _ _ [] _ hmem with h0 | ⟨h, hh, hroot, hwhy⟩
  · cases h0
  · refine ⟨h, hh, hroot, ?_⟩
    rcases hwhy with h1 | ⟨r, hr, hp⟩
    · exact Or.inl h1
    · right
      have : r ∈ ws.map (·.histRoot) := by rw [hroots]; exact hr
      obtain ⟨w', hw', rfl⟩ := List.mem_map.1 this
      exact ⟨w', hw', hp⟩

/-- the missing paths of the run: the expected paths not come across (less the ones `-dr` found renamed) that the
ignore patterns do not match — `missing` of `createFolder` -/
def cMissingGen (env : Env) (t : Node) (rootHist : Hist) (o : CreateOpts) : List RelPath :=
  missingAfter (cHit env rootHist o) (cRen env t rootHist o).2.1

/-- the run ends as `createExit 0 missing missingHist` says: missing files 10, a vanished nested history 30, else 0 -/
theorem nested_create_exit (hl : loadHistory t = .ok rootHist) (hcons : AllConsistent env t rootHist o) :
    (createFolder env t o).err = createExit 0 (cMissingGen env t rootHist o) (cMissingHist t rootHist) ∧
    (createFolder env t o).report.mismatch = [] ∧
    (createFolder env t o).report.missing = (cMissingGen env t rootHist o).map posix := by
  obtain ⟨ws, h1, -⟩ := nested_commit_ok hl hcons
  obtain ⟨hf, hm⟩ := nested_no_failed hcons
  rw [createFolder_eq_gen env t o rootHist hl, h1]
  dsimp only
  rw [hf, hm]
  exact ⟨rfl, rfl, rfl⟩

/-- the statement of `C17.detectRenames_no_missing_full` -/
theorem detectRenames_nil (env : Env) (t : Node) (rootHist : Hist) (s : Session) (newPaths : List RelPath) :
    detectRenames env t rootHist s newPaths [] = (s, [], []) :=
  MhlProps.C17.detectRenames_no_missing_full env t rootHist s newPaths

/-- every expected path (of the root history and of all nested histories, re-rooted) is visible or ignored -/
def ExpectedPresent (env : Env) (t : Node) (rootHist : Hist) (o : CreateOpts) : Prop :=
  ∀ p ∈ expectedPaths rootHist, (∃ d, (p, d) ∈ visiblePaths (cHit env rootHist o) t) ∨ hitAbove (cHit env rootHist o) p = true

/-- every nested history the latest root generation references still has its `ascmhl` folder -/
def RefsPresent (t : Node) (rootHist : Hist) : Prop :=
  ∀ g, rootHist.gens.getLast? = some g → ∀ ref ∈ g.gen.refs,
    ∃ n, t.at? (splitPath ref).dropLast.dropLast = some n ∧ n.hist.isSome = true

theorem cNotFound_nil (hexp : ExpectedPresent env t rootHist o) :
    (cNotFound_u env t rootHist o).filter (fun p => !hitAbove (cHit env rootHist o) p) = [] := by
  have hfound := cState_found env t rootHist o
  apply List.eq_nil_iff_forall_not_mem.2
  intro p hp
  unfold cNotFound_u at hp
  rw [List.mem_filter, List.mem_filter, hfound] at hp
  obtain ⟨⟨hpe, hnf⟩, hh⟩ := hp
  rcases hexp p hpe with ⟨d, hd'⟩ | hi
  · have : p ∈ (visiblePaths (cHit env rootHist o) t).map (·.1) := List.mem_map.2 ⟨(p, d), hd', rfl⟩
    simp [this] at hnf
  · simp [hi] at hh

theorem cMissingGen_nil (hexp : ExpectedPresent env t rootHist o) : cMissingGen env t rootHist o = [] := by
  have h0 := cNotFound_nil hexp
  apply List.eq_nil_iff_forall_not_mem.2
  intro p hp
  unfold cMissingGen at hp
  rw [mem_missingAfter] at hp
  obtain ⟨hp1, hp2⟩ := hp
  have : p ∈ (cNotFound_u env t rootHist o).filter (fun p => !hitAbove (cHit env rootHist o) p) := by
    rw [List.mem_filter]
    exact ⟨mem_cRen_notFound hp1, by simp [hp2]⟩
  rw [h0] at this
  cases this

theorem cMissingHist_nil (hrefs : RefsPresent t rootHist) : cMissingHist t rootHist = [] := by
  unfold cMissingHist
  cases hg : rootHist.gens.getLast? with
  | none => rfl
  | some g =>
    apply List.eq_nil_iff_forall_not_mem.2
    intro p hp
    obtain ⟨ref, href, hsome⟩ := List.mem_filterMap.1 hp
    obtain ⟨n, hn1, hn2⟩ := hrefs g hg ref href
    dsimp only at hsome
    rw [hn1] at hsome
    simp [hn2] at hsome

theorem nested_create_ok (hl : loadHistory t = .ok rootHist) (hcons : AllConsistent env t rootHist o)
    (hexp : ExpectedPresent env t rootHist o) (hrefs : RefsPresent t rootHist) :
    (createFolder env t o).err = none ∧ (createFolder env t o).exitCode = 0 ∧
    (createFolder env t o).report.mismatch = [] ∧ (createFolder env t o).report.missing = [] := by
  obtain ⟨h1, h2, h3⟩ := nested_create_exit hl hcons
  rw [cMissingGen_nil hexp, cMissingHist_nil hrefs] at h1
  rw [cMissingGen_nil hexp] at h3
  have herr : (createFolder env t o).err = none := h1
  refine ⟨herr, ?_, h2, h3⟩
  unfold Outcome.exitCode
  rw [herr]

/-- the same at command level (`create` without `-sf`) -/
theorem nested_create_ok_cmd (hsf : o.singleFiles = []) (hl : loadHistory t = .ok rootHist)
    (hcons : AllConsistent env t rootHist o) (hexp : ExpectedPresent env t rootHist o)
    (hrefs : RefsPresent t rootHist) :
    (create env t o).err = none ∧ (create env t o).exitCode = 0 := by
  rw [create_eq_createFolder env t o hsf]
  exact ⟨(nested_create_ok hl hcons hexp hrefs).1, (nested_create_ok hl hcons hexp hrefs).2.1⟩

end

section
variable {env : Env} {t : Node} {o : VerifyOpts} {rootHist : Hist}

/-- the hypothesis of `nested_verify_ok_partial` on one visible file: in the history that owns it the file is recorded
under its own name with an ORIGINAL entry that is the reference entry of its format (`RecordedOriginal`, what `create`
produces), and it is unaltered -/
def RecordedConsistent (env : Env) (t : Node) (rootHist : Hist) (p : RelPath) : Prop :=
  RecordedOriginal (owner_u rootHist p).gens (ownerRel rootHist p) ∧ OwnerFirstOk env t rootHist p

/- The plain reading of the verify side,

     if every visible file HAS a record in its owner history and is consistent, and every expected path is visible or
     ignored, then `verify env t {}` and `diff env t {}` have `err = none` with empty reports

   (`LiteralVerifyStatement` below), is false of the model when "has a record" is read literally (`HasRecord`: some generation of the owner history
   finds a record for the path): see `nested_verify_false` (an original entry that is not the first recorded digest of
   its format: exit 11), `nested_verify_false_new` (a record without original entry: exit 21),
   `nested_verify_false_renamed` (a record reached through a recorded rename: exit 11) and
   `nested_verify_false_no_root_gens` (only the nested history has generations: exit 30).  The extra hypotheses of the
   partial version are exactly what excludes these four: `RecordedOriginal` instead of `HasRecord`, and
   `rootHist.gens ≠ []`. -/

theorem nested_verify_ok_partial (hl : loadHistory t = .ok rootHist) (hg : rootHist.gens ≠ [])
    (hsf : o.singleFile = none)
    (hrec : ∀ p, (p, false) ∈ visiblePaths (vHit env rootHist o) t → RecordedConsistent env t rootHist p)
    (hexp : ∀ p ∈ expectedPaths rootHist,
      (∃ d, (p, d) ∈ visiblePaths (vHit env rootHist o) t) ∨ hitAbove (vHit env rootHist o) p = true) :
    ((verify env t o).err = none ∧ (verify env t o).exitCode = 0 ∧ (verify env t o).report.mismatch = [] ∧
      (verify env t o).report.new = [] ∧ (verify env t o).report.missing = []) ∧
    ((diff env t o).err = none ∧ (diff env t o).exitCode = 0 ∧ (diff env t o).report.mismatch = [] ∧
      (diff env t o).report.new = [] ∧ (diff env t o).report.missing = []) := by
  have hjudge : ∀ hashing p, (p, false) ∈ visiblePaths (vHit env rootHist o) t →
      judgeFile env t rootHist hashing p ≠ .mismatch ∧ judgeFile env t rootHist hashing p ≠ .new := by
    intro hashing p hp
    rw [judgeFile_ok env t rootHist hashing p (hrec p hp).1 (hrec p hp).2]
    exact ⟨by decide, by decide⟩
  refine ⟨?_, ?_⟩
  · exact MhlProps.C03.clean_exit_zero env t o true rootHist hl hg hsf (hjudge true) hexp
  · have hd : diff env t o = verifyOrDiff env t { o with singleFile := none } false none := rfl
    rw [hd]
    exact MhlProps.C03.clean_exit_zero env t { o with singleFile := none } false rootHist hl hg rfl
      (hjudge false) hexp

end

/-! ### the hypotheses are decidable, to establish them on concrete trees by evaluation -/

instance (rootHist : Hist) (p : RelPath) : Decidable (Unrecorded rootHist p) :=
  inferInstanceAs (Decidable (∀ g ∈ (owner_u rootHist p).gens, g.gen.find (ownerRel rootHist p) = none))

instance (env : Env) (t : Node) (rootHist : Hist) (p : RelPath) : Decidable (OwnerFirstOk env t rootHist p) :=
  inferInstanceAs (Decidable (FirstOk _ _ _))

instance (env : Env) (t : Node) (rootHist : Hist) (p : RelPath) : Decidable (Consistent env t rootHist p) :=
  inferInstanceAs (Decidable (_ ∨ _))

instance (env : Env) (t : Node) (rootHist : Hist) (p : RelPath) : Decidable (RecordedConsistent env t rootHist p) :=
  inferInstanceAs (Decidable (_ ∧ _))

scoped instance decForallFiles (l : List (RelPath × Bool)) (Q : RelPath → Prop) [DecidablePred Q] :
    Decidable (∀ p, (p, false) ∈ l → Q p) :=
  decidable_of_iff (∀ x ∈ l, x.2 = false → Q x.1)
    ⟨fun h p hp => h (p, false) hp rfl, fun h x hx hf => by obtain ⟨p, d⟩ := x; cases hf; exact h p hx⟩

instance (env : Env) (t : Node) (rootHist : Hist) (o : CreateOpts) : Decidable (AllConsistent env t rootHist o) :=
  inferInstanceAs (Decidable (∀ p, (p, false) ∈ _ → _))

/-- a property of every expected path is decided with the path splitter the kernel can evaluate -/
scoped instance decForallExpected (h : Hist) (Q : RelPath → Prop) [DecidablePred Q] :
    Decidable (∀ p ∈ expectedPaths h, Q p) :=
  decidable_of_iff (∀ p ∈ expectedPathsWith splitPathL h, Q p) (by rw [← expectedPaths_eq_with])

instance (env : Env) (t : Node) (rootHist : Hist) (o : CreateOpts) : Decidable (ExpectedPresent env t rootHist o) :=
  inferInstanceAs (Decidable (∀ p ∈ expectedPaths rootHist, _))

/-- `AllConsistent` for a given matcher as a Boolean (by `firstOkB`, Proofs/WrittenEntriesLemmas.lean); only
evaluated, on `big2Altered`, where it is false at the altered file -/
def allConsistentB (env : Env) (t : Node) (rootHist : Hist) (hit : RelPath → Bool) : Bool :=
  (visiblePaths hit t).all fun x =>
    x.2 || firstOkB (fun f => env.H f (fileContent t x.1)) (route rootHist x.1).1.gens (posix (route rootHist x.1).2)

theorem refsPresent_iff (t : Node) (rootHist : Hist) : RefsPresent t rootHist ↔ cMissingHist t rootHist = [] := by
  constructor
  · exact cMissingHist_nil
  · intro h g hg ref href
    unfold cMissingHist at h
    rw [hg] at h
    dsimp only at h
    have hnone := (List.filterMap_eq_nil_iff.1 h) ref href
    cases hat : t.at? (splitPath ref).dropLast.dropLast with
    | none => simp [hat] at hnone
    | some n =>
      refine ⟨n, rfl, ?_⟩
      simp only [hat] at hnone
      by_contra hc
      simp [hc] at hnone

instance (t : Node) (rootHist : Hist) : Decidable (RefsPresent t rootHist) :=
  decidable_of_iff (cMissingHistWith splitPathL t rootHist = [])
    (by rw [← cMissingHist_eq_with]; exact (refsPresent_iff t rootHist).symm)

/-! ### the literal statement of the verify side is false: four witnesses -/

/-- the literal reading of "the file has a record in the history that owns it" -/
def HasRecord (rootHist : Hist) (p : RelPath) : Prop :=
  ∃ g ∈ (owner_u rootHist p).gens, (g.gen.find (ownerRel rootHist p)).isSome = true

instance (rootHist : Hist) (p : RelPath) : Decidable (HasRecord rootHist p) :=
  inferInstanceAs (Decidable (∃ g ∈ (owner_u rootHist p).gens, _ = true))

def LiteralHyps (env : Env) (t : Node) (rootHist : Hist) : Prop :=
  loadHistory t = .ok rootHist ∧ t.NamesDistinct ∧ t.NamesOk ∧
  (∀ p, (p, false) ∈ visiblePaths (vHit env rootHist {}) t → HasRecord rootHist p ∧ Consistent env t rootHist p) ∧
  (∀ p ∈ expectedPaths rootHist,
    (∃ d, (p, d) ∈ visiblePaths (vHit env rootHist {}) t) ∨ hitAbove (vHit env rootHist {}) p = true)

def LiteralVerifyStatement : Prop :=
  ∀ (env : Env) (t : Node) (rootHist : Hist), LiteralHyps env t rootHist →
    (verify env t {}).err = none ∧ (diff env t {}).err = none

/-- generation 1 records the digest of the content as `verified` (no original); generation 2 records ANOTHER digest
as `original` — a history `create` never writes, but a loadable one -/
def wG1 : Generation :=
  { fileName := "0001_root_2020-01-16_091500Z.mhl", ignore := wIgnore,
    records := [{ path := "a.txt", size := some 2, entries := [{ fmt := "md5", digest := "md5:2", action := "verified" }] }] }
def wG2 : Generation :=
  { fileName := "0002_root_2020-01-17_091500Z.mhl", ignore := wIgnore,
    records := [{ path := "a.txt", size := some 2, entries := [{ fmt := "md5", digest := "md5:999", action := "original" }] }] }

def wStore : HistStore := { gens := [wG1, wG2], chain := [⟨1, wG1.fileName⟩, ⟨2, wG2.fileName⟩] }
def wTree : Node := .dir "root" [.file "a.txt" [1, 2]] (some wStore)
def wHist : Hist := .mk [] [⟨1, wG1⟩, ⟨2, wG2⟩] wStore.chain true []

/-- first witness: all hypotheses of the literal statement hold, yet `verify` ends with 11 and names the (unaltered)
file: the ORIGINAL entry verify compares with is not the first recorded digest of its format, which is what
`FirstOk` (and `create`) look at -/
theorem nested_verify_false_witness : LiteralHyps wEnv wTree wHist ∧
    (verify wEnv wTree {}).err = some errVerifyFailed ∧ (verify wEnv wTree {}).exitCode = 11 ∧
    (verify wEnv wTree {}).report.mismatch = ["a.txt"] := by
  refine ⟨⟨by rfl, namesDistinctB_spec _ (by decide +kernel), by decide +kernel⟩, ?_⟩
  rw [verify_eq_with]
  decide +kernel

theorem nested_verify_false : ¬ LiteralVerifyStatement := by
  intro h
  have h1 := (h wEnv wTree wHist nested_verify_false_witness.1).1
  rw [nested_verify_false_witness.2.1] at h1
  cases h1

/-- second witness: the only record of the file has no `original` entry: verify and diff call the file NEW (21) -/
def wStoreNew : HistStore := { gens := [wG1], chain := [⟨1, wG1.fileName⟩] }
def wTreeNew : Node := .dir "root" [.file "a.txt" [1, 2]] (some wStoreNew)
def wHistNew : Hist := .mk [] [⟨1, wG1⟩] wStoreNew.chain true []

theorem nested_verify_false_new : LiteralHyps wEnv wTreeNew wHistNew ∧
    (verify wEnv wTreeNew {}).err = some errNewFiles ∧ (verify wEnv wTreeNew {}).report.new = ["a.txt"] ∧
    (diff wEnv wTreeNew {}).err = some errNewFiles := by
  refine ⟨⟨by rfl, namesDistinctB_spec _ (by decide +kernel), by decide +kernel⟩, ?_⟩
  rw [verify_eq_with, diff_eq_with]
  decide +kernel

/-- third witness: the record is reached through a recorded rename; the digests recorded under the new name are those
of the content, the original recorded under the old name is not: verify follows the rename and reports a mismatch -/
def wG1r : Generation :=
  { fileName := "0001_root_2020-01-16_091500Z.mhl", ignore := wIgnore,
    records := [{ path := "old.txt", size := some 7, entries := [{ fmt := "md5", digest := "md5:7", action := "original" }] }] }
def wG2r : Generation :=
  { fileName := "0002_root_2020-01-17_091500Z.mhl", ignore := wIgnore,
    records := [{ path := "a.txt", size := some 2, prev := some "old.txt",
                  entries := [{ fmt := "md5", digest := "md5:2", action := "verified" }] }] }
def wStoreRen : HistStore := { gens := [wG1r, wG2r], chain := [⟨1, wG1r.fileName⟩, ⟨2, wG2r.fileName⟩] }
def wTreeRen : Node := .dir "root" [.file "a.txt" [1, 2]] (some wStoreRen)
def wHistRen : Hist := .mk [] [⟨1, wG1r⟩, ⟨2, wG2r⟩] wStoreRen.chain true []

theorem nested_verify_false_renamed : LiteralHyps wEnv wTreeRen wHistRen ∧
    (verify wEnv wTreeRen {}).err = some errVerifyFailed ∧ (verify wEnv wTreeRen {}).report.mismatch = ["a.txt"] := by
  refine ⟨⟨by rfl, namesDistinctB_spec _ (by decide +kernel), by decide +kernel⟩, ?_⟩
  rw [verify_eq_with]
  decide +kernel

/-- fourth witness: only the nested history at `A/` has a generation, the root has no `ascmhl` folder: every file is
recorded and consistent in the history that owns it, yet verify and diff from the outer root end with 30 -/
def wGA : Generation :=
  { fileName := "0001_A_2020-01-16_091500Z.mhl", ignore := wIgnore,
    records := [{ path := "x", size := some 1, entries := [{ fmt := "md5", digest := "md5:1", action := "original" }] }] }
def wStoreA : HistStore := { gens := [wGA], chain := [⟨1, wGA.fileName⟩] }
def wTreeA : Node := .dir "root" [.dir "A" [.file "x" [5]] (some wStoreA)] none
def wHistA : Hist := .mk [] [] [] false [.mk ["A"] [⟨1, wGA⟩] wStoreA.chain true []]

theorem nested_verify_false_no_root_gens : LiteralHyps wEnv wTreeA wHistA ∧
    (verify wEnv wTreeA {}).err = some errNoHistory ∧ (diff wEnv wTreeA {}).err = some errNoHistory := by
  refine ⟨⟨by rfl, namesDistinctB_spec _ (by decide +kernel), by decide +kernel⟩, ?_⟩
  rw [verify_eq_with, diff_eq_with]
  decide +kernel

/-! ### the whole pipeline on the trees of Proofs/ExampleWorlds.lean, by evaluation -/

instance (t : Node) : Decidable (loadHistory t = .ok (loadD t)) :=
  decidable_of_iff _ ⟨loadD_spec t, fun h => by rw [h]⟩

def summary (out : Outcome) : List (RelPath × Nat × List String × List String) :=
  out.written.map fun w => (w.histRoot, w.number, w.gen.records.map (·.path), w.gen.refs)

set_option synthInstance.maxSize 2048 in
/-- seal `A` on its own, graft it into the big tree, seal from the outer root, reseal with
another format, verify, diff — every step EVALUATED (`decide +kernel`; `splitPath` through `splitPathL`): all exit
codes are 0, every run writes one generation per history (the nested one first, the root one referencing it), and the
final reports are empty. -/
theorem nested_two_level_e2e :
    -- the inner seal
    (createFolder envA treeA oA).exitCode = 0 ∧
    summary (createFolder envA treeA oA) = [([], 1, ["sub/s", "sub", "x.mov", "y.mov"], [])] ∧
    -- the grafted tree: no history at the root, the nested one at A with its generation 1
    histShape big1 = some [([], []), (["A"], [1])] ∧
    -- the outer seal: exit code 0; A writes generation 2 (files verified against generation 1), then the root
    -- writes generation 1 with the folder A as a record and a reference to A's new manifest
    (createFolder envR big1 o1).exitCode = 0 ∧ (createFolder envR big1 o1).report.mismatch = [] ∧
    (createFolder envR big1 o1).report.missing = [] ∧
    summary (createFolder envR big1 o1) =
      [(["A"], 2, ["sub/s", "sub", "x.mov", "y.mov"], []),
       ([], 1, ["A", "B/z", "B", "top.txt"], ["A/ascmhl/0002_A_2020-01-16_091500Z.mhl"])] ∧
    histShape big2 = some [([], [1]), (["A"], [1, 2])] ∧
    -- the reseal with a new format: exit code 0, generation 3 / 2
    (createFolder envR big2 o2).exitCode = 0 ∧ (createFolder envR big2 o2).report.mismatch = [] ∧
    (createFolder envR big2 o2).report.missing = [] ∧
    (summary (createFolder envR big2 o2)).map (fun x => (x.1, x.2.1)) = [(["A"], 3), ([], 2)] ∧
    histShape big3 = some [([], [1, 2]), (["A"], [1, 2, 3])] ∧
    -- verify and diff on the result
    (verify envR big3 {}).exitCode = 0 ∧ (verify envR big3 {}).report.mismatch = [] ∧
    (verify envR big3 {}).report.new = [] ∧ (verify envR big3 {}).report.missing = [] ∧
    (diff envR big3 {}).exitCode = 0 ∧ (diff envR big3 {}).report.new = [] ∧
    (diff envR big3 {}).report.missing = [] := by
  rw [createFolder_eq_with, verify_eq_with, diff_eq_with]
  decide +kernel

/-! ### the hypotheses of the theorems hold on these trees (non-vacuity), and the theorems give the same exit codes -/

/-- Everything that is evaluated on the two-level trees, together: each fact needs the whole chain of runs up to its
tree, and the kernel shares the evaluation of a closed term within one declaration only.  First the setting (names
well-formed, sibling names distinct) and the hypotheses of the theorems on the three trees; then the routing on the
sealed tree (and of one file on the grafted tree); then the run on the altered tree. -/
theorem big_tests :
    ((big1.NamesOk ∧ namesDistinctB_u big1 = true ∧ loadHistory big1 = .ok (loadD big1) ∧
        AllConsistent envR big1 (loadD big1) o1 ∧ ExpectedPresent envR big1 (loadD big1) o1 ∧
        RefsPresent big1 (loadD big1)) ∧
      (big2.NamesOk ∧ namesDistinctB_u big2 = true ∧ loadHistory big2 = .ok (loadD big2) ∧
        AllConsistent envR big2 (loadD big2) {} ∧ ExpectedPresent envR big2 (loadD big2) {} ∧
        RefsPresent big2 (loadD big2)) ∧
      (big3.NamesOk ∧ namesDistinctB_u big3 = true ∧ loadHistory big3 = .ok (loadD big3) ∧
        (loadD big3).gens ≠ [] ∧
        (∀ p, (p, false) ∈ visiblePaths (vHit envR (loadD big3) {}) big3 →
          RecordedConsistent envR big3 (loadD big3) p) ∧
        (∀ p ∈ expectedPaths (loadD big3), (∃ d, (p, d) ∈ visiblePaths (vHit envR (loadD big3) {}) big3) ∨
          hitAbove (vHit envR (loadD big3) {}) p = true))) ∧
    ((owner_u (loadD big2) ["A", "sub", "s"]).root = ["A"] ∧ ownerRel (loadD big2) ["A", "sub", "s"] = "sub/s" ∧
      existingFormats (owner_u (loadD big2) ["A", "sub", "s"]).gens "sub/s" = ["md5", "xxh64"] ∧
      (owner_u (loadD big2) ["B", "z"]).root = [] ∧ ownerRel (loadD big2) ["B", "z"] = "B/z" ∧
      existingFormats (owner_u (loadD big2) ["B", "z"]).gens "B/z" = ["md5", "xxh64"] ∧
      existingFormats (loadD big2).gens "A/x.mov" = [] ∧ ownerRel (loadD big1) ["A", "sub", "s"] = "sub/s") ∧
    ((createFolder envR big2Altered o2).exitCode = 11 ∧
      (createFolder envR big2Altered o2).report.mismatch = ["A/x.mov"] ∧
      allConsistentB envR big2Altered (loadD big2Altered) (cHit envR (loadD big2Altered) o2) = false) := by
  rw [createFolder_eq_with]
  decide +kernel

theorem load1 : loadHistory big1 = .ok (loadD big1) := big_tests.1.1.2.2.1
theorem load2 : loadHistory big2 = .ok (loadD big2) := big_tests.1.2.1.2.2.1
theorem load3 : loadHistory big3 = .ok (loadD big3) := big_tests.1.2.2.2.2.1

/-- sibling names are distinct and names well-formed on these trees -/
example : big1.NamesOk ∧ big2.NamesOk ∧ big3.NamesOk := ⟨big_tests.1.1.1, big_tests.1.2.1.1, big_tests.1.2.2.1⟩

example : big1.NamesDistinct ∧ big2.NamesDistinct ∧ big3.NamesDistinct :=
  ⟨namesDistinctB_spec _ big_tests.1.1.2.1, namesDistinctB_spec _ big_tests.1.2.1.2.1,
    namesDistinctB_spec _ big_tests.1.2.2.2.1⟩

/-- routing on the sealed tree: the files below `A/` are owned by the nested history (root `["A"]`, relative name),
the others by the root history; both have records there — so `Consistent` is not the vacuous `Unrecorded` case -/
example : (owner_u (loadD big2) ["A", "sub", "s"]).root = ["A"] ∧ ownerRel (loadD big2) ["A", "sub", "s"] = "sub/s" ∧
    existingFormats (owner_u (loadD big2) ["A", "sub", "s"]).gens "sub/s" = ["md5", "xxh64"] ∧
    (owner_u (loadD big2) ["B", "z"]).root = [] ∧ ownerRel (loadD big2) ["B", "z"] = "B/z" ∧
    existingFormats (owner_u (loadD big2) ["B", "z"]).gens "B/z" = ["md5", "xxh64"] ∧
    existingFormats (loadD big2).gens "A/x.mov" = [] := by
  obtain ⟨a1, a2, a3, a4, a5, a6, a7, -⟩ := big_tests.2.1
  exact ⟨a1, a2, a3, a4, a5, a6, a7⟩

/-- on the grafted tree (outer root not sealed yet) the files below `A/` are recorded in the nested history, the
others nowhere: every visible file is consistent, nothing is expected elsewhere, no reference can dangle -/
theorem hyps1 : AllConsistent envR big1 (loadD big1) o1 ∧ ExpectedPresent envR big1 (loadD big1) o1 ∧
    RefsPresent big1 (loadD big1) :=
  big_tests.1.1.2.2.2

example : (createFolder envR big1 o1).err = none ∧ (createFolder envR big1 o1).exitCode = 0 :=
  ⟨(nested_create_ok load1 hyps1.1 hyps1.2.1 hyps1.2.2).1, (nested_create_ok load1 hyps1.1 hyps1.2.1 hyps1.2.2).2.1⟩

/-- on the sealed tree every visible file is recorded in the history that owns it and unaltered; the hypotheses
only depend on the ignore options of the run, not on the formats, `-dr` or directory hashes -/
theorem hyps2 (fmts : List String) (nd dr : Bool) :
    AllConsistent envR big2 (loadD big2) { formats := fmts, noDirHashes := nd, detectRenaming := dr } ∧
    ExpectedPresent envR big2 (loadD big2) { formats := fmts, noDirHashes := nd, detectRenaming := dr } ∧
    RefsPresent big2 (loadD big2) :=
  big_tests.1.2.1.2.2.2

/-- hence EVERY reseal of the sealed tree — any list of formats (empty, recorded, new, mixed), with or without
directory hashes, with or without `-dr` — ends with exit code 0 and without mismatch: the general theorem at work on
a tree with a nested history (this cannot be had by evaluation) -/
theorem reseal_any_formats (fmts : List String) (nd dr : Bool) :
    (createFolder envR big2 { formats := fmts, noDirHashes := nd, detectRenaming := dr }).err = none ∧
    (createFolder envR big2 { formats := fmts, noDirHashes := nd, detectRenaming := dr }).report.mismatch = [] :=
  ⟨(nested_create_ok load2 (hyps2 fmts nd dr).1 (hyps2 fmts nd dr).2.1 (hyps2 fmts nd dr).2.2).1,
    (nested_create_ok load2 (hyps2 fmts nd dr).1 (hyps2 fmts nd dr).2.1 (hyps2 fmts nd dr).2.2).2.2.1⟩

/-- the hypotheses of `nested_verify_ok_partial` on the resealed tree -/
theorem hyps3 : (loadD big3).gens ≠ [] ∧
    (∀ p, (p, false) ∈ visiblePaths (vHit envR (loadD big3) {}) big3 → RecordedConsistent envR big3 (loadD big3) p) ∧
    (∀ p ∈ expectedPaths (loadD big3),
      (∃ d, (p, d) ∈ visiblePaths (vHit envR (loadD big3) {}) big3) ∨ hitAbove (vHit envR (loadD big3) {}) p = true) :=
  big_tests.1.2.2.2.2.2

example : (verify envR big3 {}).err = none ∧ (diff envR big3 {}).err = none :=
  ⟨(nested_verify_ok_partial load3 hyps3.1 rfl hyps3.2.1 hyps3.2.2).1.1,
    (nested_verify_ok_partial load3 hyps3.1 rfl hyps3.2.1 hyps3.2.2).2.1⟩

example : (createFolder envR big2Altered o2).exitCode = 11 ∧
    (createFolder envR big2Altered o2).report.mismatch = ["A/x.mov"] ∧
    allConsistentB envR big2Altered (loadD big2Altered) (cHit envR (loadD big2Altered) o2) = false :=
  big_tests.2.2

set_option synthInstance.maxSize 2048 in
/-- the same with a GRAND-CHILD history: `A/sub` sealed on its own (sha1), grafted into
`A`; `A` sealed on its own (md5; `sub` writes its generation 2 and is referenced by A's generation 1), grafted into
the big tree; sealed from the outer root (every history writes, innermost first, each parent referencing its child's
new manifest); resealed with another format; verified.  All exit codes 0, by evaluation. -/
theorem nested_three_level_e2e :
    summary (createFolder envS treeS oS) = [([], 1, ["r", "s"], [])] ∧
    histShape a1 = some [([], []), (["sub"], [1])] ∧
    (createFolder envA a1 oA).exitCode = 0 ∧
    summary (createFolder envA a1 oA) =
      [(["sub"], 2, ["r", "s"], []),
       ([], 1, ["sub", "x.mov"], ["sub/ascmhl/0002_sub_2020-01-16_091500Z.mhl"])] ∧
    histShape c1 = some [([], []), (["A"], [1]), (["A", "sub"], [1, 2])] ∧
    (createFolder envR c1 o1).exitCode = 0 ∧ (createFolder envR c1 o1).report.mismatch = [] ∧
    (createFolder envR c1 o1).report.missing = [] ∧
    summary (createFolder envR c1 o1) =
      [(["A", "sub"], 3, ["r", "s"], []),
       (["A"], 2, ["sub", "x.mov"], ["sub/ascmhl/0003_sub_2020-01-16_091500Z.mhl"]),
       ([], 1, ["A", "B/z", "B", "top.txt"], ["A/ascmhl/0002_A_2020-01-16_091500Z.mhl"])] ∧
    histShape c2 = some [([], [1]), (["A"], [1, 2]), (["A", "sub"], [1, 2, 3])] ∧
    (createFolder envR c2 o2).exitCode = 0 ∧ (createFolder envR c2 o2).report.mismatch = [] ∧
    (summary (createFolder envR c2 o2)).map (fun x => (x.1, x.2.1)) = [(["A", "sub"], 4), (["A"], 3), ([], 2)] ∧
    histShape c3 = some [([], [1, 2]), (["A"], [1, 2, 3]), (["A", "sub"], [1, 2, 3, 4])] ∧
    (verify envR c3 {}).exitCode = 0 ∧ (verify envR c3 {}).report.mismatch = [] ∧
    (verify envR c3 {}).report.new = [] ∧ (verify envR c3 {}).report.missing = [] ∧
    (diff envR c3 {}).exitCode = 0 ∧ (diff envR c3 {}).report.new = [] ∧ (diff envR c3 {}).report.missing = [] := by
  rw [createFolder_eq_with, verify_eq_with, diff_eq_with]
  decide +kernel

theorem c2_tests : (loadHistory c2 = .ok (loadD c2) ∧ AllConsistent envR c2 (loadD c2) {} ∧
      ExpectedPresent envR c2 (loadD c2) {} ∧ RefsPresent c2 (loadD c2)) ∧
    ((owner_u (loadD c2) ["A", "sub", "s"]).root = ["A", "sub"] ∧ ownerRel (loadD c2) ["A", "sub", "s"] = "s" ∧
      (owner_u (loadD c2) ["A", "x.mov"]).root = ["A"] ∧ (owner_u (loadD c2) ["top.txt"]).root = [] ∧
      existingFormats (owner_u (loadD c2) ["A", "sub", "s"]).gens "s" = ["sha1", "md5", "xxh64"]) := by
  decide +kernel

theorem load_c2 : loadHistory c2 = .ok (loadD c2) := c2_tests.1.1

theorem hyps_c2 (fmts : List String) (nd dr : Bool) :
    AllConsistent envR c2 (loadD c2) { formats := fmts, noDirHashes := nd, detectRenaming := dr } ∧
    ExpectedPresent envR c2 (loadD c2) { formats := fmts, noDirHashes := nd, detectRenaming := dr } ∧
    RefsPresent c2 (loadD c2) :=
  c2_tests.1.2

example : (owner_u (loadD c2) ["A", "sub", "s"]).root = ["A", "sub"] ∧ ownerRel (loadD c2) ["A", "sub", "s"] = "s" ∧
    (owner_u (loadD c2) ["A", "x.mov"]).root = ["A"] ∧ (owner_u (loadD c2) ["top.txt"]).root = [] ∧
    existingFormats (owner_u (loadD c2) ["A", "sub", "s"]).gens "s" = ["sha1", "md5", "xxh64"] := c2_tests.2

theorem reseal_any_formats3 (fmts : List String) (nd dr : Bool) :
    (createFolder envR c2 { formats := fmts, noDirHashes := nd, detectRenaming := dr }).err = none :=
  (nested_create_ok load_c2 (hyps_c2 fmts nd dr).1 (hyps_c2 fmts nd dr).2.1 (hyps_c2 fmts nd dr).2.2).1

/-! ### grafting: a sub-tree sealed on its own, seen from the outer root -/

section
variable {rn : String} {cs : List Node} {hs : Option HistStore} {inner : Node} {s : HistStore} {hin hout : Hist}

theorem fileContent_graft (hnd : (cs.map Node.name).Nodup) (hmem : ∃ c ∈ cs, c.name = inner.name) (q : RelPath) :
    fileContent (graft (.dir rn cs hs) inner.name inner) (inner.name :: q) = fileContent inner q := by
  obtain ⟨hin, -, hnames⟩ := graft_kids cs inner hmem
  unfold fileContent
  rw [graft_dir, Node.at?_dir_cons, findChild_of_mem (by rw [hnames]; exact hnd) hin]
  rfl

/-- in the big tree a path below the graft is owned by the same history as in the sub-tree on its
own (re-rooted): same generations, same relative name -/
theorem graft_owner (hst : inner.hist = some s) (hnd : (cs.map Node.name).Nodup)
    (hmem : ∃ c ∈ cs, c.name = inner.name) (hlin : loadHistory inner = .ok hin)
    (hlout : loadHistory (graft (.dir rn cs hs) inner.name inner) = .ok hout) (q : RelPath) :
    owner_u hout (inner.name :: q) = rerootH [inner.name] (owner_u hin q) ∧
    (owner_u hout (inner.name :: q)).root = inner.name :: (owner_u hin q).root ∧
    (owner_u hout (inner.name :: q)).gens = (owner_u hin q).gens ∧
    (owner_u hout (inner.name :: q)).chain = (owner_u hin q).chain ∧
    ownerRel hout (inner.name :: q) = ownerRel hin q := by
  have h := graft_route rn cs hs inner s hst hnd hmem hin hout hlin hlout q
  unfold owner_u ownerRel
  rw [h]
  exact ⟨rfl, by rw [rerootH_root]; rfl, rerootH_gens _ _, rerootH_chain _ _, rfl⟩

/-- hence `create` from the outer root judges and records every file of the grafted
sub-tree exactly as `create` from the sub-tree's own root does (same entries, same results, for every list of
formats), verify / diff give the same verdict, and the file is consistent in the big tree iff it is in the
sub-tree -/
theorem graft_preserves_records (env : Env) (hst : inner.hist = some s) (hnd : (cs.map Node.name).Nodup)
    (hmem : ∃ c ∈ cs, c.name = inner.name) (hlin : loadHistory inner = .ok hin)
    (hlout : loadHistory (graft (.dir rn cs hs) inner.name inner) = .ok hout) (q : RelPath) :
    (∀ req, sealEntries (owner_u hout (inner.name :: q)).gens (ownerRel hout (inner.name :: q))
        (fun f => env.H f (fileContent (graft (.dir rn cs hs) inner.name inner) (inner.name :: q))) req =
      sealEntries (owner_u hin q).gens (ownerRel hin q) (fun f => env.H f (fileContent inner q)) req) ∧
    (∀ hashing, judgeFile env (graft (.dir rn cs hs) inner.name inner) hout hashing (inner.name :: q) =
      judgeFile env inner hin hashing q) ∧
    (Consistent env (graft (.dir rn cs hs) inner.name inner) hout (inner.name :: q) ↔ Consistent env inner hin q) := by
  obtain ⟨-, -, hg, -, hr⟩ := graft_owner hst hnd hmem hlin hlout q
  have hc := fileContent_graft (rn := rn) (hs := hs) hnd hmem q
  refine ⟨?_, ?_, ?_⟩
  · intro req
    rw [hg, hr, hc]
  · intro hashing
    have h := graft_route rn cs hs inner s hst hnd hmem hin hout hlin hlout q
    unfold judgeFile
    rw [h, hc]
    simp only [rerootH_gens]
  · unfold Consistent Unrecorded OwnerFirstOk
    rw [hg, hr, hc]

end

/-- the grafted tree `big1` is a graft in this sense; so in the big tree the files below `A/` are owned by A's own
history with A's own generations, and are consistent because they are in `sealedA` -/
example : big1 = graft big0 "A" sealedA := rfl

set_option maxRecDepth 100000 in
example : (owner_u (loadD big1) ["A", "sub", "s"]).gens = (owner_u (loadD sealedA) ["sub", "s"]).gens ∧
    ownerRel (loadD big1) ["A", "sub", "s"] = "sub/s" := by
  have hname : sealedA.name = "A" := by decide +kernel
  have hst : ∃ s, sealedA.hist = some s := by
    cases h : sealedA.hist with
    | none => exact absurd h (by decide +kernel)
    | some s => exact ⟨s, rfl⟩
  obtain ⟨s, hst⟩ := hst
  have hlin : loadHistory sealedA = .ok (loadD sealedA) := loadD_spec _ (by decide +kernel)
  have hlout : loadHistory (graft (.dir "root" [.file "top.txt" [9], treeA, .dir "B" [.file "z" []] none,
      .file ".DS_Store" [0]] none) sealedA.name sealedA) = .ok (loadD big1) := by
    rw [hname]; exact load1
  obtain ⟨-, -, hg, -, -⟩ := graft_owner hst (by decide) ⟨treeA, by simp, by rw [hname]; rfl⟩ hlin hlout ["sub", "s"]
  rw [hname] at hg
  exact ⟨hg, big_tests.2.1.2.2.2.2.2.2.2⟩

end MhlProps.C04nested
