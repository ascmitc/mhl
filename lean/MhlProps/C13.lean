/-
C13 — Results do not depend on how the OS lists a directory.

`Node.PermEq a b` (MhlProps/C07.lean): `b` is `a` with the children lists of any directories re-ordered.
`t.NamesDistinct` (MhlProps/Proofs/TraverseLemmas.lean): sibling names are pairwise distinct in every directory of the
tree (what a file system guarantees).  All results are for `PermEq a b` with `a.NamesDistinct`; without it they are
false (`traverse_perm_needs_distinct`, `fileContent_perm_needs_distinct`).

The traversal yields EQUAL lists of visits (sorting by name makes the order canonical); the look-up of a path gives
related nodes (equal contents, kinds and `ascmhl` folders); loading gives the same history or the SAME error
(`findChildren` evaluates the per-child results in the order of the names, so the first problem in walk order wins
whatever order the OS lists in).  The commands look at the tree only through `traverse`, `fileContent`, `Node.at?` and
`loadHistory`: first every piece they are made of (`judgeFile`, `dhVisit`, `createVisit`, `detectRenames`,
`filesBelow`, the two anonymous matches on `at?`) is shown equal on both trees, then the commands by rewriting: the
full outcome (exit, report, written generations) is EQUAL, also against a packing list.  Last, the children listed in
every visit are sorted by name.
-/
import MhlProps.Proofs.LoadLemmas
import MhlProps.Proofs.DirHashImplLemmas
import MhlProps.Proofs.PermLemmas

namespace MhlProps.C13
open MhlModel

/-! ### 1. the traversal -/

theorem traverse_perm (hit : RelPath → Bool) (here : RelPath) (n : String) {cs₁ cs₂ : List Node}
    (h : Option HistStore) (hp : cs₁.Perm cs₂) (hnd : (cs₁.map Node.name).Nodup) :
    traverse hit here (.dir n cs₁ h) = traverse hit here (.dir n cs₂ h) := by
  rw [traverse_dir, traverse_dir, visKids_perm_eq hit here hp hnd]

theorem traverse_perm_deep (hit : RelPath → Bool) (here : RelPath) {a b : Node} (hab : Node.PermEq a b)
    (hd : a.NamesDistinct) : traverse hit here a = traverse hit here b := by
  revert here
  refine hab.induct_distinct (R := fun a b => ∀ here, traverse hit here a = traverse hit here b)
    (fun _ _ => rfl) (fun h₁ h₂ here => (h₁ here).trans (h₂ here))
    (fun n _ _ h hp hnd here => traverse_perm hit here n h hp hnd) ?_ hd
  intro n pre post h a b hab _ ih here
  have hk : kidOf hit here a = kidOf hit here b := by
    simp only [kidOf, hab.name_eq, hab.isDir_eq]
    rw [← hab.name_eq, ih]
  rw [traverse_dir, traverse_dir]
  simp only [visKids, List.map_append, List.map_cons, hk]

theorem visiblePaths_listing_independent (hit : RelPath → Bool) {a b : Node} (hab : Node.PermEq a b)
    (hd : a.NamesDistinct) : visiblePaths hit a = visiblePaths hit b := by
  unfold visiblePaths
  rw [traverse_perm_deep hit [] hab hd]

/-- the hypothesis is needed: with a file and a folder of the same name (which no file system holds) the stable sort
keeps the stored order -/
theorem traverse_perm_needs_distinct :
    [Node.file "a" [], Node.dir "a" [] none].Perm [Node.dir "a" [] none, Node.file "a" []] ∧
    traverse (fun _ => false) [] (.dir "" [.file "a" [], .dir "a" [] none] none) ≠
      traverse (fun _ => false) [] (.dir "" [.dir "a" [] none, .file "a" []] none) :=
  ⟨List.Perm.swap _ _ _, by decide +kernel⟩

/-! ### 2. the look-up of a path -/

/-- the nodes found at a path are both absent or related (`OptPermEq`, MhlProps/Proofs/PermLemmas.lean) -/
theorem at?_perm {a b : Node} (hab : Node.PermEq a b) (hd : a.NamesDistinct) (p : RelPath) :
    OptPermEq (a.at? p) (b.at? p) := by
  revert p
  refine hab.induct_distinct (R := fun a b => ∀ p, OptPermEq (a.at? p) (b.at? p))
    (fun _ _ => OptPermEq.refl _) (fun h₁ h₂ p => (h₁ p).trans (h₂ p)) ?_ ?_ hd
  · intro n cs₁ cs₂ h hp hnd p
    cases p with
    | nil => exact Node.PermEq.perm n h hp
    | cons m rest =>
      rw [Node.at?_dir_cons, Node.at?_dir_cons, findChild_perm hp hnd m]
      exact OptPermEq.refl _
  · intro n pre post h a b hab _ ih p
    cases p with
    | nil => exact Node.PermEq.congr n pre post h hab
    | cons m rest =>
      rw [Node.at?_dir_cons, Node.at?_dir_cons, findChild_append, findChild_append, findChild_cons,
        findChild_cons, ← hab.name_eq]
      cases findChild pre m with
      | some c => exact OptPermEq.refl _
      | none =>
        simp only [Option.none_or]
        split
        · exact ih rest
        · exact OptPermEq.refl _

theorem at?_perm_cases {a b : Node} (hab : Node.PermEq a b) (hd : a.NamesDistinct) (p : RelPath) :
    a.at? p = b.at? p ∨ ∃ n cs cs' h, a.at? p = some (.dir n cs h) ∧ b.at? p = some (.dir n cs' h) ∧
      Node.PermEq (.dir n cs h) (.dir n cs' h) :=
  (at?_perm hab hd p).cases

/-- whatever is computed from the node at a path without looking at the listing of a directory is the same in both
trees -/
theorem at?_congr {α : Sort _} {a b : Node} (hab : Node.PermEq a b) (hd : a.NamesDistinct) (f : Option Node → α)
    (hf : ∀ n cs cs' h, f (some (.dir n cs h)) = f (some (.dir n cs' h))) (p : RelPath) :
    f (a.at? p) = f (b.at? p) := by
  rcases at?_perm_cases hab hd p with h | ⟨n, cs, cs', h, h1, h2, -⟩
  · rw [h]
  · rw [h1, h2]; exact hf n cs cs' h

theorem fileContent_perm {a b : Node} (hab : Node.PermEq a b) (hd : a.NamesDistinct) (p : RelPath) :
    fileContent a p = fileContent b p :=
  at?_congr hab hd (fun x => match x with | some (.file _ c) => c | _ => []) (fun _ _ _ _ => rfl) p

theorem at?_file_perm {a b : Node} (hab : Node.PermEq a b) (hd : a.NamesDistinct) (p : RelPath) (n : String)
    (c : Bytes) : a.at? p = some (.file n c) ↔ b.at? p = some (.file n c) :=
  iff_of_eq (at?_congr hab hd (· = some (.file n c)) (fun _ _ _ _ => by simp) p)

theorem at?_hist_perm {a b : Node} (hab : Node.PermEq a b) (hd : a.NamesDistinct) (p : RelPath) :
    (a.at? p).map Node.hist = (b.at? p).map Node.hist :=
  at?_congr hab hd (·.map Node.hist) (fun _ _ _ _ => rfl) p

theorem at?_isDir_perm {a b : Node} (hab : Node.PermEq a b) (hd : a.NamesDistinct) (p : RelPath) :
    (a.at? p).map Node.isDir = (b.at? p).map Node.isDir :=
  at?_congr hab hd (·.map Node.isDir) (fun _ _ _ _ => rfl) p

theorem at?_name_perm {a b : Node} (hab : Node.PermEq a b) (hd : a.NamesDistinct) (p : RelPath) :
    (a.at? p).map Node.name = (b.at? p).map Node.name :=
  at?_congr hab hd (·.map Node.name) (fun _ _ _ _ => rfl) p

/-- the hypothesis is needed: with two files of the same name the look-up finds the one stored first -/
theorem fileContent_perm_needs_distinct :
    [Node.file "a" [1], Node.file "a" [2]].Perm [Node.file "a" [2], Node.file "a" [1]] ∧
    fileContent (.dir "" [.file "a" [1], .file "a" [2]] none) ["a"] ≠
      fileContent (.dir "" [.file "a" [2], .file "a" [1]] none) ["a"] :=
  ⟨List.Perm.swap _ _ _, by decide +kernel⟩

/-! ### 3. loading the histories -/

theorem findChildren_perm {a b : Node} (hab : Node.PermEq a b) (hd : a.NamesDistinct) (here : RelPath) :
    findChildren here a = findChildren here b := by
  revert here
  refine hab.induct_distinct (R := fun a b => ∀ here, findChildren here a = findChildren here b)
    (fun _ _ => rfl) (fun h₁ h₂ here => (h₁ here).trans (h₂ here))
    (fun n _ _ h hp hnd here => findChildren_perm_top here n h hp hnd) ?_ hd
  intro n pre post h a b hab _ ih here
  have hk : childPair here a = childPair here b := by
    simp only [childPair, hab.name_eq, hab.hist_eq]
    rw [← hab.name_eq, ih]
  rw [findChildren_dir, findChildren_dir]
  simp only [List.map_append, List.map_cons, hk]

/-- loading the histories does not depend on the listing order: the same history, or the same error -/
theorem loadHistory_perm {a b : Node} (hab : Node.PermEq a b) (hd : a.NamesDistinct) :
    loadHistory a = loadHistory b := by
  rw [loadHistory, loadHistory, hab.hist_eq, findChildren_perm hab hd]

/-! ### 4. the commands -/

section commands
variable (env : Env) {a b : Node} (hab : Node.PermEq a b) (hd : a.NamesDistinct)
include hab hd

theorem judgeFile_perm :
    judgeFile env a = judgeFile env b := by
  funext rootHist hashing p
  unfold judgeFile
  rw [funext (fileContent_perm hab hd)]

theorem dhVisit_perm :
    dhVisit env a = dhVisit env b := by
  funext rootHist fmts o st v
  exact dhVisit_congr env rootHist fmts a b o st v fun _ _ _ => fileContent_perm hab hd _

theorem createVisit_perm :
    createVisit env a = createVisit env b := by
  funext rootHist fmts noDir st v
  exact createVisit_congr env rootHist fmts a b noDir st v fun _ _ _ => fileContent_perm hab hd _

theorem detectRenames_perm :
    detectRenames env a = detectRenames env b := by
  funext rootHist s newPaths notFound
  unfold detectRenames
  congr 1
  funext acc np
  rcases at?_perm_cases hab hd np with h | ⟨n, cs, cs', h, h1, h2, -⟩
  · rw [h]
  · rw [h1, h2]

/-- the look-up of a vanished nested history in `createFolder` (its anonymous `match` on `t.at? p`, as it stands in
the unfolded definition) gives the same answer on both trees -/
theorem missingHist_perm :
    (fun (ref : String) =>
          createFolder.match_1 (fun _ => Option RelPath) (a.at? (splitPath ref).dropLast.dropLast)
            (fun n => if n.hist.isSome then none else some (splitPath ref).dropLast.dropLast)
            (fun _ => some (splitPath ref).dropLast.dropLast)) =
    (fun (ref : String) =>
          createFolder.match_1 (fun _ => Option RelPath) (b.at? (splitPath ref).dropLast.dropLast)
            (fun n => if n.hist.isSome then none else some (splitPath ref).dropLast.dropLast)
            (fun _ => some (splitPath ref).dropLast.dropLast)) := by
  funext ref
  rcases at?_perm_cases hab hd (splitPath ref).dropLast.dropLast with h | ⟨n, cs, cs', h, h1, h2, -⟩
  · rw [h]
  · rw [h1, h2]; rfl

theorem filesBelow_perm (hit : RelPath → Bool) :
    filesBelow hit a = filesBelow hit b := by
  funext folder
  unfold filesBelow
  rcases at?_perm_cases hab hd folder with h | ⟨n, cs, cs', h, h1, h2, hp⟩
  · rw [h]
  · rw [h1, h2]
    simp only
    rw [traverse_perm_deep hit folder hp (Node.NamesDistinct.at? a folder _ hd h1)]

/-- the step of the fold that collects the targets of `createSingleFiles` (its anonymous `match` on `t.at? p`), in the
shape it has after `filesBelow_perm` was used: only the look-up still mentions `a` -/
theorem targets_perm (hit : RelPath → Bool) :
    (fun (acc : List RelPath) (p : RelPath) =>
      createSingleFiles.match_1 (fun _ => List RelPath) (a.at? p)
        (fun _ _ _ => List.foldl appendNew acc (filesBelow hit b p)) fun _ => appendNew acc p) =
    (fun (acc : List RelPath) (p : RelPath) =>
      createSingleFiles.match_1 (fun _ => List RelPath) (b.at? p)
        (fun _ _ _ => List.foldl appendNew acc (filesBelow hit b p)) fun _ => appendNew acc p) := by
  funext acc p
  rcases at?_perm_cases hab hd p with h | ⟨n, cs, cs', h, h1, h2, -⟩
  · rw [h]
  · rw [h1, h2]

/-- verify (`hashing = true`) / diff (`hashing = false`), against the history or against a packing list -/
theorem verifyOrDiff_listing_independent (o : VerifyOpts) (hashing : Bool) (pl : Option Generation) :
    verifyOrDiff env a o hashing pl = verifyOrDiff env b o hashing pl := by
  unfold verifyOrDiff
  simp only [loadHistory_perm hab hd, judgeFile_perm env hab hd, fun hit => visiblePaths_listing_independent hit hab hd]

theorem verify_listing_independent (o : VerifyOpts) : verify env a o = verify env b o :=
  verifyOrDiff_listing_independent env hab hd o true none

theorem diff_listing_independent (o : VerifyOpts) : diff env a o = diff env b o :=
  verifyOrDiff_listing_independent env hab hd _ false none

theorem verifyDh_listing_independent (o : DhOpts) : verifyDh env a o = verifyDh env b o := by
  unfold verifyDh
  simp only [loadHistory_perm hab hd, dhVisit_perm env hab hd, traverse_perm_deep _ _ hab hd]

theorem createFolder_listing_independent (o : CreateOpts) : createFolder env a o = createFolder env b o := by
  unfold createFolder
  simp only [loadHistory_perm hab hd, createVisit_perm env hab hd, traverse_perm_deep _ _ hab hd,
    detectRenames_perm env hab hd, missingHist_perm hab hd]

theorem createSingleFiles_listing_independent (o : CreateOpts) :
    createSingleFiles env a o = createSingleFiles env b o := by
  unfold createSingleFiles
  simp only [loadHistory_perm hab hd, funext (fileContent_perm hab hd), filesBelow_perm hab hd, targets_perm hab hd]

/-- `create` in every mode (folder, -sf, -n, -dr, -i): exit, report and the written generations are equal -/
theorem create_listing_independent (o : CreateOpts) : create env a o = create env b o := by
  unfold create
  rw [createFolder_listing_independent env hab hd o, createSingleFiles_listing_independent env hab hd o]

theorem create_written_listing_independent (o : CreateOpts) :
    (create env a o).written = (create env b o).written := by
  rw [create_listing_independent env hab hd o]

theorem flatten_listing_independent (ic ifl : List String) : flatten env a ic ifl = flatten env b ic ifl := by
  unfold flatten
  rw [loadHistory_perm hab hd]

omit env in
theorem info_listing_independent : info a = info b := by
  unfold info
  rw [loadHistory_perm hab hd]

end commands

/-! ### 5. the children a visit lists are sorted by name -/

/-- every visit lists the visible children of one directory listing `cs` of the tree, in the order of `visKids`; in a
tree with distinct sibling names the names in `cs` are distinct -/
theorem visit_children (hit : RelPath → Bool) (t : Node) : ∀ (here : RelPath) (v : Visit), v ∈ traverse hit here t →
    ∃ here' cs, v.children = (visKids hit here' cs).map (fun k => (k.name, k.isDir)) ∧
      (t.NamesDistinct → (cs.map Node.name).Nodup) := by
  induction t using Node.induct with
  | file n c => intro here v hv; simp [traverse] at hv
  | dir n cs h ih =>
    intro here v hv
    rw [traverse_dir, List.mem_append, List.mem_flatMap] at hv
    rcases hv with ⟨k, hk, hv⟩ | hv
    · obtain ⟨c, hc, -, rfl⟩ := (mem_visKids _ _ _ _).1 hk
      obtain ⟨here', cs', h1, h2⟩ := ih c hc _ v hv
      exact ⟨here', cs', h1, fun hd => h2 (((Node.namesDistinct_dir ..).1 hd).2 c hc)⟩
    · rw [List.mem_singleton.1 hv]
      exact ⟨here, cs, rfl, fun hd => ((Node.namesDistinct_dir ..).1 hd).1⟩

theorem sorted_listing (hit : RelPath → Bool) (t : Node) : ∀ (here : RelPath) (v : Visit),
    v ∈ traverse hit here t → v.children.Pairwise (fun x y => strLe x.1 y.1 = true) := by
  intro here v hv
  obtain ⟨here', cs, h, -⟩ := visit_children hit t here v hv
  rw [h, List.pairwise_map]
  exact (isort_key_sorted Kid.name _).filter _

/-- the same in terms of `≤` on strings (lexicographic by code point) -/
theorem sorted_listing_le (hit : RelPath → Bool) (t : Node) (here : RelPath) (v : Visit)
    (hv : v ∈ traverse hit here t) : (v.children.map (·.1)).Pairwise (· ≤ ·) := by
  have := sorted_listing hit t here v hv
  rw [List.pairwise_map]
  simpa [strLe] using this

/-- with distinct sibling names the listed names strictly increase: the order of a listing is determined by its set
of names -/
theorem sorted_listing_strict (hit : RelPath → Bool) (t : Node) : ∀ (here : RelPath) (v : Visit),
    t.NamesDistinct → v ∈ traverse hit here t → (v.children.map (·.1)).Pairwise (· < ·) := by
  intro here v hd hv
  obtain ⟨here', cs, h, hnd⟩ := visit_children hit t here v hv
  have h1 := sorted_listing hit t here v hv
  rw [h, List.pairwise_map] at h1
  rw [h, List.map_map, List.pairwise_map]
  refine (h1.and (visKids_names_pairwise hit here' cs (hnd hd))).imp ?_
  rintro x y ⟨hle, hne⟩
  exact Std.lt_of_le_of_ne (by simpa [strLe] using hle) hne

/-! ### non-vacuity -/

/-- a concrete environment (the hash of a file is a fixed string, nothing is ignored) -/
def exEnv : Env := { H := fun _ _ => "00", D := fun _ _ => none, hit := fun _ _ => false, rootName := "root" }

/-! a tree with a root history and a nested history, in two listing orders (at the top and inside `sub`) -/

def exGen : Generation :=
  { fileName := "0001_root_2020-01-01_000000Z.mhl",
    records := [{ path := "b.txt", entries := [{ fmt := "md5", digest := "00", action := "original" }] }] }
def exStore : HistStore := { gens := [exGen], chain := [⟨1, exGen.fileName⟩] }
def exSub₁ : Node := .dir "sub" [.file "x" [1], .file "y" [2]] (some {})
def exSub₂ : Node := .dir "sub" [.file "y" [2], .file "x" [1]] (some {})
def exA : Node := .dir "root" [.file "b.txt" [3], exSub₁, .file "a.txt" [4]] (some exStore)
def exB : Node := .dir "root" [exSub₂, .file "a.txt" [4], .file "b.txt" [3]] (some exStore)

theorem exA_permEq_exB : Node.PermEq exA exB := by
  refine .trans (.congr "root" [.file "b.txt" [3]] [.file "a.txt" [4]] (some exStore)
    (.perm "sub" (some {}) (List.Perm.swap _ _ _) : Node.PermEq exSub₁ exSub₂)) ?_
  refine .perm "root" (some exStore) ?_
  show [Node.file "b.txt" [3], exSub₂, .file "a.txt" [4]].Perm [exSub₂, .file "a.txt" [4], .file "b.txt" [3]]
  exact List.perm_append_comm (l₁ := [_]) (l₂ := [_, _])

theorem exA_namesDistinct : exA.NamesDistinct := by
  simp [exA, exSub₁, Node.NamesDistinct, Node.NamesDistinctKids, Node.name]

example : verify exEnv exA {} = verify exEnv exB {} :=
  verify_listing_independent exEnv exA_permEq_exB exA_namesDistinct {}

example : create exEnv exA {} = create exEnv exB {} :=
  create_listing_independent exEnv exA_permEq_exB exA_namesDistinct {}

/-- and the result is not trivial: verify reports the new file `a.txt` and the files of `sub` on both listings -/
example : (verify exEnv exA {}).report.new = ["sub/x", "sub/y", "a.txt"] ∧
    (verify exEnv exB {}).report.new = ["sub/x", "sub/y", "a.txt"] := by decide +kernel

example : (traverse (fun _ => false) [] exA).map (·.children) =
    [[("x", false), ("y", false)], [("a.txt", false), ("b.txt", false), ("sub", true)]] := by decide +kernel

/-! two differently damaged sibling histories, listed in two orders: the same error (that of the history whose name
comes first) is reported for both listings -/

/-- a nested history without chain file -/
def badA : Node := .dir "A" [] (some { chainPresent := false })
/-- a nested history whose only manifest was modified -/
def badB : Node :=
  .dir "B" [] (some { gens := [{ fileName := "0001_B_x.mhl", state := .modified }], chain := [⟨1, "0001_B_x.mhl"⟩] })
def twoFaults₁ : Node := .dir "root" [badA, badB] none
def twoFaults₂ : Node := .dir "root" [badB, badA] none

def errOf {α : Type} : Except Err α → Option Err
  | .error e => some e
  | .ok _ => none

theorem twoFaults_permEq : Node.PermEq twoFaults₁ twoFaults₂ := .perm "root" none (List.Perm.swap _ _ _)

theorem twoFaults_namesDistinct : twoFaults₁.NamesDistinct := by
  simp [twoFaults₁, badA, badB, Node.NamesDistinct, Node.NamesDistinctKids, Node.name]

example : loadHistory twoFaults₁ = loadHistory twoFaults₂ :=
  loadHistory_perm twoFaults_permEq twoFaults_namesDistinct

example : errOf (loadHistory twoFaults₁) = some errNoChain ∧ errOf (loadHistory twoFaults₂) = some errNoChain := by
  decide +kernel

example : verify exEnv twoFaults₁ {} = verify exEnv twoFaults₂ {} :=
  verify_listing_independent exEnv twoFaults_permEq twoFaults_namesDistinct {}

example : (verify exEnv twoFaults₁ {}).exitCode = 32 ∧ (verify exEnv twoFaults₂ {}).exitCode = 32 := by decide +kernel

/-- the faults are really different: alone, `badB` gives another error -/
example : errOf (loadHistory (.dir "root" [badB] none)) = some errModified := by decide +kernel

end MhlProps.C13
