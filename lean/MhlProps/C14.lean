/-
C14 — Commands touch nothing beyond what they document (model level).

In the model the only way a command changes the disk is through the generations it returns in `Outcome.written`
(`applyWritten` puts each `w` into the `ascmhl` folder at `w.histRoot`; MhlProps/C06.lean shows that nothing else in
the tree changes).  So: the read-only commands return no generation on any path through them; `create` only
returns generations for histories in scope (the root history and its transitive children), and none when it is
refused; `flatten` returns one generation that is not placed in the tree at all.

`info` and `infoSingleFile` do not even return an `Outcome`: their type is `Except Err (List …)`, a list of lines
or an error, so there is nothing they could write (remark, nothing to prove; see `info_type`).
-/
import MhlProps.Proofs.NestedLemmas
import MhlProps.Proofs.SeqLemmas
import MhlProps.Proofs.VerifyLemmas

namespace MhlProps.C14
open MhlModel

/-- verify / diff, against the history or against a packing list, on every exit path -/
theorem verifyOrDiff_writes_nothing (env : Env) (t : Node) (o : VerifyOpts) (hashing : Bool)
    (packingList : Option Generation) : (verifyOrDiff env t o hashing packingList).written = [] := by
  unfold verifyOrDiff
  dsimp only
  split
  · rfl
  · split <;> rfl

theorem verify_writes_nothing (env : Env) (t : Node) (o : VerifyOpts) : (verify env t o).written = [] :=
  verifyOrDiff_writes_nothing env t o true none

theorem diff_writes_nothing (env : Env) (t : Node) (o : VerifyOpts) : (diff env t o).written = [] :=
  verifyOrDiff_writes_nothing env t _ false none

theorem verifyDh_writes_nothing (env : Env) (t : Node) (o : DhOpts) : (verifyDh env t o).written = [] := by
  unfold verifyDh
  split <;> rfl

/-- `info` / `info -sf` return lines or an error, no `Outcome` and hence no generation -/
theorem info_type : (∃ f : Node → Except Err (List (RelPath × Nat)), f = info) ∧
    (∃ f : Node → RelPath → Except Err (List (Nat × String × String × String)), f = infoSingleFile) :=
  ⟨⟨_, rfl⟩, ⟨_, rfl⟩⟩

/-- a create whose commit is refused (validation of a new list fails) writes nothing either: `commit` is all or
nothing -/
theorem create_commit_all_or_nothing (env : Env) (t : Node) (o : CreateOpts) (rootHist : Hist)
    (hl : loadHistory t = .ok rootHist) (w : Written) (hw : w ∈ (create env t o).written) :
    ∃ session, commit rootHist session env.rootName env.stamp "in-place" = .ok (create env t o).written := by
  rcases create_written_cases env t o rootHist hl with h | ⟨s, -, h⟩
  · rw [h] at hw; cases hw
  · exact ⟨s, h⟩

/-- every generation create writes goes to a history in scope: the root history or one of its transitive children
(`walkPost rootHist` lists exactly these) -/
theorem create_written_roots (env : Env) (t : Node) (o : CreateOpts) (rootHist : Hist)
    (hl : loadHistory t = .ok rootHist) :
    ∀ w ∈ (create env t o).written, ∃ h ∈ walkPost rootHist, w.histRoot = h.root := by
  intro w hw
  obtain ⟨s, hs⟩ := create_commit_all_or_nothing env t o rootHist hl w hw
  obtain ⟨h, hh, hr, -⟩ := commit_records hs hw
  exact ⟨h, hh, hr⟩

/-- a refused create (the history does not load: chain missing, manifest altered or missing) writes nothing and ends
with that error -/
theorem create_refused_writes_nothing (env : Env) (t : Node) (o : CreateOpts) (e : Err)
    (hl : loadHistory t = .error e) :
    create env t o = { err := some e } ∧ (create env t o).written = [] := by
  have h := create_load_error env t o e hl
  exact ⟨h, by rw [h]⟩

/-- flatten returns at most one generation; it has history root `[]`, number 1 and process "flatten" — the driver
places it below the destination folder, never in the tree (it is not passed to `applyWritten`) -/
theorem flatten_written_outside (env : Env) (t : Node) (ignoreCli ignoreFile : List String) :
    (flatten env t ignoreCli ignoreFile).written.length ≤ 1 ∧
    ∀ w ∈ (flatten env t ignoreCli ignoreFile).written,
      w.histRoot = [] ∧ w.number = 1 ∧ w.gen.process = "flatten" ∧ w.gen.rootHash = none ∧ w.gen.refs = [] := by
  unfold flatten
  split
  · exact ⟨by simp, fun w hw => by cases hw⟩
  · split
    · exact ⟨by simp, fun w hw => by cases hw⟩
    · dsimp only
      split
      · exact ⟨by simp, fun w hw => by cases hw⟩
      · refine ⟨by simp, fun w hw => ?_⟩
        simp only [List.mem_singleton] at hw
        subst hw
        exact ⟨rfl, rfl, rfl, rfl, rfl⟩

theorem flatten_refused_writes_nothing (env : Env) (t : Node) (ic ifl : List String) (e : Err)
    (hl : loadHistory t = .error e) : flatten env t ic ifl = { err := some e } :=
  flatten_load_error env t ic ifl e hl

def exH : HashFn := fun f c => f ++ ":" ++ toString c.length
def exEnv : Env := { H := exH, D := fun _ _ => some [], hit := fun _ _ => false, rootName := "root" }

/-- a tree with a root history (no generation yet) and a nested history in `sub` -/
def exTree : Node :=
  .dir "root" [.file "a" [1], .dir "sub" [.file "b" [2, 3]] (some {})] (some {})

def exHist : Hist := .mk [] [] [] true [.mk ["sub"] [] [] true []]

theorem ex_load : loadHistory exTree = .ok exHist := by rfl

/-- create on it writes two generations, the nested one first, both for histories in scope -/
example : ((create exEnv exTree {}).written.map fun w => (w.histRoot, w.number)) = [(["sub"], 1), ([], 1)] ∧
    (walkPost exHist).map (·.root) = [["sub"], []] := by decide +kernel

/-- a tree whose chain file is gone: create is refused with 32 and writes nothing -/
def exBroken : Node := .dir "root" [.file "a" [1]] (some { chainPresent := false })

theorem exBroken_refused : loadHistory exBroken = .error errNoChain := by rfl

example : loadHistory exBroken = .error errNoChain := exBroken_refused

example : create exEnv exBroken {} = { err := some errNoChain } :=
  (create_refused_writes_nothing exEnv exBroken {} errNoChain exBroken_refused).1

def exGen : Generation :=
  { fileName := "0001_root_2020-01-01_000000Z.mhl",
    records := [{ path := "a", entries := [{ fmt := "md5", digest := "md5:1", action := "original" }] }] }

def exSealed : Node := .dir "root" [.file "a" [1]] (some { gens := [exGen], chain := [⟨1, exGen.fileName⟩] })

/-- flatten of a one-generation history returns one packing list -/
example : ((flatten exEnv exSealed [] []).written.map fun w => (w.histRoot, w.number, w.gen.process)) =
    [([], 1, "flatten")] := by decide +kernel

end MhlProps.C14
