/-
C06seq — C06 (and the monotone part of C12) as an INVARIANT BY INDUCTION over arbitrary sequences of operations.

  Whatever sequence of media edits and `create` runs (any options; folder mode, `-sf`, `-n`, `-dr`, `-i`; whether a
  run ends normally or with an error) is applied to a folder, its history only ever grows at the end: generations
  are numbered 1..n without gaps, every earlier generation and chain entry is unchanged, and each generation's
  ignore list extends the previous one's.

Setting: ONE history, at the root (`noNested t`: no `ascmhl` folder anywhere below the root), the root is a folder,
`env.rootName` and every step's stamp free of '\n' (else the manifest name does not parse, C06).  The digest
function, the decoder and the matcher of `env` are arbitrary.

A step is a media edit (`MediaEdit`: the root's `ascmhl` folder untouched, none created below) followed by a `create`
whose manifests are written back (`stepTree`, `run`).  `GoodHist t n gs`: the folder is in order, it loads as
generations 1..n = `gs` with their chain; `StoreExact`: the `ascmhl` folder holds exactly those; `RunInv`: what holds
at every point of a run.  One step keeps it (`step_inv`), `run_runInv` is the induction, with the generations written
in closed form (`runGens`); `run_invariant`, `run_append_only`, `run_numbers_contiguous`, `run_ignore_monotone` and
`run_interrupted_absent` are read off it.  All hold for folder mode and `-sf` alike.  The prefix clause of
`step_appends` needs duplicate-free recorded pattern lists (`step_prefix_needs_nodup`); in a run from a folder
without history they always are.
Non-vacuity: `exSteps` (create; alter a file + create with other formats and `-i`, ending with exit code 11;
create -n; add a file + create -sf), evaluated by `decide +kernel`; `exSteps5` adds a step that writes nothing.
-/
import MhlProps.Proofs.SeqLemmas

namespace MhlProps.C06seq
open MhlModel

/-- an edit of the media: it leaves the root's `ascmhl` folder alone, keeps the root a folder and puts no `ascmhl`
folder anywhere below the root -/
structure MediaEdit (edit : Node → Node) : Prop where
  hist_eq : ∀ t, t.isDir = true → (edit t).hist = t.hist
  isDir : ∀ t, t.isDir = true → (edit t).isDir = true
  noNested : ∀ t, t.isDir = true → noNested t = true → noNested (edit t) = true

/-- one step of a run: an edit of the media followed by a `create` with some options at some time -/
structure Step where
  edit : Node → Node
  opts : CreateOpts
  stamp : String

structure Step.Ok (st : Step) : Prop where
  edit : MediaEdit st.edit
  stamp : '\n' ∉ st.stamp.toList

/-- `create` at time `stamp`, its manifests written back into the tree.  A run that ends with an error still leaves
whatever it wrote (`written` is `[]` exactly when nothing was committed). -/
def createStep (env : Env) (stamp : String) (o : CreateOpts) (t : Node) : Node :=
  applyWritten t (create { env with stamp := stamp } t o).written

def stepTree (env : Env) (t : Node) (st : Step) : Node := createStep env st.stamp st.opts (st.edit t)

def run (env : Env) (t : Node) (steps : List Step) : Node := steps.foldl (stepTree env) t

/-- the history of `t` loads, as generations 1..n = `gs` (the stored `Generation` values, in order), the chain has
exactly one entry per generation with its number and file name, and every manifest in the root's `ascmhl` folder
is present and unaltered.  `n = 0`: no generation (e.g. no `ascmhl` folder at all). -/
def GoodHist (t : Node) (n : Nat) (gs : List Generation) : Prop :=
  ∃ h, loadHistory t = .ok h ∧
    h.gens.map (·.number) = List.range' 1 n ∧
    h.gens.map (·.gen) = gs ∧
    h.chain = h.gens.map chainEntryOf ∧
    ∀ s, t.hist = some s → ∀ g ∈ s.gens, g.state = .ok

/-- the generations / chain entries a tree loads with ([] if it does not load) -/
def gensOf (t : Node) : List Generation :=
  match loadHistory t with
  | .ok h => h.gens.map (·.gen)
  | .error _ => []

def chainOf (t : Node) : List ChainEntry :=
  match loadHistory t with
  | .ok h => h.chain
  | .error _ => []

/-- every pattern list is duplicate-free (true of every list the tool writes) -/
def NodupIgnores (gs : List Generation) : Prop := ∀ g ∈ gs, g.ignore.Nodup

def IgnoreMonotone (gs : List Generation) : Prop :=
  ∀ i (h : i + 1 < gs.length), gs[i].ignore <+: gs[i + 1].ignore

/-! ### `GoodHist` on a flat tree is a statement about the root's `ascmhl` folder -/

theorem goodHist_iff_store (t : Node) (hn : noNested t = true) (n : Nat) (gs : List Generation) :
    GoodHist t n gs ↔ GoodStore t.hist n gs := by
  unfold GoodHist GoodStore
  rw [loadHistory_of_noNested t hn, buildHist_flat]
  constructor
  · rintro ⟨h, hl, h1, h2, h3, h4⟩
    cases hc : checkStore t.hist with
    | error e => rw [hc] at hl; cases hl
    | ok u =>
      rw [hc] at hl
      cases hl
      exact ⟨rfl, h1, h2, h3, h4⟩
  · rintro ⟨hc, h1, h2, h3, h4⟩
    rw [hc]
    exact ⟨_, rfl, h1, h2, h3, h4⟩

/-- the loaded generations of a folder in order: the stored ones numbered from `k` -/
def numbered (k : Nat) : List Generation → List LGen
  | [] => []
  | g :: gs => ⟨k, g⟩ :: numbered (k + 1) gs

theorem numbered_append (k : Nat) (a b : List Generation) :
    numbered k (a ++ b) = numbered k a ++ numbered (k + a.length) b := by
  induction a generalizing k with
  | nil => rfl
  | cons x xs ih =>
    simp only [List.cons_append, numbered, ih, List.length_cons]
    rw [show k + 1 + xs.length = k + (xs.length + 1) by omega]

theorem eq_numbered (l : List LGen) (k n : Nat) (h : l.map (·.number) = List.range' k n) :
    l = numbered k (l.map (·.gen)) := by
  induction l generalizing k n with
  | nil => rfl
  | cons x xs ih =>
    cases n with
    | zero => simp at h
    | succ m =>
      rw [List.range'_succ] at h
      simp only [List.map_cons, List.cons.injEq] at h
      rw [List.map_cons, numbered, ← ih (k + 1) m h.2, ← h.1]

/-- what a folder in order loads as: the generations `gs` numbered 1, 2, … and the chain that belongs to them -/
theorem GoodHist.loaded {t : Node} {n : Nat} {gs : List Generation} (hg : GoodHist t n gs) :
    ∃ h, loadHistory t = .ok h ∧ h.gens = numbered 1 gs ∧ h.chain = chainFrom 1 gs ∧ gs.length = n := by
  obtain ⟨h, hl, h1, h2, h3, -⟩ := hg
  refine ⟨h, hl, h2 ▸ eq_numbered _ 1 n h1, by rw [h3, map_chainEntryOf _ 1 n h1, h2], ?_⟩
  rw [← h2, List.length_map, ← List.length_map (f := (·.number)), h1, List.length_range']

theorem GoodHist.gens_eq {t : Node} {n : Nat} {gs : List Generation} (hg : GoodHist t n gs) {h : Hist}
    (hl : loadHistory t = .ok h) : h.gens = numbered 1 gs ∧ gs.length = n := by
  obtain ⟨h', hl', hgens, -, hlen⟩ := hg.loaded
  obtain rfl : h' = h := by rw [hl] at hl'; cases hl'; rfl
  exact ⟨hgens, hlen⟩

theorem GoodHist.gens_nil_iff {t : Node} {n : Nat} {gs : List Generation} (hg : GoodHist t n gs) {h : Hist}
    (hl : loadHistory t = .ok h) : h.gens = [] ↔ n = 0 := by
  obtain ⟨a, rfl⟩ := hg.gens_eq hl
  rw [a]
  cases gs <;> simp [numbered]

theorem goodHist_load (t : Node) (n : Nat) (gs : List Generation) (h : GoodHist t n gs) :
    gensOf t = gs ∧ gs.length = n := by
  obtain ⟨-, -, -, -, hlen⟩ := h.loaded
  obtain ⟨hh, hl, -, h2, -⟩ := h
  exact ⟨by unfold gensOf; rw [hl]; exact h2, hlen⟩

theorem goodHist_chain (t : Node) (n : Nat) (gs : List Generation) (h : GoodHist t n gs) :
    chainOf t = chainFrom 1 gs := by
  obtain ⟨hh, hl, -, hc, -⟩ := h.loaded
  unfold chainOf
  rw [hl]
  exact hc

theorem goodHist_fresh (t : Node) (hn : noNested t = true) (hh : t.hist = none) : GoodHist t 0 [] := by
  rw [goodHist_iff_store t hn, hh]
  exact ⟨rfl, rfl, rfl, rfl, fun s hs => by cases hs⟩

/-- in a folder in order every manifest is numbered by its own file name, so the names are pairwise different -/
theorem goodHist_names (t : Node) (n : Nat) (gs : List Generation) (hg : GoodHist t n gs) :
    (gs.map (·.fileName)).Nodup := by
  obtain ⟨h, hl, h1, h2, -, -⟩ := hg
  have hparse : ∀ g ∈ h.gens, parseGenName g.gen.fileName = some g.number := by
    rw [loaded_gens_eq t h hl]; exact storeGens_parse _
  subst h2
  have hnd : (h.gens.map (·.number)).Nodup := by rw [h1]; exact List.nodup_range'
  have heq : h.gens.map (·.number)
      = ((h.gens.map (·.gen)).map (·.fileName)).map (fun s => (parseGenName s).getD 0) := by
    rw [List.map_map, List.map_map]
    apply List.map_congr_left
    intro g hg
    simp [hparse g hg]
  rw [heq] at hnd
  exact List.Nodup.of_map _ hnd

theorem goodHist_fresh_name (t : Node) (n : Nat) (gs : List Generation) (g : Generation)
    (hg : GoodHist t n (gs ++ [g])) : g.fileName ∉ gs.map (·.fileName) := by
  intro hmem
  have hnames := goodHist_names t n (gs ++ [g]) hg
  rw [List.map_append, List.nodup_append] at hnames
  exact hnames.2.2 _ hmem g.fileName (by simp) rfl

/-! ### the pattern list of the generation a `create` writes -/

/-- the pattern list of the generation a `create` with options `o` writes on top of the generations `gs`: the
run's list (latest recorded list, or the defaults, plus `-i` patterns, plus the lines of the pattern file) laid
over the latest recorded list once more (`write_new_generation`) -/
def newIgnore (gs : List Generation) (o : CreateOpts) : List String :=
  setPatterns (gs.getLast?.map (·.ignore)) (setPatterns (gs.getLast?.map (·.ignore)) o.ignoreCli o.ignoreFile) []

/-- laying the run's list over the recorded one once more adds nothing -/
theorem newIgnore_eq (gs : List Generation) (o : CreateOpts) :
    newIgnore gs o = setPatterns (gs.getLast?.map (·.ignore)) o.ignoreCli o.ignoreFile :=
  setPatterns_own _ _ _

theorem newIgnore_contains_options (gs : List Generation) (o : CreateOpts) :
    ∀ p, p ∈ o.ignoreCli ∨ p ∈ o.ignoreFile → p ∈ newIgnore gs o := by
  intro p hp
  rw [newIgnore_eq]
  exact hp.elim ((C12.setPatterns_contains_new _ _ _).1 p) ((C12.setPatterns_contains_new _ _ _).2 p)

theorem newIgnore_nodup (gs : List Generation) (o : CreateOpts) : (newIgnore gs o).Nodup :=
  C12.setPatterns_nodup _ _ _

/-- the list a new generation carries extends the latest recorded one, provided that one is duplicate-free (which
every list written by the tool is) -/
theorem newIgnore_extends_last (gs : List Generation) (o : CreateOpts) (hnd : (lastIgnore gs).Nodup) :
    lastIgnore gs <+: newIgnore gs o :=
  recorded_prefix_setPatterns _ _ [] hnd

/-- no recorded pattern is ever lost, duplicates or not -/
theorem newIgnore_contains_last (gs : List Generation) (o : CreateOpts) :
    ∀ p ∈ lastIgnore gs, p ∈ newIgnore gs o :=
  fun _ hp => mem_setPatterns_of_recorded _ _ [] hp

/-! ### bookkeeping of the pattern lists -/

theorem lastIgnore_append (gs : List Generation) (g : Generation) : lastIgnore (gs ++ [g]) = g.ignore := by
  simp [lastIgnore]

theorem lastIgnore_nodup (gs : List Generation) (h : NodupIgnores gs) : (lastIgnore gs).Nodup := by
  unfold lastIgnore
  cases hl : gs.getLast? with
  | none => simp
  | some g => exact h g (List.mem_of_getLast? hl)

theorem nodupIgnores_append (gs : List Generation) (g : Generation) (h : NodupIgnores gs) (hg : g.ignore.Nodup) :
    NodupIgnores (gs ++ [g]) := by
  intro x hx
  rcases List.mem_append.1 hx with hx | hx
  · exact h x hx
  · simp only [List.mem_singleton] at hx; subst hx; exact hg

theorem ignoreMonotone_append (gs : List Generation) (g : Generation) (h : IgnoreMonotone gs)
    (hg : lastIgnore gs <+: g.ignore) : IgnoreMonotone (gs ++ [g]) := by
  intro i hi
  simp only [List.length_append, List.length_singleton] at hi
  by_cases hlt : i + 1 < gs.length
  · rw [List.getElem_append_left (by omega), List.getElem_append_left hlt]
    exact h i hlt
  · have hi1 : i + 1 = gs.length := by omega
    rw [List.getElem_append_left (by omega), List.getElem_append_right (by omega)]
    simp only [hi1, Nat.sub_self, List.getElem_cons_zero]
    have : lastIgnore gs = gs[i].ignore := by
      unfold lastIgnore
      rw [List.getLast?_eq_getElem?]
      have : gs.length - 1 = i := by omega
      rw [this, List.getElem?_eq_getElem (by omega)]
      rfl
    rw [← this]; exact hg


/-! ### one step appends -/

theorem mediaEdit_good (edit : Node → Node) (he : MediaEdit edit) (t : Node) (hdir : t.isDir = true)
    (hn : noNested t = true) (n : Nat) (gs : List Generation) (hg : GoodHist t n gs) :
    GoodHist (edit t) n gs := by
  rw [goodHist_iff_store _ (he.noNested t hdir hn), he.hist_eq t hdir]
  exact (goodHist_iff_store t hn n gs).1 hg

/-- One step on a folder in order, with everything `step_appends` says except its prefix clause: what is written, under
which name and with which pattern list (`newIgnore gs opts`), and the `ascmhl` folder afterwards.  The prefix clause
stands apart because under the hypotheses `GoodHist t n gs` and `MediaEdit edit` alone it is false of the model:
`lastIgnore gs <+: g.ignore` needs the previous generation's pattern list to be duplicate-free, because `basePatterns` re-reads the recorded list through `appendPatterns []`, which drops
repeated lines (`["a","a"]` is recorded, `["a", …]` is written next).  `step_prefix_needs_nodup` below is the
concrete witness.  A list with duplicates can only come from a hand-made manifest: every list the tool writes is
duplicate-free (`C12.setPatterns_nodup`), so the hypothesis is an invariant of every run (`run_invariant`). -/
theorem step_appends_partial (env : Env) (hrn : '\n' ∉ env.rootName.toList) (t : Node) (hdir : t.isDir = true)
    (hn : noNested t = true) (n : Nat) (gs : List Generation) (hg : GoodHist t n gs) (st : Step) (hst : st.Ok) :
    (stepTree env t st).isDir = true ∧ noNested (stepTree env t st) = true ∧
    (((create { env with stamp := st.stamp } (st.edit t) st.opts).written = [] ∧
        stepTree env t st = st.edit t ∧ GoodHist (stepTree env t st) n gs) ∨
      ∃ w, (create { env with stamp := st.stamp } (st.edit t) st.opts).written = [w] ∧ w.number = n + 1 ∧
        w.gen.fileName = genFileName (n + 1) env.rootName st.stamp ∧ w.gen.ignore = newIgnore gs st.opts ∧
        (stepTree env t st).hist = some ((t.hist.getD {}).add w) ∧
        GoodHist (stepTree env t st) (n + 1) (gs ++ [w.gen])) := by
  -- the media edit keeps the folder in order and its `ascmhl` folder; the rest is about the `create` on the edited tree
  have hdir' := hst.edit.isDir t hdir
  have hn' := hst.edit.noNested t hdir hn
  have hg' := mediaEdit_good st.edit hst.edit t hdir hn n gs hg
  rw [← hst.edit.hist_eq t hdir]
  unfold stepTree createStep
  generalize st.edit t = t' at hdir' hn' hg' ⊢
  have hgs := (goodHist_iff_store t' hn' n gs).1 hg'
  have hl : loadHistory t' = .ok (buildHist [] t'.hist []) := by
    rw [loadHistory_of_noNested t' hn', hgs.1]; rfl
  -- what was written is what a commit of the flat history returned: nothing, or generation `n + 1`
  obtain h0 | ⟨w, hw, hroot, hnum, hname, hign, hgood⟩ :
      (create { env with stamp := st.stamp } t' st.opts).written = [] ∨
        ∃ w, (create { env with stamp := st.stamp } t' st.opts).written = [w] ∧ w.histRoot = [] ∧ w.number = n + 1 ∧
          w.gen.fileName = genFileName (n + 1) env.rootName st.stamp ∧ w.gen.ignore = newIgnore gs st.opts ∧
          GoodStore (some ((t'.hist.getD {}).add w)) (n + 1) (gs ++ [w.gen]) := by
    rcases create_written_cases { env with stamp := st.stamp } t' st.opts _ hl with h0 | ⟨s, hpats, hcm⟩
    · exact Or.inl h0
    · refine (commit_goodStore t'.hist n gs hgs s env.rootName st.stamp hrn hst.stamp _ hcm).imp_right ?_
      rintro ⟨w, hw, hroot, hnum, hname, hign, hgood⟩
      refine ⟨w, hw, hroot, hnum, hname, ?_, hgood⟩
      rw [hign, hpats, buildHist_flat]
      simp only [Hist.gens]
      rw [latestIgnore_map, hgs.2.2.1]; rfl
  · rw [h0]
    exact ⟨hdir', hn', Or.inl ⟨rfl, rfl, hg'⟩⟩
  · rw [hw]
    cases t' with
    | file nm c => cases hdir'
    | dir nm cs hs =>
      rw [applyWritten_root nm cs hs w hroot]
      exact ⟨rfl, hn', Or.inr ⟨w, rfl, hnum, hname, hign, rfl, (goodHist_iff_store _ (by exact hn') _ _).2 hgood⟩⟩

/-- If the folder is in order with generations `gs` (and, the invariant
the prefix clause needs, duplicate-free pattern lists), then after a media edit and a `create` (any options, folder
mode or `-sf`, whether or not it ends with an error) either nothing was written and the folder is in order with
the same `gs`, or exactly one generation `g` was written and the folder is in order with `gs ++ [g]`, where
`g.ignore` has the latest recorded pattern list as a prefix and `g` is named `genFileName (n+1) rootName stamp`. -/
theorem step_appends (env : Env) (hrn : '\n' ∉ env.rootName.toList) (t : Node) (hdir : t.isDir = true)
    (hn : noNested t = true) (n : Nat) (gs : List Generation) (hg : GoodHist t n gs) (hnd : NodupIgnores gs)
    (st : Step) (hst : st.Ok) :
    ((create { env with stamp := st.stamp } (st.edit t) st.opts).written = [] ∧
        GoodHist (stepTree env t st) n gs) ∨
      ∃ w, (create { env with stamp := st.stamp } (st.edit t) st.opts).written = [w] ∧
        GoodHist (stepTree env t st) (n + 1) (gs ++ [w.gen]) ∧ NodupIgnores (gs ++ [w.gen]) ∧
        lastIgnore gs <+: w.gen.ignore ∧ w.gen.ignore = newIgnore gs st.opts ∧
        w.gen.fileName = genFileName (n + 1) env.rootName st.stamp := by
  obtain ⟨-, -, h⟩ := step_appends_partial env hrn t hdir hn n gs hg st hst
  rcases h with ⟨h0, -, hg'⟩ | ⟨w, hw, -, hname, hign, -, hg'⟩
  · exact Or.inl ⟨h0, hg'⟩
  · exact Or.inr ⟨w, hw, hg', nodupIgnores_append gs _ hnd (hign ▸ newIgnore_nodup gs _),
      hign ▸ newIgnore_extends_last gs _ (lastIgnore_nodup gs hnd), hign, hname⟩

/-! ### what holds at every point of a run, and one step keeps it -/

/-- the root's `ascmhl` folder holds exactly the generations `gs` and their chain, nothing else (no folder at all
when there is no generation) -/
def StoreExact (t : Node) (gs : List Generation) : Prop :=
  (t.hist = none ∧ gs = []) ∨ t.hist = some { gens := gs, chain := chainFrom 1 gs, chainPresent := true }

/-- everything that holds of a folder at every point of a run -/
structure RunInv (t : Node) (n : Nat) (gs : List Generation) : Prop where
  isDir : t.isDir = true
  flat : noNested t = true
  good : GoodHist t n gs
  nodup : NodupIgnores gs
  mono : IgnoreMonotone gs
  exact : StoreExact t gs

theorem runInv_fresh (t : Node) (hdir : t.isDir = true) (hn : noNested t = true) (hh : t.hist = none) :
    RunInv t 0 [] :=
  ⟨hdir, hn, goodHist_fresh t hn hh, (fun g hg => by cases hg), (fun i hi => by simp at hi), Or.inl ⟨hh, rfl⟩⟩

theorem storeExact_add (hs : Option HistStore) (gs : List Generation) (w : Written)
    (hex : (hs = none ∧ gs = []) ∨ hs = some { gens := gs, chain := chainFrom 1 gs, chainPresent := true })
    (hnum : w.number = gs.length + 1) (hfresh : w.gen.fileName ∉ gs.map (·.fileName)) :
    (hs.getD {}).add w = { gens := gs ++ [w.gen], chain := chainFrom 1 (gs ++ [w.gen]), chainPresent := true } := by
  have hc : chainFrom 1 (gs ++ [w.gen]) = chainFrom 1 gs ++ [⟨w.number, w.gen.fileName⟩] := by
    rw [chainFrom_append, hnum, Nat.add_comm]; rfl
  rw [hc]
  rcases hex with ⟨h1, h2⟩ | h1
  · subst h1; subst h2; rfl
  · subst h1
    show HistStore.mk (HistStore.add _ w).gens _ true = _
    rw [C06.add_gens_of_fresh _ w fun g hg h => hfresh (List.mem_map.2 ⟨g, hg, h⟩)]
    rfl

/-- one step keeps the invariant: nothing is written and the generations stay, or one generation is written and
comes last, numbered and named one above the generations from before -/
theorem step_inv (env : Env) (hrn : '\n' ∉ env.rootName.toList) (t : Node) (n : Nat) (gs : List Generation)
    (h : RunInv t n gs) (st : Step) (hst : st.Ok) :
    ((create { env with stamp := st.stamp } (st.edit t) st.opts).written = [] ∧ RunInv (stepTree env t st) n gs) ∨
      ∃ w, (create { env with stamp := st.stamp } (st.edit t) st.opts).written = [w] ∧
        RunInv (stepTree env t st) (n + 1) (gs ++ [w.gen]) ∧
        w.gen.fileName = genFileName (n + 1) env.rootName st.stamp ∧ w.gen.fileName ∉ gs.map (·.fileName) ∧
        w.number = n + 1 := by
  obtain ⟨h1, h2, h3⟩ := step_appends_partial env hrn t h.isDir h.flat n gs h.good st hst
  have hlen := (goodHist_load t n gs h.good).2
  rcases h3 with ⟨h0, heq, hg'⟩ | ⟨w, hw, hnum, hname, hign, hhist, hg'⟩
  · left
    refine ⟨h0, h1, h2, hg', h.nodup, h.mono, ?_⟩
    have := hst.edit.hist_eq t h.isDir
    unfold StoreExact
    rw [heq, this]; exact h.exact
  · right
    have hfresh := goodHist_fresh_name _ _ gs w.gen hg'
    refine ⟨w, hw, ⟨h1, h2, hg', nodupIgnores_append gs _ h.nodup (hign ▸ newIgnore_nodup gs _),
      ignoreMonotone_append gs _ h.mono (hign ▸ newIgnore_extends_last gs _ (lastIgnore_nodup gs h.nodup)),
      Or.inr ?_⟩, hname, hfresh, hnum⟩
    rw [hhist, storeExact_add t.hist gs w h.exact (by rw [hnum, hlen]) hfresh]

theorem step_written (env : Env) (hrn : '\n' ∉ env.rootName.toList) (t : Node) (n : Nat) (gs : List Generation)
    (h : RunInv t n gs) (st : Step) (hst : st.Ok) :
    ∀ w ∈ (create { env with stamp := st.stamp } (st.edit t) st.opts).written,
      w.number = n + 1 ∧ w.gen.fileName = genFileName (n + 1) env.rootName st.stamp ∧
        w.gen.fileName ∉ gs.map (·.fileName) := by
  intro w hw
  rcases step_inv env hrn t n gs h st hst with ⟨h0, -⟩ | ⟨w', hw', -, hname, hfresh, hnum⟩
  · rw [h0] at hw; cases hw
  · obtain rfl : w = w' := by rw [hw'] at hw; exact List.mem_singleton.1 hw
    exact ⟨hnum, hname, hfresh⟩

/-! ### the induction over runs -/

theorem run_nil (env : Env) (t : Node) : run env t [] = t := rfl
theorem run_cons (env : Env) (t : Node) (st : Step) (steps : List Step) :
    run env t (st :: steps) = run env (stepTree env t st) steps := rfl
theorem run_append (env : Env) (t : Node) (s₁ s₂ : List Step) :
    run env t (s₁ ++ s₂) = run env (run env t s₁) s₂ := by
  unfold run; rw [List.foldl_append]

/-- the generations the steps of a run write, in order -/
def runGens (env : Env) : Node → List Step → List Generation
  | _, [] => []
  | t, st :: rest =>
    (create { env with stamp := st.stamp } (st.edit t) st.opts).written.map (·.gen) ++
      runGens env (stepTree env t st) rest

theorem runGens_append (env : Env) (t : Node) (s₁ s₂ : List Step) :
    runGens env t (s₁ ++ s₂) = runGens env t s₁ ++ runGens env (run env t s₁) s₂ := by
  induction s₁ generalizing t with
  | nil => rfl
  | cons st s₁ ih => simp only [List.cons_append, runGens, ih, run_cons, List.append_assoc]

/-- The run in closed form: from any point of a run, after any further steps the folder holds the generations from
before followed by those the steps wrote (`runGens`), at most one per step.  The induction over runs; everything
below is read off it. -/
theorem run_runInv (env : Env) (hrn : '\n' ∉ env.rootName.toList) (steps : List Step) :
    ∀ (t : Node) (n : Nat) (gs : List Generation), RunInv t n gs → (∀ st ∈ steps, st.Ok) →
      RunInv (run env t steps) (n + (runGens env t steps).length) (gs ++ runGens env t steps) ∧
        (runGens env t steps).length ≤ steps.length := by
  induction steps with
  | nil => intro t n gs h _; exact ⟨by simpa [runGens, run_nil] using h, Nat.le_refl _⟩
  | cons st steps ih =>
    intro t n gs h hok
    have hrest : ∀ x ∈ steps, x.Ok := fun x hx => hok x (by simp [hx])
    rw [run_cons, runGens]
    rcases step_inv env hrn t n gs h st (hok st (by simp)) with ⟨h0, h'⟩ | ⟨w, hw, h', -, -⟩
    · obtain ⟨hi, hle⟩ := ih _ n gs h' hrest
      rw [h0]
      exact ⟨hi, Nat.le_succ_of_le hle⟩
    · obtain ⟨hi, hle⟩ := ih _ (n + 1) (gs ++ [w.gen]) h' hrest
      rw [hw]
      simp only [List.map_cons, List.map_nil, List.length_append, List.length_cons, List.length_nil] at hi ⊢
      exact ⟨by rw [← List.append_assoc, show n + (0 + 1 + (runGens env (stepTree env t st) steps).length) =
        n + 1 + (runGens env (stepTree env t st) steps).length by omega]; exact hi, by omega⟩

theorem run_fresh (env : Env) (hrn : '\n' ∉ env.rootName.toList) (t : Node) (hdir : t.isDir = true)
    (hn : noNested t = true) (hh : t.hist = none) (steps : List Step) (hok : ∀ st ∈ steps, st.Ok) :
    RunInv (run env t steps) (runGens env t steps).length (runGens env t steps) ∧
      (runGens env t steps).length ≤ steps.length := by
  simpa using run_runInv env hrn steps t 0 [] (runInv_fresh t hdir hn hh) hok

theorem run_inv (env : Env) (hrn : '\n' ∉ env.rootName.toList) (t : Node) (hdir : t.isDir = true)
    (hn : noNested t = true) (hh : t.hist = none) (steps : List Step) (hok : ∀ st ∈ steps, st.Ok) :
    ∃ n, n ≤ steps.length ∧ RunInv (run env t steps) n (gensOf (run env t steps)) := by
  obtain ⟨hi, hle⟩ := run_fresh env hrn t hdir hn hh steps hok
  exact ⟨_, hle, (goodHist_load _ _ _ hi.good).1 ▸ hi⟩

/-- Start from a folder without any `ascmhl` folder and apply ANY list of admissible steps.
Then the folder is in order with some `n ≤ steps.length` generations `gs`, its `ascmhl` folder holds exactly `gs`
and their chain; and for every split `steps = steps₁ ++ steps₂` the folder after `steps₁` was in order with
generations `gs₁`, where `gs₁` is a PREFIX of `gs` (equal `Generation` values: names, records, pattern lists,
states, …) and the chain after `steps₁` is a prefix of the final chain. -/
theorem run_invariant (env : Env) (hrn : '\n' ∉ env.rootName.toList) (t : Node) (hdir : t.isDir = true)
    (hn : noNested t = true) (hh : t.hist = none) (steps : List Step) (hok : ∀ st ∈ steps, st.Ok) :
    ∃ n gs, GoodHist (run env t steps) n gs ∧ n ≤ steps.length ∧ StoreExact (run env t steps) gs ∧
      ∀ steps₁ steps₂, steps₁ ++ steps₂ = steps →
        ∃ n₁ gs₁, GoodHist (run env t steps₁) n₁ gs₁ ∧ n₁ ≤ steps₁.length ∧ StoreExact (run env t steps₁) gs₁ ∧
          n₁ ≤ n ∧ n ≤ n₁ + steps₂.length ∧ gs₁ <+: gs ∧ chainOf (run env t steps₁) <+: chainOf (run env t steps) := by
  obtain ⟨hi, hle⟩ := run_fresh env hrn t hdir hn hh steps hok
  refine ⟨_, _, hi.good, hle, hi.exact, ?_⟩
  rintro s₁ s₂ rfl
  obtain ⟨hi₁, hle₁⟩ := run_fresh env hrn t hdir hn hh s₁ (fun x hx => hok x (by simp [hx]))
  obtain ⟨-, hle₂⟩ := run_runInv env hrn s₂ _ _ _ hi₁ (fun x hx => hok x (by simp [hx]))
  have hp : runGens env t s₁ <+: runGens env t (s₁ ++ s₂) := by rw [runGens_append]; exact List.prefix_append _ _
  refine ⟨_, _, hi₁.good, hle₁, hi₁.exact, hp.length_le, ?_, hp, ?_⟩
  · rw [runGens_append, List.length_append]; omega
  · rw [goodHist_chain _ _ _ hi₁.good, goodHist_chain _ _ _ hi.good]
    exact chainFrom_prefix 1 _ _ hp

/-- the same without existentials: what is loaded after a prefix of the run is a prefix of what is loaded after
the whole run -/
theorem run_append_only (env : Env) (hrn : '\n' ∉ env.rootName.toList) (t : Node) (hdir : t.isDir = true)
    (hn : noNested t = true) (hh : t.hist = none) (steps₁ steps₂ : List Step)
    (hok : ∀ st ∈ steps₁ ++ steps₂, st.Ok) :
    gensOf (run env t steps₁) <+: gensOf (run env t (steps₁ ++ steps₂)) ∧
    chainOf (run env t steps₁) <+: chainOf (run env t (steps₁ ++ steps₂)) ∧
    (gensOf (run env t steps₁)).length ≤ steps₁.length := by
  obtain ⟨n, gs, hg, -, -, hsplit⟩ := run_invariant env hrn t hdir hn hh _ hok
  obtain ⟨n₁, gs₁, hg₁, hle, -, -, -, hp, hc⟩ := hsplit steps₁ steps₂ rfl
  obtain ⟨e1, l1⟩ := goodHist_load _ _ _ hg
  obtain ⟨e2, l2⟩ := goodHist_load _ _ _ hg₁
  rw [e1, e2]
  exact ⟨hp, hc, by omega⟩


/-! ### numbers and names after a run -/

/-- the manifests in the root's `ascmhl` folder as stored (none when there is no folder) -/
def storedGens (t : Node) : List Generation := (t.hist.getD {}).gens

theorem storeExact_stored (t : Node) (gs : List Generation) (h : StoreExact t gs) : storedGens t = gs := by
  unfold storedGens
  rcases h with ⟨h1, h2⟩ | h1
  · rw [h1, h2]; rfl
  · rw [h1]; rfl

/-- After any run from a folder without history: the history loads, the generation
numbers are exactly 1..n (ascending, no gap, no repeat), `n` at most the number of steps; every manifest is numbered
by its own file name and the names are pairwise different; the manifests on disk are exactly the loaded ones; and
whatever admissible step comes next, a manifest it writes is number n+1, named `genFileName (n+1) rootName stamp`,
and that name is not the name of any manifest already there. -/
theorem run_numbers_contiguous (env : Env) (hrn : '\n' ∉ env.rootName.toList) (t : Node) (hdir : t.isDir = true)
    (hn : noNested t = true) (hh : t.hist = none) (steps : List Step) (hok : ∀ st ∈ steps, st.Ok) :
    ∃ h n, loadHistory (run env t steps) = .ok h ∧ n ≤ steps.length ∧
      h.gens.map (·.number) = List.range' 1 n ∧
      (h.gens.map (·.number)).Nodup ∧
      (∀ k, k ∈ h.gens.map (·.number) ↔ 1 ≤ k ∧ k ≤ n) ∧
      (∀ g ∈ h.gens, parseGenName g.gen.fileName = some g.number) ∧
      (h.gens.map (·.gen.fileName)).Nodup ∧
      storedGens (run env t steps) = h.gens.map (·.gen) ∧
      h.chain.map (·.seq) = List.range' 1 n ∧
      ∀ st : Step, st.Ok →
        ∀ w ∈ (create { env with stamp := st.stamp } (st.edit (run env t steps)) st.opts).written,
          w.number = n + 1 ∧ w.gen.fileName = genFileName (n + 1) env.rootName st.stamp ∧
          w.gen.fileName ∉ (storedGens (run env t steps)).map (·.fileName) := by
  obtain ⟨n, hle, hi⟩ := run_inv env hrn t hdir hn hh steps hok
  have hgood := hi.good
  obtain ⟨h, hl, h1, h2, h3, h4⟩ := hgood
  have hparse : ∀ g ∈ h.gens, parseGenName g.gen.fileName = some g.number := by
    rw [loaded_gens_eq _ h hl]; exact storeGens_parse _
  have hstored := storeExact_stored _ _ hi.exact
  refine ⟨h, n, hl, hle, h1, by rw [h1]; exact List.nodup_range', ?_, hparse, ?_, by rw [hstored, h2], ?_, ?_⟩
  · intro k
    rw [h1, List.mem_range'_1]; omega
  · have := goodHist_names _ _ _ hi.good
    rw [← h2, List.map_map] at this
    exact this
  · rw [h3, List.map_map, ← h1]; rfl
  · intro st hst w hw
    rw [hstored]
    exact step_written env hrn _ n _ hi st hst w hw

/-! ### the pattern lists along a run -/

theorem ignoreMonotone_le (gs : List Generation) (h : IgnoreMonotone gs) :
    ∀ (d i : Nat) (hj : i + d < gs.length), gs[i].ignore <+: gs[i + d].ignore := by
  intro d
  induction d with
  | zero => intro i hj; exact List.prefix_refl _
  | succ d ih =>
    intro i hj
    exact (ih i (by omega)).trans (h (i + d) (by omega))

/-- In the history after any run from a folder without history, every generation's
pattern list is a prefix of the next one's (hence of every later one's), and every list is duplicate-free. -/
theorem run_ignore_monotone (env : Env) (hrn : '\n' ∉ env.rootName.toList) (t : Node) (hdir : t.isDir = true)
    (hn : noNested t = true) (hh : t.hist = none) (steps : List Step) (hok : ∀ st ∈ steps, st.Ok) :
    let gs := gensOf (run env t steps)
    (∀ i (h : i + 1 < gs.length), gs[i].ignore <+: gs[i + 1].ignore) ∧
    (∀ i j (hij : i ≤ j) (hj : j < gs.length), gs[i].ignore <+: gs[j].ignore) ∧
    (∀ g ∈ gs, g.ignore.Nodup) := by
  intro gs
  obtain ⟨n, -, hi⟩ := run_inv env hrn t hdir hn hh steps hok
  refine ⟨hi.mono, ?_, hi.nodup⟩
  intro i j hij hj
  obtain ⟨d, rfl⟩ := Nat.exists_eq_add_of_le hij
  exact ignoreMonotone_le _ hi.mono d i hj

/-! ### the shape a run leaves, and a `create` killed between its two replaces -/

/-- a store whose chain lists its manifests one by one is in the shape `C06.Listed`: names pairwise different (given),
every manifest listed -/
theorem listed_of_chainFrom (gs : List Generation) (k0 : Nat) (b : Bool) (hnd : (gs.map (·.fileName)).Nodup) :
    C06.Listed { gens := gs, chain := chainFrom k0 gs, chainPresent := b } := by
  refine ⟨hnd, ?_⟩
  intro g hg
  rw [C06.lists_iff]
  have hm : g.fileName ∈ (chainFrom k0 gs).map (·.fileName) := by
    rw [chainFrom_names]; exact List.mem_map.2 ⟨g, hg, rfl⟩
  obtain ⟨e, he, hn⟩ := List.mem_map.1 hm
  exact ⟨e, he, hn⟩

theorem chainFrom_lists (gs : List Generation) (k0 : Nat) (b : Bool) (nm : String) :
    ({ gens := gs, chain := chainFrom k0 gs, chainPresent := b } : HistStore).lists nm = true ↔
      nm ∈ gs.map (·.fileName) := by
  rw [C06.lists_iff, ← chainFrom_names k0 gs]
  constructor
  · rintro ⟨e, he, rfl⟩; exact List.mem_map.2 ⟨e, he, rfl⟩
  · intro h
    obtain ⟨e, he, hn⟩ := List.mem_map.1 h
    exact ⟨e, he, hn⟩

/-- The store a run leaves is `Listed` (the shape in which `loadGens` drops nothing and `HistStore.add` overwrites
nothing: `C06.dropUnlisted_of_listed`, `C06.add_appends`), and a killed `create` leaves no trace in the history.
After any run from a folder without history that left at least one generation (`s` = the root's `ascmhl`
folder), whatever admissible step comes next: the manifest `w` it writes has a name the chain does not list; if the
step is killed after that manifest was moved into place and before the chain file was replaced, the folder — now
holding `C06.withLeftover s w.gen` — loads as exactly the same history as before the step.  (What the re-run then
does: `C06.interrupted_generation_absent`.  The very first `create` in a folder is different: there is no chain file
yet and every command refuses with 32 until it is completed, `C15.first_create_window_manifest`.) -/
theorem run_interrupted_absent (env : Env) (hrn : '\n' ∉ env.rootName.toList) (t : Node) (hdir : t.isDir = true)
    (hn : noNested t = true) (hh : t.hist = none) (steps : List Step) (hok : ∀ st ∈ steps, st.Ok)
    (s : HistStore) (hs : (run env t steps).hist = some s) :
    C06.Listed s ∧
    ∀ st : Step, st.Ok →
      ∀ w ∈ (create { env with stamp := st.stamp } (st.edit (run env t steps)) st.opts).written,
        s.lists w.gen.fileName = false ∧
        loadGens (C06.withLeftover s w.gen) = loadGens s ∧
        checkStore (some (C06.withLeftover s w.gen)) = checkStore (some s) ∧
        ∀ nm cs, loadHistory (.dir nm cs (some (C06.withLeftover s w.gen))) = loadHistory (.dir nm cs (some s)) := by
  obtain ⟨n, -, hi⟩ := run_inv env hrn t hdir hn hh steps hok
  have hnd := goodHist_names _ _ _ hi.good
  generalize gensOf (run env t steps) = gs at hi hnd
  have hse : s = { gens := gs, chain := chainFrom 1 gs, chainPresent := true } := by
    rcases hi.exact with ⟨h1, -⟩ | h1
    · rw [h1] at hs; cases hs
    · rw [h1] at hs; exact (Option.some.inj hs).symm
  have hl : C06.Listed s := by rw [hse]; exact listed_of_chainFrom gs 1 true hnd
  refine ⟨hl, ?_⟩
  intro st hst w hw
  have hun : s.lists w.gen.fileName = false := by
    rw [← Bool.not_eq_true, hse, chainFrom_lists]
    exact (step_written env hrn _ n gs hi st hst w hw).2.2
  obtain ⟨h1, h2, -, h4, -⟩ := C06.interrupted_generation_absent s hl w hun
  exact ⟨hun, h1, h2, h4⟩


/-! ### media edits -/

theorem mediaEdit_id : MediaEdit id := ⟨fun _ _ => rfl, fun _ h => h, fun _ _ h => h⟩

theorem mediaEdit_comp (f g : Node → Node) (hf : MediaEdit f) (hg : MediaEdit g) : MediaEdit (f ∘ g) :=
  ⟨fun t h => (hf.hist_eq _ (hg.isDir t h)).trans (hg.hist_eq t h),
   fun t h => hf.isDir _ (hg.isDir t h),
   fun t h hn => hf.noNested _ (hg.isDir t h) (hg.noNested t h hn)⟩

/-- replace everything in the folder (add, delete, rename, alter files and sub-folders) by entries that hold no
`ascmhl` folder -/
def replaceKids (cs' : List Node) : Node → Node
  | .dir nm _ h => .dir nm cs' h
  | x => x

theorem mediaEdit_replaceKids (cs' : List Node) (h : noHistList cs' = true) : MediaEdit (replaceKids cs') := by
  refine ⟨?_, ?_, ?_⟩ <;> intro t ht <;> cases t with
  | file n c => cases ht
  | dir nm cs hs => first | rfl | (intro _; exact h)

/-- alter the content of the file at `p` (`Node.updateAt` on a file node) -/
def editFile (p : RelPath) (c' : Bytes) : Node → Node := fun t => Node.updateAt (setContent c') t p

theorem mediaEdit_editFile (p : RelPath) (c' : Bytes) : MediaEdit (editFile p c') := by
  have hh : ∀ x, (setContent c' x).hist = x.hist := fun x => by cases x <;> rfl
  refine ⟨fun t _ => updateAt_hist _ hh t p,
    fun t ht => (updateAt_isDir _ (fun x => by cases x <;> rfl) t p).trans ht,
    fun t _ hn => setContentAt_good noNested_kids c' p t hn⟩


/-! ### non-vacuity: a concrete run -/

/-- toy parameters: the "digest" is the format name and the content length; a path is ignored when its last
component is literally one of the patterns -/
def exEnv : Env :=
  { H := fun f c => f ++ ":" ++ toString c.length, D := fun _ _ => some [],
    hit := fun pats p => match p.getLast? with
      | some nm => pats.contains nm
      | none => false,
    rootName := "root" }

def exTree : Node :=
  .dir "root" [.file "a.txt" [1], .dir "sub" [.file "x" []] none, .file ".DS_Store" [], .file "b.tmp" [7]] none

/-- create; alter `a.txt` and create with other formats and an extra ignore pattern (this run ends with exit code
11 and still writes its manifest); create -n; add a file and create -sf on it -/
def exSteps : List Step :=
  [ ⟨id, {}, "2020-01-01_000000Z"⟩,
    ⟨editFile ["a.txt"] [1, 2], { formats := ["sha1", "md5"], ignoreCli := ["b.tmp"] }, "2020-01-02_000000Z"⟩,
    ⟨id, { noDirHashes := true }, "2020-01-03_000000Z"⟩,
    ⟨replaceKids [.file "a.txt" [1, 2], .file "new.txt" [5]], { singleFiles := [["new.txt"]] },
      "2020-01-04_000000Z"⟩ ]

theorem exSteps_ok : ∀ st ∈ exSteps, st.Ok := by
  intro st hst
  simp only [exSteps, List.mem_cons, List.not_mem_nil, or_false] at hst
  rcases hst with rfl | rfl | rfl | rfl
  · exact ⟨mediaEdit_id, by decide +kernel⟩
  · exact ⟨mediaEdit_editFile _ _, by decide +kernel⟩
  · exact ⟨mediaEdit_id, by decide +kernel⟩
  · exact ⟨mediaEdit_replaceKids _ (by rfl), by decide +kernel⟩

/-- the hypotheses of `run_invariant`, `run_numbers_contiguous`, `run_ignore_monotone` hold on this run -/
example : '\n' ∉ exEnv.rootName.toList ∧ exTree.isDir = true ∧ noNested exTree = true ∧ exTree.hist = none ∧
    ∀ st ∈ exSteps, st.Ok :=
  ⟨by decide, rfl, by rfl, rfl, exSteps_ok⟩

/-- a fifth step that writes nothing (`create -sf` on an empty folder): the history stays as it is, so `n` can be
smaller than the number of steps -/
def exSteps5 : List Step :=
  exSteps ++ [⟨replaceKids [.dir "empty" [] none], { singleFiles := [["empty"]] }, "2020-01-05_000000Z"⟩]

/-- The observations on the run that the examples below quote, evaluated together: the kernel then runs the four
`create`s of `exSteps` once, where each observation on its own would run them again.  (The pattern lists are given
by their rule here: the defaults, from the second step on with "b.tmp"; the example spells them out.) -/
theorem exRun_observed :
    ((gensOf (run exEnv exTree exSteps)).map (·.fileName) =
        ["0001_root_2020-01-01_000000Z.mhl", "0002_root_2020-01-02_000000Z.mhl",
         "0003_root_2020-01-03_000000Z.mhl", "0004_root_2020-01-04_000000Z.mhl"] ∧
      (chainOf (run exEnv exTree exSteps)).map (·.seq) = [1, 2, 3, 4]) ∧
    (match loadHistory (run exEnv exTree exSteps) with
      | .ok h => h.gens.map (·.number)
      | .error _ => []) = [1, 2, 3, 4] ∧
    (create { exEnv with stamp := "2020-01-02_000000Z" }
        (editFile ["a.txt"] [1, 2] (run exEnv exTree (exSteps.take 1)))
        { formats := ["sha1", "md5"], ignoreCli := ["b.tmp"] }).exitCode = 11 ∧
    (∀ k ∈ [0, 1, 2, 3, 4],
      gensOf (run exEnv exTree (exSteps.take k)) <+: gensOf (run exEnv exTree exSteps) ∧
      chainOf (run exEnv exTree (exSteps.take k)) <+: chainOf (run exEnv exTree exSteps) ∧
      (gensOf (run exEnv exTree (exSteps.take k))).length = k) ∧
    (gensOf (run exEnv exTree exSteps)).map (·.ignore) =
      Gen.defaultIgnore :: List.replicate 3 (Gen.defaultIgnore ++ ["b.tmp"]) ∧
    (gensOf (run exEnv exTree exSteps5) = gensOf (run exEnv exTree exSteps) ∧
      (gensOf (run exEnv exTree exSteps5)).length = 4 ∧ exSteps5.length = 5) := by
  decide +kernel

/-- every step of `exSteps` writes: four generations, numbered 1, 2, 3, 4, named after number, folder and time -/
example : (gensOf (run exEnv exTree exSteps)).map (·.fileName) =
      ["0001_root_2020-01-01_000000Z.mhl", "0002_root_2020-01-02_000000Z.mhl",
       "0003_root_2020-01-03_000000Z.mhl", "0004_root_2020-01-04_000000Z.mhl"] ∧
    (chainOf (run exEnv exTree exSteps)).map (·.seq) = [1, 2, 3, 4] :=
  exRun_observed.1

example : (match loadHistory (run exEnv exTree exSteps) with
    | .ok h => h.gens.map (·.number)
    | .error _ => []) = [1, 2, 3, 4] :=
  exRun_observed.2.1

/-- the second step ends with exit code 11 (the altered `a.txt` fails verification) and still writes its manifest -/
example : (create { exEnv with stamp := "2020-01-02_000000Z" }
      (editFile ["a.txt"] [1, 2] (run exEnv exTree (exSteps.take 1)))
      { formats := ["sha1", "md5"], ignoreCli := ["b.tmp"] }).exitCode = 11 :=
  exRun_observed.2.2.1

/-- the prefix relations, evaluated: what is loaded after k steps is a prefix of what is loaded after all four -/
example : ∀ k ∈ [0, 1, 2, 3, 4],
    gensOf (run exEnv exTree (exSteps.take k)) <+: gensOf (run exEnv exTree exSteps) ∧
    chainOf (run exEnv exTree (exSteps.take k)) <+: chainOf (run exEnv exTree exSteps) ∧
    (gensOf (run exEnv exTree (exSteps.take k))).length = k :=
  exRun_observed.2.2.2.1

/-- the pattern lists only grow -/
example : (gensOf (run exEnv exTree exSteps)).map (·.ignore) =
    [[".DS_Store", "ascmhl", "ascmhl/"], [".DS_Store", "ascmhl", "ascmhl/", "b.tmp"],
     [".DS_Store", "ascmhl", "ascmhl/", "b.tmp"], [".DS_Store", "ascmhl", "ascmhl/", "b.tmp"]] :=
  exRun_observed.2.2.2.2.1.trans (by decide +kernel)

example : gensOf (run exEnv exTree exSteps5) = gensOf (run exEnv exTree exSteps) ∧
    (gensOf (run exEnv exTree exSteps5)).length = 4 ∧ exSteps5.length = 5 :=
  exRun_observed.2.2.2.2.2

/-- `run_invariant` applied to the run -/
example : ∃ n gs, GoodHist (run exEnv exTree exSteps) n gs ∧ n ≤ 4 ∧ StoreExact (run exEnv exTree exSteps) gs := by
  obtain ⟨n, gs, h1, h2, h3, -⟩ := run_invariant exEnv (by decide) exTree rfl (by rfl) rfl exSteps exSteps_ok
  exact ⟨n, gs, h1, h2, h3⟩


/-! ### the prefix clause needs duplicate-free recorded lists -/

/-- a hand-made first manifest whose pattern list repeats a line -/
def dupGen : Generation := { fileName := "0001_root_2020-01-01_000000Z.mhl", ignore := ["x", "x"] }

def dupTree : Node :=
  .dir "root" [.file "a.txt" [1]]
    (some { gens := [dupGen], chain := [⟨1, "0001_root_2020-01-01_000000Z.mhl"⟩] })

def dupStep : Step := ⟨id, {}, "2020-01-02_000000Z"⟩

theorem dupTree_good : GoodHist dupTree 1 [dupGen] := by
  rw [goodHist_iff_store _ (by rfl)]
  have hstore : checkStore dupTree.hist = .ok () ∧ (storeGens dupTree.hist).map (·.number) = List.range' 1 1 ∧
      (storeGens dupTree.hist).map (·.gen) = [dupGen] ∧
      storeChain dupTree.hist = (storeGens dupTree.hist).map chainEntryOf := by decide +kernel
  refine ⟨hstore.1, hstore.2.1, hstore.2.2.1, hstore.2.2.2, ?_⟩
  intro s hs g hg
  cases hs
  simp only [List.mem_singleton] at hg
  subst hg; rfl

/-- `step_appends` WITHOUT the hypothesis on duplicates is false: all other hypotheses of `step_appends` hold
(`GoodHist`, a media edit, newline-free names), one generation is written and the folder is in order with two
generations, but the recorded list `["x", "x"]` is not a prefix of the new list `["x"]` -/
theorem step_prefix_needs_nodup :
    dupTree.isDir = true ∧ noNested dupTree = true ∧ GoodHist dupTree 1 [dupGen] ∧ dupStep.Ok ∧
    '\n' ∉ exEnv.rootName.toList ∧
    (create { exEnv with stamp := dupStep.stamp } (dupStep.edit dupTree) dupStep.opts).written.length = 1 ∧
    ∀ w ∈ (create { exEnv with stamp := dupStep.stamp } (dupStep.edit dupTree) dupStep.opts).written,
      ¬ lastIgnore [dupGen] <+: w.gen.ignore ∧ w.gen.ignore = ["x"] := by
  exact ⟨rfl, by rfl, dupTree_good, ⟨mediaEdit_id, by decide +kernel⟩, by decide, by decide +kernel⟩


end MhlProps.C06seq
