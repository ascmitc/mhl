/-
What does not depend on the `ascmhl` folders.  `Node.strip`: the tree with every `ascmhl` folder taken away; traversal,
specified directory hashes, name conditions, `at?` and file contents only depend on it.  `SameFilesDh t t'`: two trees
that differ in their `ascmhl` folders only, such as a tree and the same tree with generations written into it
(`sameFilesDh_applyWritten`).  `Node.eraseHist` / `SameFiles` say the same with a definition of their own
(`Node.eraseHist_eq_strip`).
-/
import MhlModel.DirHash
import MhlProps.Proofs.TreeEditLemmas

namespace MhlModel

mutual
/-- the tree without any `ascmhl` folder -/
def Node.strip : Node → Node
  | .file n c => .file n c
  | .dir n cs _ => .dir n (Node.stripL cs) none
def Node.stripL : List Node → List Node
  | [] => []
  | c :: cs => c.strip :: Node.stripL cs
end

theorem Node.stripL_eq_map (cs : List Node) : Node.stripL cs = cs.map Node.strip := by
  induction cs with
  | nil => rw [Node.stripL]; rfl
  | cons c cs ih => rw [Node.stripL, ih]; rfl

theorem Node.strip_name (t : Node) : t.strip.name = t.name := by
  cases t with
  | file n c => rw [Node.strip]
  | dir n cs h => rw [Node.strip]; rfl

theorem Node.strip_isDir (t : Node) : t.strip.isDir = t.isDir := by
  cases t with
  | file n c => rw [Node.strip]
  | dir n cs h => rw [Node.strip]; rfl

theorem Node.strip_dir (n : String) (cs : List Node) (h : Option HistStore) :
    (Node.dir n cs h).strip = .dir n (cs.map Node.strip) none := by
  rw [Node.strip, Node.stripL_eq_map]

theorem Node.strip_file (n : String) (c : Bytes) : (Node.file n c).strip = .file n c := by
  rw [Node.strip]

theorem strip_updateAt (f : Node → Node) (hf : ∀ x, (f x).strip = x.strip) (p : RelPath) (t : Node) :
    (Node.updateAt f t p).strip = t.strip :=
  Node.updateAt_rel (R := fun t t' => t'.strip = t.strip) f (fun _ => rfl)
    (fun n h cs g hk => by
      rw [Node.strip_dir, Node.strip_dir, List.map_map]
      exact congrArg (Node.dir n · none) (List.map_congr_left hk))
    p t (onPath_of_forall _ hf p t)

theorem strip_addGeneration (w : Written) (x : Node) : (Node.addGeneration w x).strip = x.strip := by
  cases x with
  | file n c => rfl
  | dir n cs h => rw [Node.addGeneration, Node.strip_dir, Node.strip_dir]

theorem strip_applyWritten (t : Node) (ws : List Written) : (applyWritten t ws).strip = t.strip := by
  unfold applyWritten
  induction ws generalizing t with
  | nil => rfl
  | cons w ws ih =>
    rw [List.foldl_cons, ih, strip_updateAt _ (strip_addGeneration w)]

mutual
theorem traverse_strip (hit : RelPath → Bool) : (t : Node) → (here : RelPath) →
    traverse hit here t.strip = traverse hit here t
  | .file n c, here => by rw [Node.strip]
  | .dir n cs h, here => by
    rw [Node.strip, traverse, traverse, traverseKids_strip hit cs here]
theorem traverseKids_strip (hit : RelPath → Bool) : (cs : List Node) → (here : RelPath) →
    traverseKids hit here (Node.stripL cs) = traverseKids hit here cs
  | [], _ => by rw [Node.stripL]
  | c :: cs, here => by
    rw [Node.stripL, traverseKids, traverseKids, traverse_strip hit c, traverseKids_strip hit cs, Node.strip_name,
      Node.strip_isDir]
end

mutual
theorem nodeHashes_strip (H : HashFn) (D : DecodeFn) (fmt : String) (hit : RelPath → Bool) : (t : Node) →
    (here : RelPath) → nodeHashes H D fmt hit here t.strip = nodeHashes H D fmt hit here t
  | .file n c, here => by rw [Node.strip]
  | .dir n cs h, here => by
    rw [Node.strip, nodeHashes, nodeHashes, kidHashes_strip H D fmt hit cs here]
theorem kidHashes_strip (H : HashFn) (D : DecodeFn) (fmt : String) (hit : RelPath → Bool) : (cs : List Node) →
    (here : RelPath) → kidHashes H D fmt hit here (Node.stripL cs) = kidHashes H D fmt hit here cs
  | [], _ => by rw [Node.stripL]
  | c :: cs, here => by
    rw [Node.stripL, kidHashes, kidHashes, nodeHashes_strip H D fmt hit c, kidHashes_strip H D fmt hit cs,
      Node.strip_name]
end

mutual
theorem namesDistinct_strip : (t : Node) → (t.strip.NamesDistinct ↔ t.NamesDistinct)
  | .file n c => by rw [Node.strip]
  | .dir n cs h => by
    rw [Node.strip, Node.NamesDistinct, Node.NamesDistinct, namesDistinctKids_strip cs, Node.stripL_eq_map,
      List.map_map]
    have : (Node.name ∘ Node.strip) = Node.name := by funext x; exact Node.strip_name x
    rw [this]
theorem namesDistinctKids_strip : (cs : List Node) →
    (Node.NamesDistinctKids (Node.stripL cs) ↔ Node.NamesDistinctKids cs)
  | [] => by rw [Node.stripL]
  | c :: cs => by
    rw [Node.stripL, Node.NamesDistinctKids, Node.NamesDistinctKids, namesDistinct_strip c,
      namesDistinctKids_strip cs]
end

mutual
theorem descNames_strip : (t : Node) → t.strip.descNames = t.descNames
  | .file n c => by rw [Node.strip]
  | .dir n cs h => by rw [Node.strip, Node.descNames, Node.descNames, descNamesKids_strip cs]
theorem descNamesKids_strip : (cs : List Node) → Node.descNamesKids (Node.stripL cs) = Node.descNamesKids cs
  | [] => by rw [Node.stripL]
  | c :: cs => by
    rw [Node.stripL, Node.descNamesKids, Node.descNamesKids, descNames_strip c, descNamesKids_strip cs,
      Node.strip_name]
end

theorem findChild_strip (cs : List Node) (n : String) :
    findChild (cs.map Node.strip) n = (findChild cs n).map Node.strip := by
  unfold findChild
  induction cs with
  | nil => rfl
  | cons c cs ih =>
    rw [List.map_cons, List.find?_cons, List.find?_cons, Node.strip_name]
    split
    · rfl
    · exact ih

theorem at?_strip : ∀ (q : RelPath) (t : Node), t.strip.at? q = (t.at? q).map Node.strip
  | [], t => by rw [Node.at?_nil, Node.at?_nil]; rfl
  | n :: rest, .file nm c => by rw [Node.strip]; simp [Node.at?]
  | n :: rest, .dir nm cs h => by
    rw [Node.strip_dir, Node.at?_dir_cons, Node.at?_dir_cons, findChild_strip]
    cases findChild cs n with
    | none => rfl
    | some c => exact at?_strip rest c

theorem fileContent_strip (t : Node) (p : RelPath) : fileContent t.strip p = fileContent t p := by
  unfold fileContent
  rw [at?_strip]
  cases t.at? p with
  | none => rfl
  | some x => cases x <;> rfl

/-- two trees that differ in their `ascmhl` folders only -/
def SameFilesDh (t t' : Node) : Prop := t'.strip = t.strip

theorem sameFilesDh_applyWritten (t : Node) (ws : List Written) : SameFilesDh t (applyWritten t ws) :=
  strip_applyWritten t ws

section samefiles
variable {t t' : Node} (h : SameFilesDh t t')
include h

theorem SameFilesDh.traverse (hit : RelPath → Bool) (here : RelPath) : traverse hit here t' = traverse hit here t := by
  rw [← traverse_strip hit t', ← traverse_strip hit t, h]

theorem SameFilesDh.visiblePaths (hit : RelPath → Bool) : visiblePaths hit t' = visiblePaths hit t := by
  unfold MhlModel.visiblePaths; rw [h.traverse]

theorem SameFilesDh.nodeHashes (H : HashFn) (D : DecodeFn) (fmt : String) (hit : RelPath → Bool) (here : RelPath) :
    nodeHashes H D fmt hit here t' = nodeHashes H D fmt hit here t := by
  rw [← nodeHashes_strip H D fmt hit t', ← nodeHashes_strip H D fmt hit t, h]

theorem SameFilesDh.namesDistinct : t'.NamesDistinct ↔ t.NamesDistinct := by
  rw [← namesDistinct_strip t', ← namesDistinct_strip t, h]

theorem SameFilesDh.namesOk : t'.NamesOk ↔ t.NamesOk := by
  unfold Node.NamesOk; rw [← descNames_strip t', ← descNames_strip t, h]

theorem SameFilesDh.isDir : t'.isDir = t.isDir := by
  rw [← Node.strip_isDir t', ← Node.strip_isDir t, h]

theorem SameFilesDh.fileContent (p : RelPath) : fileContent t' p = fileContent t p := by
  rw [← fileContent_strip t', ← fileContent_strip t, h]

theorem SameFilesDh.at? (q : RelPath) :
    (t'.at? q = none ↔ t.at? q = none) ∧ ∀ c c', t.at? q = some c → t'.at? q = some c' → SameFilesDh c c' := by
  have := at?_strip q t'
  rw [h, at?_strip q t] at this
  constructor
  · cases h1 : t.at? q <;> cases h2 : t'.at? q <;> simp_all
  · intro c c' h1 h2
    rw [h1, h2] at this
    simpa [SameFilesDh] using this.symm

theorem SameFilesDh.at?_some {q : RelPath} {c : Node} (hc : t.at? q = some c) :
    ∃ c', t'.at? q = some c' ∧ SameFilesDh c c' := by
  cases h2 : t'.at? q with
  | none => rw [((h.at? q).1).1 h2] at hc; cases hc
  | some c' => exact ⟨c', rfl, (h.at? q).2 c c' hc h2⟩

end samefiles


/-! ### the same notion, defined on its own -/

mutual
def Node.eraseHist : Node → Node
  | .file n c => .file n c
  | .dir n cs _ => .dir n (eraseHistList cs) none
def eraseHistList : List Node → List Node
  | [] => []
  | c :: cs => c.eraseHist :: eraseHistList cs
end

mutual
/-- the same tree as `Node.strip`, whose lemmas serve both -/
theorem Node.eraseHist_eq_strip : (t : Node) → t.eraseHist = t.strip
  | .file _ _ => by rw [Node.eraseHist, Node.strip]
  | .dir _ cs _ => by rw [Node.eraseHist, Node.strip, eraseHistList_eq_stripL cs]
theorem eraseHistList_eq_stripL : (cs : List Node) → eraseHistList cs = Node.stripL cs
  | [] => by rw [eraseHistList, Node.stripL]
  | c :: cs => by rw [eraseHistList, Node.stripL, Node.eraseHist_eq_strip c, eraseHistList_eq_stripL cs]
end

def SameFiles (a b : Node) : Prop := a.eraseHist = b.eraseHist

theorem SameFiles.dh {a b : Node} (h : SameFiles a b) : SameFilesDh b a := by
  unfold SameFiles at h
  rwa [Node.eraseHist_eq_strip, Node.eraseHist_eq_strip] at h

theorem SameFiles.traverse {a b : Node} (h : SameFiles a b) (hit : RelPath → Bool) (here : RelPath) :
    traverse hit here a = traverse hit here b :=
  h.dh.traverse hit here

theorem SameFiles.visiblePaths {a b : Node} (h : SameFiles a b) (hit : RelPath → Bool) :
    visiblePaths hit a = visiblePaths hit b :=
  h.dh.visiblePaths hit

end MhlModel
