/-
Lemmas for C04nested: every record of a folder-mode `create` over unaltered files validates, on a tree with nested
histories.  `GoodEntries` is a form of "the record passes `_validate_new_hash_list`" that is closed under `++`;
`Session.Good` says it of every record of the session (an instance of `Session.AllRecs`); `commit` does not raise on
a good session.  Then which lists the session has (`Session.has`, defined in NestedLemmas): the history that owns a
visited folder has one, and rename detection keeps them.
-/
import MhlProps.C06
import MhlProps.Proofs.DetectLemmas
import MhlProps.Proofs.NestedLemmas

namespace MhlModel
open MhlProps.C02rec MhlProps.C04

/-- no entry failed, and if a digest in a format new for the file is present then so is a verified one.  Closed under
concatenation (a record may be appended to several times), implied by what `sealEntries` returns for an unaltered
file and by directory entries, and sufficient for `validateRecord`. -/
def GoodEntries (es : List Entry) : Prop :=
  (∀ e ∈ es, e.action ≠ "failed") ∧ ((∃ e ∈ es, e.action = "new") → ∃ e ∈ es, e.action = "verified")

theorem goodEntries_nil : GoodEntries [] := ⟨by simp, by simp⟩

theorem goodEntries_append {a b : List Entry} (ha : GoodEntries a) (hb : GoodEntries b) : GoodEntries (a ++ b) := by
  refine ⟨?_, ?_⟩
  · intro e he
    rcases List.mem_append.1 he with h | h
    · exact ha.1 e h
    · exact hb.1 e h
  · rintro ⟨e, he, hn⟩
    rcases List.mem_append.1 he with h | h
    · obtain ⟨v, hv, hvv⟩ := ha.2 ⟨e, h, hn⟩
      exact ⟨v, List.mem_append_left _ hv, hvv⟩
    · obtain ⟨v, hv, hvv⟩ := hb.2 ⟨e, h, hn⟩
      exact ⟨v, List.mem_append_right _ hv, hvv⟩

theorem goodEntries_no_action {es : List Entry} (h : ∀ e ∈ es, e.action = "") : GoodEntries es := by
  refine ⟨?_, ?_⟩
  · intro e he hf
    rw [h e he] at hf
    exact absurd hf (by decide)
  · rintro ⟨e, he, hn⟩
    rw [h e he] at hn
    exact absurd hn (by decide)

theorem validate_of_good (r : Record) (h : GoodEntries r.entries) : ∃ r', validateRecord r = .ok r' :=
  (validateRecord_isOk r).2 ((entriesPass_iff _).2 fun hn => ⟨h.2 hn, h.1⟩)

theorem goodEntries_sealEntries (dig : String → String) (gens : List LGen) (p : String) (req : List String)
    (h : FirstOk dig gens p) : GoodEntries (sealEntries gens p dig req).1 :=
  ⟨unaltered_no_failed dig gens p req h, unaltered_new_verified dig gens p req h⟩

/-- every record (other than the root records, which are not validated) of every list under construction has good
entries -/
def Session.Good (s : Session) : Prop := s.AllRecs fun _ r => GoodEntries r.entries

theorem detectRenames_good (env : Env) (t : Node) (rootHist : Hist) (s : Session) (hs : s.Good)
    (newPaths notFound : List RelPath) : (detectRenames env t rootHist s newPaths notFound).1.Good :=
  detectRenames_allRecs (fun _ _ _ h => h) env t rootHist hs newPaths notFound

theorem commit_good (rootHist : Hist) (s : Session) (hs : s.Good) (rn stamp process : String)
    (cb : Option String) :
    ∃ ws, commit rootHist s rn stamp process cb = .ok ws ∧
      ws.map (·.histRoot) = writtenRoots rootHist s ∧
      (∀ w ∈ ws, ∃ h ∈ walkPost rootHist, w.histRoot = h.root ∧ w.number = latestGenerationNumber h.gens + 1 ∧
        w.gen.state = .ok) := by
  obtain ⟨ws, hcm⟩ := commit_isOk rootHist s rn stamp process cb
    fun h _ r hr => validate_of_good r (Session.AllRecs.get hs h.root r hr)
  refine ⟨ws, hcm, commit_writtenRoots _ _ _ _ _ _ hcm, fun w hw => ?_⟩
  obtain ⟨h, hh, refs, hwr⟩ := (commit_written _ _ _ _ _ _ hcm).2 w hw
  obtain ⟨h1, h2, h3⟩ := MhlProps.C06.writeOne_state _ _ _ _ _ _ _ _ _ hwr
  exact ⟨h, hh, h3, h2, h1⟩

theorem Session.has_touch_self (s : Session) (root : RelPath) : (s.touch root).has root := by
  rw [Session.has_iff, Session.touch_roots]
  split <;> simp [*]

theorem Session.has_put_mono {s : Session} {r : RelPath} (h : s.has r) (nl : NewList) : (s.put nl).has r := by
  rw [Session.has_iff, Session.put_roots] at *
  split
  · exact h
  · exact List.mem_append_left _ h

/-- the history that owns a visited folder has a list in the session (even when no directory hashes are computed: the
record of the folder is created all the same) -/
theorem createFold_has_owner (env : Env) (t : Node) (rootHist : Hist) (fmts : List String) (noDir : Bool)
    (vs : List Visit) : ∀ (st : CreateState), ∀ v ∈ vs,
    (vs.foldl (createVisit env t rootHist fmts noDir) st).session.has (route rootHist v.folder).1.root := by
  intro st v hv
  obtain ⟨W, hW, hown⟩ := createFold_addAll env t rootHist fmts noDir vs st
  obtain ⟨w, hw, hwr⟩ := hown v hv
  rw [Session.has_iff, hW, Session.mem_addAll_roots]
  exact Or.inr ⟨w, hw, hwr⟩

theorem detectRenames_has_mono (env : Env) (t : Node) (rootHist : Hist) (s : Session)
    (newPaths notFound : List RelPath) {r : RelPath} (hs : s.has r) :
    (detectRenames env t rootHist s newPaths notFound).1.has r :=
  detectRenames_session_inv (P := (·.has r)) env t rootHist (fun _ _ _ _ hs' _ => Session.has_put_mono hs' _)
    (fun _ _ _ _ _ hs' _ _ => Session.has_put_mono hs' _) s newPaths notFound hs

section unaltered

theorem cState_no_failed (env : Env) (t : Node) (o : CreateOpts) (rootHist : Hist)
    (hfirst : ∀ p, (p, false) ∈ visiblePaths (cHit env rootHist o) t →
      FirstOk (fun f => env.H f (fileContent t p)) (route rootHist p).1.gens (posix (route rootHist p).2)) :
    (cState env t rootHist o).failed = 0 ∧ (cState env t rootHist o).mismatch = [] := by
  unfold cState
  refine createFold_failed _ _ _ _ _ _ _ (fun v hv ch hch hfile r hr => ?_) ⟨rfl, rfl⟩
  have hvis := mem_visible_of_visit hv hch
  rw [hfile] at hvis
  exact unaltered_all_success _ _ _ _ (hfirst _ hvis) r hr

theorem cSession_good (env : Env) (t : Node) (o : CreateOpts) (rootHist : Hist)
    (hfirst : ∀ p, (p, false) ∈ visiblePaths (cHit env rootHist o) t →
      FirstOk (fun f => env.H f (fileContent t p)) (route rootHist p).1.gens (posix (route rootHist p).2)) :
    (cSession env t rootHist o).Good := by
  unfold cSession
  have hfresh : ∀ {r : Record}, (GoodEntries r.entries ∨ ∃ p sz, r = { path := p, size := sz }) →
      GoodEntries r.entries := fun hr => hr.elim id fun ⟨_, _, h⟩ => h ▸ goodEntries_nil
  refine createFold_allRecs env t rootHist _ _ _ _ (fun l hl => nomatch hl)
    (fun v hv ch hch hfile _ _ hr => goodEntries_append (hfresh hr) (goodEntries_sealEntries _ _ _ _ (hfirst _ ?_)))
    (fun hashes _ _ hr => goodEntries_append (hfresh hr) (goodEntries_no_action (dirEnts_action hashes)))
  exact hfile ▸ mem_visible_of_visit hv hch

end unaltered

end MhlModel
