/-
THE SEALED RUN: one folder-mode `create` (no `-dr`) from the outer root of a tree with nested histories whose commit
went through, as the theorems about the sealed tree use it (C03nested: verify / diff; C09nested: verify -dh).

`SealedRun env t o h ws` bundles what such a theorem assumes: `t` loads as `h` and is well-formed, the commit of the
session wrote `ws`, the folder names are free of line feeds (`of_consistent`: where such a run comes from).  Each
consequence is proved once: the tree with `ws` loads as `addWritten ws h` (`reload`), who wrote, the record a visible
file has in the new generation of its owner, what is expected afterwards, and that `addWritten ws h` records `t`
(`Snapshot`), so that verify / diff end with 0 — for ANY `h`, first seal or reseal.
-/
import MhlProps.C04nested
import MhlProps.C08part
import MhlProps.Proofs.ReloadLemmas
import MhlProps.Proofs.SnapshotLemmas

namespace MhlModel
open MhlProps.C02rec MhlProps.C04 MhlProps.C04nested MhlProps.C08 MhlProps.C08part

/-! ### without `-dr` no record of the session carries a previous path -/

/-- the session starts empty; `sealFile` and `appendDirHashes` only write records with `prev = none` -/
theorem cSession_noPrev (env : Env) (t : Node) (rootHist : Hist) (o : CreateOpts) :
    (cSession env t rootHist o).AllRecs fun _ r => r.prev = none :=
  createFold_allRecs env t rootHist _ _ _ _ (fun _ hl => nomatch hl)
    (fun _ _ _ _ _ _ _ hr => hr.elim id fun ⟨_, _, h⟩ => h ▸ rfl)
    (fun _ _ _ hr => hr.elim id fun ⟨_, _, h⟩ => h ▸ rfl)

/-! ### the expected paths of `addWritten ws h` -/

theorem mem_expectedPaths_iff (h : Hist) (p : RelPath) :
    p ∈ expectedPaths h ↔ ∃ x ∈ h.all, p ∈ expectedOfGens x.root x.gens := by
  unfold expectedPaths
  show p ∈ List.foldl (fun acc x => (expectedOfGens x.root x.gens).foldl appendNew acc) [] h.all ↔ _
  suffices hgen : ∀ (l : List Hist) (acc : List RelPath),
      p ∈ l.foldl (fun acc x => (expectedOfGens x.root x.gens).foldl appendNew acc) acc ↔
        p ∈ acc ∨ ∃ x ∈ l, p ∈ expectedOfGens x.root x.gens by
    rw [hgen]; simp
  intro l
  induction l with
  | nil => intro acc; simp
  | cons a as ih =>
    intro acc
    rw [List.foldl_cons, ih, mem_foldl_appendNew']
    simp only [List.mem_cons, exists_eq_or_imp]
    rw [or_assoc]

theorem mem_expectedPaths_addWritten (ws : List Written) (hnd : (ws.map (·.histRoot)).Nodup) (h : Hist) (p : RelPath)
    (hp : p ∈ expectedPaths (addWritten ws h)) :
    p ∈ expectedPaths h ∨ ∃ w ∈ ws, ∃ r ∈ w.gen.records, p = w.histRoot ++ splitPath r.path := by
  rw [mem_expectedPaths_iff] at hp
  obtain ⟨x', hx', hpx⟩ := hp
  rw [all_addWritten] at hx'
  obtain ⟨x, hx, rfl⟩ := List.mem_map.1 hx'
  rw [addWritten_root, addWritten_gens] at hpx
  by_cases hw : ∃ w ∈ ws, w.histRoot = x.root
  · obtain ⟨w, hwm, hwr⟩ := hw
    rw [← hwr, newGens_single ws hnd w hwm, MhlProps.C17.expected_drops_previous] at hpx
    rcases hpx with ⟨h1, -⟩ | ⟨r, hr, hq⟩
    · left
      rw [mem_expectedPaths_iff]
      exact ⟨x, hx, by rw [← hwr]; exact h1⟩
    · exact Or.inr ⟨w, hwm, r, hr, hq⟩
  · rw [newGens_of_ne ws x.root (fun w hwm he => hw ⟨w, hwm, he⟩), List.append_nil] at hpx
    left
    rw [mem_expectedPaths_iff]
    exact ⟨x, hx, hpx⟩

theorem expected_of_written (ws : List Written) (hnd : (ws.map (·.histRoot)).Nodup) (h : Hist) (w : Written)
    (hw : w ∈ ws) (x : Hist) (hx : x ∈ h.all) (hxr : x.root = w.histRoot) (r : Record) (hr : r ∈ w.gen.records) :
    w.histRoot ++ splitPath r.path ∈ expectedPaths (addWritten ws h) := by
  rw [mem_expectedPaths_iff]
  refine ⟨addWritten ws x, by rw [all_addWritten]; exact List.mem_map_of_mem hx, ?_⟩
  rw [addWritten_root, addWritten_gens, hxr, newGens_single ws hnd w hw, MhlProps.C17.expected_drops_previous]
  exact Or.inr ⟨r, hr, rfl⟩

/-- what was expected before the run is expected afterwards, when the new generations record no previous path (a
record with a previous path takes that path off the expected ones) -/
theorem expected_mono_addWritten (ws : List Written) (hnd : (ws.map (·.histRoot)).Nodup)
    (hprev : ∀ w ∈ ws, ∀ r ∈ w.gen.records, r.prev = none) (h : Hist) (p : RelPath)
    (hp : p ∈ expectedPaths h) : p ∈ expectedPaths (addWritten ws h) := by
  rw [mem_expectedPaths_iff] at hp ⊢
  obtain ⟨x, hx, hpx⟩ := hp
  refine ⟨addWritten ws x, by rw [all_addWritten]; exact List.mem_map_of_mem hx, ?_⟩
  rw [addWritten_root, addWritten_gens]
  by_cases hw : ∃ w ∈ ws, w.histRoot = x.root
  · obtain ⟨w, hwm, hwr⟩ := hw
    rw [← hwr, newGens_single ws hnd w hwm, MhlProps.C17.expected_drops_previous]
    left
    refine ⟨by rw [hwr]; exact hpx, ?_⟩
    rintro ⟨r, hr, q, hq, -⟩
    rw [hprev w hwm r hr] at hq
    cases hq
  · rw [newGens_of_ne ws x.root (fun w hwm he => hw ⟨w, hwm, he⟩), List.append_nil]
    exact hpx

/-! ### the run -/

structure SealedRun (env : Env) (t : Node) (o : CreateOpts) (h : Hist) (ws : List Written) : Prop where
  load : loadHistory t = .ok h
  distinct : t.NamesDistinct
  namesOk : t.NamesOk
  isDir : t.isDir = true
  formats : o.formats ≠ []
  commit : commit h (cSession env t h o) env.rootName env.stamp "in-place" = .ok ws
  /-- no line feed in the names a new manifest is named after: else its name does not parse (C06) -/
  lineFeeds : NoLineFeeds h env.rootName env.stamp

namespace SealedRun
variable {env : Env} {t : Node} {o : CreateOpts} {h : Hist} {ws : List Written}

/-- WHERE A RUN COMES FROM: when every visible file is consistent with the history that owns it the commit goes
through (C04nested), and `createFolder` returns what it wrote -/
theorem of_consistent (hl : loadHistory t = .ok h) (hd : t.NamesDistinct) (hn : t.NamesOk) (hdir : t.isDir = true)
    (hf : o.formats ≠ []) (hdr : o.detectRenaming = false) (hcons : AllConsistent env t h o)
    (hlf : NoLineFeeds h env.rootName env.stamp) : SealedRun env t o h (createFolder env t o).written := by
  obtain ⟨ws, hcm, hwr, -, -⟩ := nested_commit_ok hl hcons
  rw [cRen_noDr env t h o hdr] at hcm
  exact hwr ▸ ⟨hl, hd, hn, hdir, hf, hcm, hlf⟩

theorem histOK (R : SealedRun env t o h ws) : HistOK t h := loadHistory_histOK t h R.load R.distinct

theorem itemsOk (R : SealedRun env t o h ws) : ItemsOk h (recItems (traverse (cHit env h o) [] t)) :=
  recItems_itemsOk R.histOK _ R.distinct R.namesOk

theorem sinv (R : SealedRun env t o h ws) :
    SInv env t h (isort strLe o.formats) (visitSpecHashes env t (isort strLe o.formats) (cHit env h o) o.noDirHashes)
      (setPatterns (latestIgnore h.gens) o.ignoreCli o.ignoreFile)
      (cSession env t h o) (recItems (traverse (cHit env h o) [] t)) :=
  (fold_facts env t h R.load R.distinct R.namesOk (isort strLe o.formats) o.noDirHashes _ (cHit env h o)).2.2

/-! ### the reload -/

theorem nodup (R : SealedRun env t o h ws) : (ws.map (·.histRoot)).Nodup :=
  commit_roots_nodup R.histOK _ _ _ _ none R.commit

theorem reload (R : SealedRun env t o h ws) : loadHistory (applyWritten t ws) = .ok (addWritten ws h) :=
  load_applyWritten ws t h R.load R.distinct R.isDir R.nodup fun w hw =>
    (commit_writeOk R.load _ _ _ _ R.commit R.lineFeeds w hw).1

theorem eq_of_root (R : SealedRun env t o h ws) {w w' : Written} (hw : w ∈ ws) (hw' : w' ∈ ws)
    (he : w.histRoot = w'.histRoot) : w = w' :=
  List.inj_on_of_nodup_map R.nodup hw hw' he

theorem written_for (R : SealedRun env t o h ws) {w : Written} (hw : w ∈ ws) :
    ∃ x ∈ h.all, x.root = w.histRoot ∧ w.number = latestGenerationNumber x.gens + 1 :=
  (commit_writeOk R.load _ _ _ _ R.commit R.lineFeeds w hw).2

theorem gens_of (R : SealedRun env t o h ws) {w : Written} (hw : w ∈ ws) {x : Hist} (hxr : x.root = w.histRoot) :
    (addWritten ws x).gens = x.gens ++ [⟨w.number, w.gen⟩] := by
  rw [addWritten_gens, hxr, newGens_single ws R.nodup w hw]

theorem chain_of (R : SealedRun env t o h ws) {w : Written} (hw : w ∈ ws) {x : Hist} (hxr : x.root = w.histRoot) :
    (addWritten ws x).chain = x.chain ++ [⟨w.number, w.gen.fileName⟩] := by
  rw [addWritten_chain, hxr, newChain_n2, filter_root_single ws R.nodup w hw]
  rfl

theorem owner_gens (R : SealedRun env t o h ws) {w : Written} (hw : w ∈ ws) {p : RelPath}
    (hwr : w.histRoot = (route h p).1.root) :
    (route (addWritten ws h) p).1.gens = (route h p).1.gens ++ [⟨w.number, w.gen⟩] := by
  rw [route_addWritten]
  exact R.gens_of hw hwr.symm

/-! ### who writes; the root history; the matcher of the next command -/

theorem owner_writes (R : SealedRun env t o h ws) {x : RelPath × Bool}
    (hx : x ∈ recItems (traverse (cHit env h o) [] t)) : ∃ w ∈ ws, w.histRoot = (route h x.1).1.root := by
  have hroots : ownerOf h x.1 ∈ (cSession env t h o).roots := by
    obtain ⟨p, d⟩ := x
    cases d with
    | false => exact (R.sinv.file_done (isort_ne_nil_of_ne_nil strLe R.formats) hx).1
    | true => exact (R.sinv.dirs p hx).1
  obtain ⟨w, hw, hwr, -⟩ := commit_of_root R.histOK _ _ _ _ _ R.commit
    ⟨_, (mem_walkPost _ _).2 (route_mem R.histOK.root x.1), rfl⟩ hroots
  exact ⟨w, hw, hwr⟩

theorem root_gen (R : SealedRun env t o h ws) :
    ∃ w ∈ ws, w.histRoot = [] ∧ (addWritten ws h).gens = h.gens ++ [⟨w.number, w.gen⟩] ∧
      w.number = latestGenerationNumber h.gens + 1 ∧
      w.gen.ignore = setPatterns (latestIgnore h.gens) o.ignoreCli o.ignoreFile := by
  obtain ⟨w, hw, hwr⟩ := R.owner_writes ((mem_recItems _ t ([], true)).2 (Or.inr ⟨rfl, R.isDir⟩))
  rw [show (route h []).1.root = [] from (owner_nil R.histOK.root).1] at hwr
  have hroot : h.root = w.histRoot := R.histOK.root.trans hwr.symm
  refine ⟨w, hw, hwr, R.gens_of hw hroot, ?_,
    (root_written_ignore R.histOK.nodup R.sinv.core.pats R.commit hw hroot.symm).1⟩
  obtain ⟨x, hx, hxr, hnum⟩ := R.written_for hw
  rwa [mem_all_root_inj R.histOK.nodup hx h.self_mem_all (hxr.trans hroot.symm)] at hnum

theorem gens_ne (R : SealedRun env t o h ws) : (addWritten ws h).gens ≠ [] := by
  obtain ⟨w, -, -, hg, -⟩ := R.root_gen
  rw [hg]; simp

theorem patterns (R : SealedRun env t o h ws) :
    setPatterns (latestIgnore (addWritten ws h).gens) [] [] =
      setPatterns (latestIgnore h.gens) o.ignoreCli o.ignoreFile := by
  obtain ⟨w, hw, hwr, hg, -, -⟩ := R.root_gen
  rw [hg]
  exact (root_written_ignore R.histOK.nodup R.sinv.core.pats R.commit hw (hwr.trans R.histOK.root.symm)).2
    _ _ [] [] (by simp) (by simp)

/-- the next command without `-i` uses the matcher of the run (`vHit` and `dhHit` without options unfold to the left
side) -/
theorem matcher (R : SealedRun env t o h ws) :
    env.hit (setPatterns (latestIgnore (addWritten ws h).gens) [] []) = cHit env h o := by
  rw [R.patterns]; rfl

/-! ### the new generation of the history that owns a visible path -/

/-- a written generation has no previous paths, no record "." and pairwise different paths, so `Generation.find` looks
a path up among its records by name -/
theorem clean (R : SealedRun env t o h ws) {w : Written} (hw : w ∈ ws) :
    w.gen.Clean ∧ (w.gen.records.map (·.path)).Nodup := by
  refine ⟨fun r hr => ?_, (R.sinv.written R.histOK R.itemsOk R.commit).2.1 w hw⟩
  obtain ⟨r0, hr0, rfl⟩ := commit_record_of _ _ _ _ _ R.commit hw hr
  rw [finalRec_prev, finalRec_path]
  refine ⟨Session.AllRecs.get (cSession_noPrev env t h o) _ r0 hr0, ?_⟩
  obtain ⟨x, hx, q, hq0, hq, hqx, -⟩ := R.sinv.core.recs _ r0 hr0
  rw [hq]
  exact fun h0 => hq0 ((posix_eq_dot fun n hn => R.itemsOk.names x hx n (mem_of_append_eq hqx n hn)).1 h0)

theorem rel_names (R : SealedRun env t o h ws) {x : RelPath × Bool} (hx : x ∈ visiblePaths (cHit env h o) t) :
    (∀ s ∈ (route h x.1).2, NameOk s) ∧ (route h x.1).1.root ++ (route h x.1).2 = x.1 :=
  ⟨fun s hs => (visible_names_ok _ t R.namesOk _ hx).2 s (mem_of_append_eq (owner_append R.histOK.root x.1) s hs),
    owner_append R.histOK.root x.1⟩

/-- THE RECORD OF A VISIBLE FILE: the history that owns it wrote; its new generation finds, under the file's name in
that history, a file record whose entries are those `sealEntries` returns against the owner's older generations -/
theorem new_record (R : SealedRun env t o h ws) {p : RelPath} (hp : (p, false) ∈ visiblePaths (cHit env h o) t) :
    ∃ w ∈ ws, ∃ r, w.histRoot = (owner_u h p).root ∧
      (owner_u (addWritten ws h) p).gens = (owner_u h p).gens ++ [⟨w.number, w.gen⟩] ∧
      ownerRel (addWritten ws h) p = ownerRel h p ∧
      w.gen.Clean ∧ w.gen.find (ownerRel h p) = some r ∧ r ∈ w.gen.records ∧ r.path = ownerRel h p ∧
      r.isDir = false ∧
      r.entries.Perm ((sealEntries (owner_u h p).gens (ownerRel h p)
        (fun f => env.H f (fileContent t p)) (isort strLe o.formats)).1.map relabel) := by
  obtain ⟨w, hw, hwroot, r, hr, hpath, hdir, -, -, hents⟩ :=
    (R.sinv.written R.histOK R.itemsOk R.commit).2.2.1 p ((mem_recItems _ t _).2 (Or.inl hp))
      (sealEntries_ne_nil _ _ _ _ (isort_ne_nil_of_ne_nil strLe R.formats))
  obtain ⟨hclean, hnd⟩ := R.clean hw
  have hfind := Generation.find_of_mem hnd (fun x hx => (hclean x hx).1) hr
  rw [hpath] at hfind
  refine ⟨w, hw, r, hwroot, R.owner_gens hw hwroot, ?_, hclean, hfind, hr, hpath, hdir, hents⟩
  unfold ownerRel
  rw [route_addWritten]

/-! ### what the sealed history expects, and what it has no record of -/

theorem record_visible (R : SealedRun env t o h ws) {w : Written} (hw : w ∈ ws) {r : Record}
    (hr : r ∈ w.gen.records) : ∃ d, (w.histRoot ++ splitPath r.path, d) ∈ visiblePaths (cHit env h o) t := by
  obtain ⟨x, hx, hden, -, -⟩ := written_sound env t o h R.load R.distinct R.namesOk ws R.commit w hw r hr
  exact ⟨x.2, by rw [hden]; exact hx⟩

theorem expected_sound (R : SealedRun env t o h ws) {p : RelPath} (hp : p ∈ expectedPaths (addWritten ws h)) :
    p ∈ expectedPaths h ∨ ∃ d, (p, d) ∈ visiblePaths (cHit env h o) t := by
  rcases mem_expectedPaths_addWritten ws R.nodup h p hp with hold | ⟨w, hw, r, hr, rfl⟩
  · exact Or.inl hold
  · exact Or.inr (R.record_visible hw hr)

theorem file_expected (R : SealedRun env t o h ws) {p : RelPath} (hp : (p, false) ∈ visiblePaths (cHit env h o) t) :
    p ∈ expectedPaths (addWritten ws h) := by
  obtain ⟨w, hw, r, hwroot, -, -, -, -, hr, hpath, -, -⟩ := R.new_record hp
  have := expected_of_written ws R.nodup h w hw (owner_u h p) (route_mem R.histOK.root p) hwroot.symm r hr
  obtain ⟨hnames, happ⟩ := R.rel_names hp
  rwa [hpath, ownerRel, splitPath_posix hnames, hwroot, show (owner_u h p).root ++ (route h p).2 = p from happ] at this

/-- a path that is not on disk at the time of the run, without a record in the older generations of the history that
owns it, has no record afterwards: the new generations only record what the run saw -/
theorem unrecorded_after (R : SealedRun env t o h ws) {q : RelPath} (hne : q ≠ []) (hnames : ∀ s ∈ q, NameOk s)
    (hfresh : t.at? q = none) (hnew : Unrecorded h q) : Unrecorded (addWritten ws h) q := by
  have hg := R.histOK
  unfold Unrecorded owner_u ownerRel
  rw [route_addWritten, addWritten_gens]
  intro g hgm
  rcases List.mem_append.1 hgm with hgo | hgn
  · exact hnew g hgo
  · unfold newGens at hgn
    obtain ⟨w, hwf, rfl⟩ := List.mem_map.1 hgn
    obtain ⟨hw, hwroot⟩ := List.mem_filter.1 hwf
    have hwroot : w.histRoot = (route h q).1.root := by simpa using hwroot
    have happ : (route h q).1.root ++ (route h q).2 = q := owner_append hg.root q
    have hrelnames : ∀ s ∈ (route h q).2, NameOk s := fun s hs => hnames s (mem_of_append_eq happ s hs)
    have hrelne : (route h q).2 ≠ [] := by
      intro h0
      rcases (relOf_nil hg.root h0).2 with h1 | ⟨c, hc, hcr⟩
      · exact hne h1
      · obtain ⟨-, n, hn, -⟩ := hg.isDir c hc
        rw [hcr, hfresh] at hn
        cases hn
    have hdot : posix (route h q).2 ≠ "." := fun h0 => hrelne ((posix_eq_dot hrelnames).1 h0)
    show w.gen.find (posix (route h q).2) = none
    cases hf : w.gen.find (posix (route h q).2) with
    | none => rfl
    | some r =>
      obtain ⟨hr, hpath⟩ := Generation.find_clean (R.clean hw).1 hdot hf
      obtain ⟨d, hv⟩ := R.record_visible hw hr
      rw [hpath, splitPath_posix hrelnames, hwroot, happ] at hv
      obtain ⟨n, hn, -⟩ := MhlProps.C02.visible_on_disk _ t R.distinct q d hv
      rw [hfresh] at hn
      cases hn

end SealedRun

/-! ### the invariant of `create` holds again; the sealed history records the tree -/

/-- the format of the entry a file is compared with -/
def origFmt (H : Hist) (q : RelPath) : String :=
  ((findOriginal (owner_u H q).gens (ownerRel H q)).map (·.fmt)).getD ""

namespace SealedRun
variable {env : Env} {t : Node} {o : CreateOpts} {h : Hist} {ws : List Written}

/-- EVERY FILE THE RUN SAW IS RECORDED CONSISTENTLY in the sealed history, provided it was unaltered and, in the older
generations of its owner, unrecorded or recorded with an original reference entry -/
theorem file_recorded (R : SealedRun env t o h ws) (hcons : AllConsistent env t h o) {p : RelPath}
    (hp : (p, false) ∈ visiblePaths (cHit env h o) t)
    (hold : Unrecorded h p ∨ RecordedOriginal (owner_u h p).gens (ownerRel h p)) :
    RecordedConsistent env (applyWritten t ws) (addWritten ws h) p := by
  obtain ⟨w, hw, r, -, hgens, hrel, hclean, hfind, -, -, -, hents⟩ := R.new_record hp
  unfold RecordedConsistent OwnerFirstOk
  rw [hrel, hgens, (sameFilesDh_applyWritten t ws).fileContent p]
  exact recorded_append _ _ _ _ _ r (isort_ne_nil_of_ne_nil strLe R.formats) (fun x hx => (hclean x hx).1) hfind hents
    ((consistent_iff env t h p).1 (hcons p hp)) hold

/-- how verify / diff judge a file the run saw, on ANY tree: against the original entry of its owner history, which
carries the digest of the content at the time of the run -/
theorem judge (R : SealedRun env t o h ws) (hcons : AllConsistent env t h o) {q : RelPath}
    (hq : (q, false) ∈ visiblePaths (cHit env h o) t)
    (hold : Unrecorded h q ∨ RecordedOriginal (owner_u h q).gens (ownerRel h q)) (T : Node) (hashing : Bool) :
    ∃ e, findOriginal (owner_u (addWritten ws h) q).gens (ownerRel (addWritten ws h) q) = some e ∧
      e.action = "original" ∧ e.digest = env.H e.fmt (fileContent t q) ∧
      judgeFile env T (addWritten ws h) hashing q =
        if hashing && env.H e.fmt (fileContent T q) != e.digest then .mismatch else .ok := by
  obtain ⟨hrec, hfirst⟩ := R.file_recorded hcons hq hold
  obtain ⟨e, ho, ha, hd⟩ := original_of_recorded hrec hfirst
  rw [(sameFilesDh_applyWritten t ws).fileContent q] at hd
  exact ⟨e, ho, ha, hd, judgeFile_of_original rfl hrec.1 ho T hashing⟩

/-- THE SEALED HISTORY RECORDS THE TREE (first seal or reseal, any nesting) -/
theorem snapshot (R : SealedRun env t o h ws) (hcons : AllConsistent env t h o)
    (hshape : ∀ p, (p, false) ∈ visiblePaths (cHit env h o) t →
      Unrecorded h p ∨ RecordedOriginal (owner_u h p).gens (ownerRel h p))
    (hexp : ExpectedPresent env t h o) :
    Snapshot env (addWritten ws h) (cHit env h o) t (origFmt (addWritten ws h)) where
  gens := R.gens_ne
  matcher := R.matcher
  distinct := R.distinct
  judge := fun T hashing q hq => by
    obtain ⟨e, he, -, hd, hj⟩ := R.judge hcons hq (hshape q hq) T hashing
    rw [hj, origFmt, he, hd]
    rfl
  expected := fun p hp => (R.expected_sound hp).elim (hexp p) Or.inl

theorem verify_ok (R : SealedRun env t o h ws) (hcons : AllConsistent env t h o)
    (hshape : ∀ p, (p, false) ∈ visiblePaths (cHit env h o) t →
      Unrecorded h p ∨ RecordedOriginal (owner_u h p).gens (ownerRel h p))
    (hexp : ExpectedPresent env t h o) (hashing : Bool) :
    (verifyOrDiff env (applyWritten t ws) {} hashing none).err = none ∧
    (verifyOrDiff env (applyWritten t ws) {} hashing none).exitCode = 0 ∧
    (verifyOrDiff env (applyWritten t ws) {} hashing none).report.mismatch = [] ∧
    (verifyOrDiff env (applyWritten t ws) {} hashing none).report.new = [] ∧
    (verifyOrDiff env (applyWritten t ws) {} hashing none).report.missing = [] :=
  (R.snapshot hcons hshape hexp).unchanged _ none hashing R.reload
    (fun x => by rw [(sameFilesDh_applyWritten t ws).visiblePaths]) fun q _ _ => by
      rw [(sameFilesDh_applyWritten t ws).fileContent]

end SealedRun

end MhlModel
