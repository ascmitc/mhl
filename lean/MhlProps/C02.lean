/-
C02 — A sealed generation records exactly the tree that is on disk.

About `MhlModel.traverse` / `traverseKids` / `visiblePaths` (ascmhl/traverse.py `post_order_lexicographic`), the
enumeration through which create, verify, verify -dh and diff see the tree.  `hit p` says whether the root-relative
path `p` is matched by the ignore patterns; nothing is assumed about it.

`Node.paths here t` (MhlProps/Proofs/TraverseLemmas.lean) lists every proper descendant of `t` as (path, is_dir),
`here` being the path of `t` itself; `Node.mem_paths_iff_at` ties it to the model's own lookup `Node.at?`.
-/
import MhlProps.Proofs.TraverseLemmas

namespace MhlProps.C02
open MhlModel

/-! ### 1. `isort` only reorders -/

/-- the statement of `MhlModel.isort_perm` (ListLemmas), under the name the property is claimed by -/
theorem isort_perm {α : Type} (le : α → α → Bool) (l : List α) : (isort le l).Perm l :=
  MhlModel.isort_perm le l

/-- the statement of `MhlModel.mem_isort` (ListLemmas), under the name the property is claimed by -/
theorem mem_isort {α : Type} (le : α → α → Bool) (l : List α) (x : α) : x ∈ isort le l ↔ x ∈ l :=
  MhlModel.mem_isort le l x

/-! ### 2. visited = in the tree, and neither the entry nor an ancestor below the root is ignored -/

/-- general starting path: the traversal of the node whose own path is `here` yields exactly the descendants none of
whose path prefixes strictly longer than `here` is ignored (the statement of `mem_visFrom_iff`, TraverseLemmas, which
carries the proof) -/
theorem visible_iff_from (hit : RelPath → Bool) (t : Node) (here p : RelPath) (d : Bool) :
    (p, d) ∈ visFrom hit here t ↔
      (p, d) ∈ Node.paths here t ∧ ∀ k, here.length < k → k ≤ p.length → hit (p.take k) = false :=
  mem_visFrom_iff hit t here p d

theorem visible_iff (hit : RelPath → Bool) (t : Node) (p : RelPath) (d : Bool) :
    (p, d) ∈ visiblePaths hit t ↔
      (p, d) ∈ Node.paths [] t ∧ ∀ k, 0 < k → k ≤ p.length → hit (p.take k) = false := by
  rw [visiblePaths_eq]
  exact mem_visFrom_iff hit t [] p d

/-- the same with the model's own lookup in place of `Node.paths`, for trees a file system can hold (sibling names
distinct): the records are exactly the entries on disk that the ignore patterns do not exclude -/
theorem visible_iff_at (hit : RelPath → Bool) (t : Node) (hd : t.NamesDistinct) (p : RelPath) (d : Bool) :
    (p, d) ∈ visiblePaths hit t ↔
      (p ≠ [] ∧ ∃ c, t.at? p = some c ∧ c.isDir = d) ∧
        ∀ k, 0 < k → k ≤ p.length → hit (p.take k) = false := by
  rw [visible_iff]
  have := Node.mem_paths_iff_at t [] p d hd
  simp only [List.nil_append] at this
  rw [this]

/-! ### 3. paths are relative to the root and made of names of nodes of the tree -/

theorem visible_relative (hit : RelPath → Bool) (t : Node) (p : RelPath) (d : Bool)
    (h : (p, d) ∈ visiblePaths hit t) :
    (p, d) ∈ Node.paths [] t ∧ p ≠ [] ∧ ∀ s ∈ p, s ∈ t.descNames := by
  have hp := ((visible_iff hit t p d).1 h).1
  obtain ⟨q, hq, hne, hs⟩ := Node.paths_shape t [] p d hp
  simp only [List.nil_append] at hq
  subst hq
  exact ⟨hp, hne, hs⟩

/-- no `..` component (nor any other name) unless a node of the tree is literally named so -/
theorem visible_no_foreign_component (hit : RelPath → Bool) (t : Node) (p : RelPath) (d : Bool) (s : String)
    (hs : s ∉ t.descNames) (h : (p, d) ∈ visiblePaths hit t) : s ∉ p :=
  fun hm => hs ((visible_relative hit t p d h).2.2 s hm)

/-- every visited path resolves in the tree, to a node of the recorded kind -/
theorem visible_on_disk (hit : RelPath → Bool) (t : Node) (hd : t.NamesDistinct) (p : RelPath) (d : Bool)
    (h : (p, d) ∈ visiblePaths hit t) : ∃ c, t.at? p = some c ∧ c.isDir = d :=
  ((visible_iff_at hit t hd p d).1 h).1.2

/-! ### 4. each entry is visited once -/

theorem visible_nodup (hit : RelPath → Bool) (t : Node) (hd : t.NamesDistinct) :
    (visiblePaths hit t).Nodup := by
  rw [visiblePaths_eq]
  exact nodup_visFrom hit t [] hd

/-! ### 5. nothing at or below an ignored path is visited -/

theorem ignored_nowhere (hit : RelPath → Bool) (t : Node) (p : RelPath) (d : Bool) (k : Nat)
    (hk0 : 0 < k) (hk : k ≤ p.length) (hh : hit (p.take k) = true) : (p, d) ∉ visiblePaths hit t := by
  intro h
  have := ((visible_iff hit t p d).1 h).2 k hk0 hk
  rw [hh] at this
  exact Bool.noConfusion this

/-- the same for the raw visits (what `verify -dh` and `diff` fold over): no visit of an ignored folder or of a
folder below one, and no ignored name among the children of a visit -/
theorem ignored_no_child (hit : RelPath → Bool) (t : Node) (v : Visit) (c : String × Bool)
    (hv : v ∈ traverse hit [] t) (hc : c ∈ v.children) :
    ∀ k, 0 < k → k ≤ v.folder.length + 1 → hit ((v.folder ++ [c.1]).take k) = false := by
  intro k hk0 hk
  exact ((visible_iff hit t _ _).1 (mem_visible_of_visit hv hc)).2 k hk0 (by simpa using hk)

/-! ### 6. post-order -/

/-- the last visit is the one of the directory itself, listing its visible children in sorted order -/
theorem traverse_last (hit : RelPath → Bool) (here : RelPath) (n : String) (cs : List Node)
    (h : Option HistStore) :
    (traverse hit here (.dir n cs h)).getLast? =
      some ⟨here, ((isort (fun a b => strLe a.name b.name) (traverseKids hit here cs)).filter
        (fun k => !hit (here ++ [k.name]))).map fun k => (k.name, k.isDir)⟩ := by
  simp [traverse]

/-- which children the visit of a directory lists: those not ignored -/
theorem traverse_last_children (hit : RelPath → Bool) (here : RelPath) (n : String) (cs : List Node)
    (h : Option HistStore) (v : Visit) (hv : (traverse hit here (.dir n cs h)).getLast? = some v)
    (nm : String) (d : Bool) :
    v.folder = here ∧
      ((nm, d) ∈ v.children ↔ ∃ c ∈ cs, c.name = nm ∧ c.isDir = d ∧ hit (here ++ [nm]) = false) := by
  rw [traverse_dir] at hv
  simp only [List.getLast?_append, List.getLast?_singleton, Option.some_or, Option.some.injEq] at hv
  subst hv
  refine ⟨rfl, ?_⟩
  simp only [List.mem_map, mem_visKids, Prod.mk.injEq]
  constructor
  · rintro ⟨k, ⟨c, hc, hh, rfl⟩, rfl, rfl⟩
    exact ⟨c, hc, rfl, rfl, hh⟩
  · rintro ⟨c, hc, rfl, rfl, hh⟩
    exact ⟨_, ⟨c, hc, hh, rfl⟩, rfl, rfl⟩

/-- everything before the last visit belongs to a visible child: its folder is strictly below `here` -/
theorem traverse_front (hit : RelPath → Bool) (here : RelPath) (n : String) (cs : List Node)
    (h : Option HistStore) (v : Visit) (hv : v ∈ (traverse hit here (.dir n cs h)).dropLast) :
    ∃ c ∈ cs, hit (here ++ [c.name]) = false ∧ ∃ q, v.folder = here ++ c.name :: q := by
  rw [traverse_dir, List.dropLast_concat] at hv
  obtain ⟨k, hk, hv⟩ := List.mem_flatMap.1 hv
  obtain ⟨q, hq⟩ := kid_visit_shape hk hv
  obtain ⟨c, hc, hh, rfl⟩ := (mem_visKids _ _ _ _).1 hk
  exact ⟨c, hc, hh, q, hq⟩

/-- the whole traversal of each visible child is a contiguous block before the visit of the directory -/
theorem traverse_child_infix (hit : RelPath → Bool) (here : RelPath) (n : String) (cs : List Node)
    (h : Option HistStore) (c : Node) (hc : c ∈ cs) (hh : hit (here ++ [c.name]) = false) :
    traverse hit (here ++ [c.name]) c <:+: (traverse hit here (.dir n cs h)).dropLast := by
  rw [traverse_dir, List.dropLast_concat]
  have hk : kidOf hit here c ∈ visKids hit here cs := (mem_visKids _ _ _ _).2 ⟨c, hc, hh, rfl⟩
  exact infix_flatMap_of_mem (f := (·.visits)) hk

/-- post-order, for trees with distinct sibling names: a visit is never followed by the visit of a folder at or
below its own, i.e. every directory is visited exactly once and after all its visible sub-directories (the statement
of `traverse_pairwise`, TraverseLemmas, which carries the proof) -/
theorem traverse_postorder (hit : RelPath → Bool) (here : RelPath) (t : Node) (hd : t.NamesDistinct) :
    (traverse hit here t).Pairwise (fun v w => ¬ v.folder <+: w.folder) :=
  traverse_pairwise hit t here hd

/-- the hypothesis of `traverse_postorder` is needed: with two siblings of the same name (which no file system
holds) the model visits `a` and later `a/x` -/
theorem traverse_postorder_needs_distinct :
    ¬ (traverse (fun _ => false) []
        (.dir "" [.dir "a" [] none, .dir "a" [.dir "x" [] none] none] none)).Pairwise
        (fun v w => ¬ v.folder <+: w.folder) := by
  decide +kernel

/-! ### non-vacuity -/

/-- a tree with an ignored file, an ignored directory with content, an empty directory and a nested one -/
def exTree : Node :=
  .dir "root"
    [ .file "b.txt" [1],
      .dir "sub" [.file "x" [], .dir ".git" [.file "cfg" []] none, .dir "deep" [.file "y" [2]] none] none,
      .dir "A" [] none,
      .file ".DS_Store" [] ] none

def exHit (p : RelPath) : Bool := p.getLast? == some ".DS_Store" || p.getLast? == some ".git"

example : visiblePaths exHit exTree =
    [ (["sub", "deep", "y"], false),
      (["sub", "deep"], true), (["sub", "x"], false),
      (["A"], true), (["b.txt"], false), (["sub"], true) ] := by decide +kernel

example : exTree.NamesDistinct := by
  simp [exTree, Node.NamesDistinct, Node.NamesDistinctKids, Node.name]

example : (["sub", ".git", "cfg"], false) ∈ Node.paths [] exTree := by decide +kernel

/-- `ignored_nowhere` applies with `k = 2`: the file is in the tree but below an ignored directory -/
example : (["sub", ".git", "cfg"], false) ∉ visiblePaths exHit exTree :=
  ignored_nowhere exHit exTree _ _ 2 (by decide +kernel) (by decide +kernel) (by decide +kernel)

/-- the right-hand side of `visible_iff` holds for a nested file -/
example : (["sub", "deep", "y"], false) ∈ Node.paths [] exTree ∧
    ∀ k, 0 < k → k ≤ 3 → exHit ((["sub", "deep", "y"] : RelPath).take k) = false := by
  refine ⟨by decide +kernel, fun k h0 h3 => ?_⟩
  have : k = 1 ∨ k = 2 ∨ k = 3 := by omega
  rcases this with rfl | rfl | rfl <;> decide +kernel

example : (traverse exHit [] exTree).map (·.folder) = [["A"], ["sub", "deep"], ["sub"], []] := by decide +kernel

end MhlProps.C02
