/-
C19 — `info` reports the recorded history truthfully.

`info` lists, for the history at the root and every nested history (pre-order, children in discovery order), one line
per generation in ascending generation order; `info -sf FILE` lists, generation by generation, exactly the digests
recorded for the file in its NEAREST ENCLOSING history (the root history or a nested one: `ownerHist`, the model of
`find_history_for_path`), looked up under the path relative to that history's root.  Without any generation at the
root both end with 30.

`info_spec`, `infoSingleFile_spec`: each command in one equation over `loadHistory`; everything else reads these two.
The listing itself: `infoLines_spec` / `infoLines_eq` (a history's own lines, then its children's listings) and the
closed form `infoLines_flat` (history by history in pre-order).

`info -sf` (DESIGN.md §8, D18) answers from `ownerHist h f` under `f.drop (ownerHist h f).root.length`.
The owner is a loaded history whose root lies on the path; on a well-formed tree of histories (`Hist.WF`) it is the
deepest such history (`ownerHist_deepest`), and the loader builds well-formed trees of histories when sibling names
are distinct (`loadHistory_WF`; without that it is FALSE, `loadHistory_WF_needs_names`).  The `_root`, `_no_nested`,
`_flat` forms speak of the root history and the path `f` itself, the case `ownerHist h f = h`.
Helper lemmas: the last part of MhlProps/Proofs/HistLemmas.lean.
-/
import MhlProps.C06
import MhlProps.Proofs.HistLemmas

namespace MhlProps.C19
open MhlModel

/-! ### the two commands, each in one equation -/

def ownLines (x : Hist) : List (RelPath × Nat) := x.gens.map fun g => (x.root, g.number)

def recordEntries (g : LGen) (path : String) : List Entry :=
  match g.gen.find path with
  | none => []
  | some r => r.entries

/-- the lines `info -sf` prints for the path text `sp` over the generations `gens` -/
def _root_.MhlModel.sfLines (gens : List LGen) (sp : String) : List (Nat × String × String × String) :=
  gens.flatMap fun g => (recordEntries g sp).map fun e => (g.number, e.fmt, e.digest, e.action)

theorem info_spec (t : Node) :
    info t = match loadHistory t with
      | .error e => .error e
      | .ok h => if h.gens = [] then .error errNoHistory else .ok (infoLines h) := by
  unfold info
  cases loadHistory t with
  | error e => rfl
  | ok h => cases hg : h.gens <;> simp [hg, bind, Except.bind, pure, Except.pure, throw, throwThe, MonadExceptOf.throw]

theorem infoSingleFile_spec (t : Node) (f : RelPath) :
    infoSingleFile t f = match loadHistory t with
      | .error e => .error e
      | .ok h => if h.gens = [] then .error errNoHistory
          else .ok (sfLines (ownerHist h f).gens (posix (f.drop (ownerHist h f).root.length))) := by
  unfold infoSingleFile
  cases loadHistory t with
  | error e => rfl
  | ok h =>
    cases hg : h.gens with
    | nil => simp [hg, bind, Except.bind, throw, throwThe, MonadExceptOf.throw]
    | cons g gs =>
      simp only [hg, bind, Except.bind, pure, Except.pure, List.isEmpty_cons, Bool.false_eq_true, if_false,
        reduceCtorEq]
      congr 2
      funext g
      unfold recordEntries
      cases g.gen.find (posix (f.drop (ownerHist h f).root.length)) <;> rfl

theorem info_no_history (t : Node) (h : Hist) (f : RelPath) (hl : loadHistory t = .ok h) (hg : h.gens = []) :
    info t = .error errNoHistory ∧ infoSingleFile t f = .error errNoHistory := by
  rw [info_spec, infoSingleFile_spec, hl]
  exact ⟨if_pos hg, if_pos hg⟩

/-! ### `info` -/

theorem info_lines (t : Node) (h : Hist) (hl : loadHistory t = .ok h) (hg : h.gens ≠ []) :
    info t = .ok (infoLines h) := by
  rw [info_spec, hl]
  exact if_neg hg

theorem infoLinesList_eq (cs : List Hist) : infoLinesList cs = cs.flatMap infoLines := by
  induction cs with
  | nil => simp [infoLinesList]
  | cons c cs ih => simp [infoLinesList, ih]

theorem infoLines_spec (r : RelPath) (gens : List LGen) (c : List ChainEntry) (e : Bool) (cs : List Hist) :
    infoLines (.mk r gens c e cs) = gens.map (fun g => (r, g.number)) ++ cs.flatMap infoLines := by
  rw [infoLines, infoLinesList_eq]

theorem ownLines_fst (x : Hist) : ∀ l ∈ ownLines x, l.1 = x.root := by
  intro l hl
  obtain ⟨g, -, rfl⟩ := List.mem_map.1 hl
  rfl

theorem ownLines_snd (x : Hist) : (ownLines x).map (·.2) = x.gens.map (·.number) := by
  simp [ownLines, List.map_map, Function.comp_def]

theorem infoLines_eq (x : Hist) : infoLines x = ownLines x ++ x.children.flatMap infoLines := by
  cases x with
  | mk r gens c e cs => exact infoLines_spec r gens c e cs

theorem infoLines_flat (h : Hist) : infoLines h = (h :: allDescendants h).flatMap ownLines := by
  induction h using Hist.induct with
  | mk r g c e cs ih =>
    rw [infoLines_eq, allDescendants_eq, List.flatMap_cons, List.flatMap_assoc]
    exact congrArg _ (List.flatMap_congr ih)

theorem infoLinesList_flat : (cs : List Hist) → infoLinesList cs = (descList cs).flatMap ownLines := fun cs => by
  rw [infoLinesList_eq, descList_eq, List.flatMap_assoc]
  exact List.flatMap_congr fun c _ => infoLines_flat c

/-- the statement of `infoLines_flat` with `ownLines` unfolded -/
theorem infoLines_eq_flatMap (h : Hist) :
    infoLines h = (h :: allDescendants h).flatMap fun x => x.gens.map fun g => (x.root, g.number) :=
  infoLines_flat h

theorem mem_infoLines (h : Hist) (p : RelPath) (n : Nat) :
    (p, n) ∈ infoLines h ↔ ∃ x ∈ h :: allDescendants h, x.root = p ∧ ∃ g ∈ x.gens, g.number = n := by
  rw [infoLines_flat]
  simp only [List.mem_flatMap, ownLines, List.mem_map, Prod.mk.injEq]
  constructor
  · rintro ⟨x, hx, g, hg, rfl, rfl⟩; exact ⟨x, hx, rfl, g, hg, rfl⟩
  · rintro ⟨x, hx, rfl, g, hg, rfl⟩; exact ⟨x, hx, g, hg, rfl, rfl⟩

theorem infoLines_length (h : Hist) :
    (infoLines h).length = ((h :: allDescendants h).map fun x => x.gens.length).sum := by
  rw [infoLines_flat, List.length_flatMap]
  simp [ownLines]

theorem info_root_lines_sorted (t : Node) (h : Hist) (hl : loadHistory t = .ok h) :
    (h.gens.map (·.number)).Pairwise (· ≤ ·) := by
  rw [loaded_gens_eq t h hl]
  cases t.hist with
  | none => exact List.Pairwise.nil
  | some s => exact MhlProps.C06.loadGens_sorted s

/-! ### `info -sf` -/

theorem mem_sfLines (gens : List LGen) (sp : String) (ℓ : Nat × String × String × String) :
    ℓ ∈ sfLines gens sp ↔ ∃ g ∈ gens, ∃ r, g.gen.find sp = some r ∧ ∃ e ∈ r.entries,
      ℓ = (g.number, e.fmt, e.digest, e.action) := by
  simp only [sfLines, List.mem_flatMap, List.mem_map]
  constructor
  · rintro ⟨g, hg, e, he, rfl⟩
    unfold recordEntries at he
    cases hf : g.gen.find sp with
    | none => simp [hf] at he
    | some r => simp only [hf] at he; exact ⟨g, hg, r, hf, e, he, rfl⟩
  · rintro ⟨g, hg, r, hf, e, he, rfl⟩
    exact ⟨g, hg, e, by simp [recordEntries, hf, he], rfl⟩

theorem sfLines_sorted (gens : List LGen) (sp : String) (hs : (gens.map (·.number)).Pairwise (· ≤ ·)) :
    ((sfLines gens sp).map (·.1)).Pairwise (· ≤ ·) := by
  rw [List.pairwise_map] at hs ⊢
  unfold sfLines
  rw [List.pairwise_flatMap]
  constructor
  · intro g _
    rw [List.pairwise_map]
    exact List.pairwise_of_forall (fun _ _ => Nat.le_refl _)
  · refine hs.imp ?_
    intro a b hab x hx y hy
    obtain ⟨_, _, rfl⟩ := List.mem_map.1 hx
    obtain ⟨_, _, rfl⟩ := List.mem_map.1 hy
    exact hab

theorem sfLines_append (a b : List LGen) (sp : String) : sfLines (a ++ b) sp = sfLines a sp ++ sfLines b sp := by
  simp [sfLines, List.flatMap_append]

theorem sfLines_single (g : LGen) (sp : String) :
    sfLines [g] sp = (recordEntries g sp).map fun e => (g.number, e.fmt, e.digest, e.action) := by
  simp [sfLines]

/-! #### the nearest enclosing history (`ownerHist`)

`ownerHist_root_prefix`, `ownerHist_mem`, `ownerHist_deepest` and `loadHistory_WF` are the statements of the primed
lemmas of the same names in Proofs/HistLemmas.lean, which carry the proofs. -/

theorem ownerHist_root_prefix (h : Hist) (p : RelPath) (hp : h.root <+: p) : (ownerHist h p).root <+: p :=
  ownerHist_root_prefix' h p hp

theorem ownerHist_split (t : Node) (h : Hist) (hl : loadHistory t = .ok h) (f : RelPath) :
    (ownerHist h f).root <+: f ∧ (ownerHist h f).root ++ f.drop (ownerHist h f).root.length = f := by
  have hp : (ownerHist h f).root <+: f :=
    ownerHist_root_prefix h f (by rw [loadHistory_root t h hl]; exact List.nil_prefix)
  exact ⟨hp, List.prefix_iff_eq_append.1 hp⟩

theorem ownerHist_mem (h : Hist) (p : RelPath) : ownerHist h p ∈ allHists h := ownerHist_mem' h p

/-- NEAREST ENCLOSING: in a well-formed tree of histories (`Hist.WF`: every child rooted properly below its parent,
sibling roots not prefixes of one another, hereditarily) no history whose root lies on the path has a longer root
than the owner -/
theorem ownerHist_deepest (h : Hist) (p : RelPath) (hw : h.WF) :
    ∀ k ∈ allHists h, k.root <+: p → k.root.length ≤ (ownerHist h p).root.length :=
  ownerHist_deepest' h p hw

/-- what the loader builds is well formed, provided the names of the children of every directory of the tree are
pairwise distinct (`Node.NoDupNames`, the project's `Node.NamesDistinct`).

The statement WITHOUT the hypothesis on the names, `loadHistory t = .ok h → h.WF`, is FALSE of the model: two sibling
folders with the same name that both hold an `ascmhl` folder load as two sibling histories with the same root
(`loadHistory_WF_needs_names` below).  A real file system has no such siblings. -/
theorem loadHistory_WF (t : Node) (h : Hist) (hl : loadHistory t = .ok h) (hd : t.NoDupNames) : h.WF :=
  histOK_WF (loadHistory_histOK t h hl hd)

def dupNamesTree : Node := .dir "root" [.dir "A" [] (some {}), .dir "A" [] (some {})] none

theorem loadHistory_WF_needs_names : ∃ t h, loadHistory t = .ok h ∧ ¬ t.NoDupNames ∧ ¬ h.WF := by
  cases hl : loadHistory dupNamesTree with
  | error e =>
    have : (match loadHistory dupNamesTree with | .ok _ => true | .error _ => false) = true := by decide +kernel
    rw [hl] at this
    cases this
  | ok h =>
    refine ⟨dupNamesTree, h, hl, ?_, ?_⟩
    · simp [dupNamesTree, Node.NoDupNames, Node.NamesDistinct, Node.NamesDistinctKids, Node.name]
    · intro hw
      have hp := (hw h (self_mem_allHists h)).2
      have hr : h.children.map (·.root) = [["A"], ["A"]] := by
        have : (loadHistory dupNamesTree).map (fun h => h.children.map (·.root)) = .ok [["A"], ["A"]] := by
          decide +kernel
        rw [hl] at this
        simpa [Except.map] using this
      have hp' : (h.children.map (·.root)).Pairwise (fun a b => ¬ a <+: b ∧ ¬ b <+: a) := by
        rw [List.pairwise_map]
        exact hp
      rw [hr] at hp'
      simp at hp'

/-! #### the lines -/

/-- generation by generation, the entries of the record of the file as (number, format, digest, action) — nothing
added, nothing dropped.

The generations are those of the NEAREST ENCLOSING history of the file, `ownerHist h f`, and the record is looked up
under the path relative to that history's root, `f.drop (ownerHist h f).root.length` (DESIGN.md §8, D18).  When no
nested history lies on the path this is the root history and the path itself: `infoSingleFile_lines_root`,
`infoSingleFile_lines_flat`. -/
theorem infoSingleFile_lines (t : Node) (h : Hist) (f : RelPath) (hl : loadHistory t = .ok h) (hg : h.gens ≠ []) :
    infoSingleFile t f = .ok ((ownerHist h f).gens.flatMap fun g =>
      (recordEntries g (posix (f.drop (ownerHist h f).root.length))).map fun e =>
        (g.number, e.fmt, e.digest, e.action)) := by
  rw [infoSingleFile_spec, hl]
  exact if_neg hg

/-- the statement of `infoSingleFile_lines` with `sfLines` for its body -/
theorem infoSingleFile_nearest (t : Node) (h : Hist) (f : RelPath) (hl : loadHistory t = .ok h) (hg : h.gens ≠ []) :
    infoSingleFile t f = .ok (sfLines (ownerHist h f).gens (posix (f.drop (ownerHist h f).root.length))) :=
  infoSingleFile_lines t h f hl hg

theorem infoSingleFile_nearest_spec (t : Node) (h : Hist) (f : RelPath) (hl : loadHistory t = .ok h)
    (hg : h.gens ≠ []) :
    ∃ o rel, o = ownerHist h f ∧ infoSingleFile t f = .ok (sfLines o.gens (posix rel)) ∧
      o ∈ allHists h ∧ o.root ++ rel = f ∧
      (t.NoDupNames → ∀ k ∈ allHists h, k.root <+: f → k.root.length ≤ o.root.length) :=
  ⟨_, _, rfl, infoSingleFile_nearest t h f hl hg, ownerHist_mem h f, (ownerHist_split t h hl f).2,
    fun hd => ownerHist_deepest h f (loadHistory_WF t h hl hd)⟩

theorem infoSingleFile_lines_root (t : Node) (h : Hist) (f : RelPath) (hl : loadHistory t = .ok h) (hg : h.gens ≠ [])
    (ho : ownerHist h f = h) :
    infoSingleFile t f = .ok (h.gens.flatMap fun g =>
      (recordEntries g (posix f)).map fun e => (g.number, e.fmt, e.digest, e.action)) := by
  rw [infoSingleFile_lines t h f hl hg, ho, loadHistory_root t h hl]
  rfl

theorem infoSingleFile_lines_no_nested (t : Node) (h : Hist) (f : RelPath) (hl : loadHistory t = .ok h)
    (hg : h.gens ≠ []) (hno : ∀ c ∈ h.children, ¬ c.root <+: f) :
    infoSingleFile t f = .ok (h.gens.flatMap fun g =>
      (recordEntries g (posix f)).map fun e => (g.number, e.fmt, e.digest, e.action)) :=
  infoSingleFile_lines_root t h f hl hg (ownerHist_eq_self' h f hno)

theorem infoSingleFile_lines_flat (t : Node) (h : Hist) (f : RelPath) (hl : loadHistory t = .ok h) (hg : h.gens ≠ [])
    (hc : h.children = []) : infoSingleFile t f = .ok (sfLines h.gens (posix f)) :=
  infoSingleFile_lines_root t h f hl hg (ownerHist_of_no_children h f hc)

theorem infoSingleFile_count (t : Node) (h : Hist) (f : RelPath) (ls : List (Nat × String × String × String))
    (hl : loadHistory t = .ok h) (hr : infoSingleFile t f = .ok ls) :
    ls.length = ((ownerHist h f).gens.map fun g =>
      (recordEntries g (posix (f.drop (ownerHist h f).root.length))).length).sum := by
  by_cases hg : h.gens = []
  · rw [(info_no_history t h f hl hg).2] at hr; cases hr
  · rw [infoSingleFile_lines t h f hl hg] at hr
    cases hr
    rw [List.length_flatMap]
    simp

theorem infoSingleFile_count_flat (t : Node) (h : Hist) (f : RelPath) (ls : List (Nat × String × String × String))
    (hl : loadHistory t = .ok h) (hr : infoSingleFile t f = .ok ls) (hc : h.children = []) :
    ls.length = (h.gens.map fun g => (recordEntries g (posix f)).length).sum := by
  rw [infoSingleFile_count t h f ls hl hr, ownerHist_of_no_children h f hc, loadHistory_root t h hl]
  rfl

theorem mem_infoSingleFile (t : Node) (h : Hist) (f : RelPath) (ls : List (Nat × String × String × String))
    (hl : loadHistory t = .ok h) (hr : infoSingleFile t f = .ok ls) (n : Nat) (fmt dig act : String) :
    (n, fmt, dig, act) ∈ ls ↔
      ∃ g ∈ (ownerHist h f).gens, g.number = n ∧
        ∃ r, g.gen.find (posix (f.drop (ownerHist h f).root.length)) = some r ∧
          ∃ e ∈ r.entries, e.fmt = fmt ∧ e.digest = dig ∧ e.action = act := by
  by_cases hg : h.gens = []
  · rw [(info_no_history t h f hl hg).2] at hr; cases hr
  · rw [infoSingleFile_nearest t h f hl hg] at hr
    cases hr
    rw [mem_sfLines]
    constructor
    · rintro ⟨g, hg', r, hf, e, he, h4⟩
      cases h4
      exact ⟨g, hg', rfl, r, hf, e, he, rfl, rfl, rfl⟩
    · rintro ⟨g, hg', rfl, r, hf, e, he, rfl, rfl, rfl⟩
      exact ⟨g, hg', r, hf, e, he, rfl⟩

theorem mem_infoSingleFile_flat (t : Node) (h : Hist) (f : RelPath) (ls : List (Nat × String × String × String))
    (hl : loadHistory t = .ok h) (hr : infoSingleFile t f = .ok ls) (hc : h.children = [])
    (n : Nat) (fmt dig act : String) :
    (n, fmt, dig, act) ∈ ls ↔
      ∃ g ∈ h.gens, g.number = n ∧ ∃ r, g.gen.find (posix f) = some r ∧
        ∃ e ∈ r.entries, e.fmt = fmt ∧ e.digest = dig ∧ e.action = act := by
  rw [mem_infoSingleFile t h f ls hl hr, ownerHist_of_no_children h f hc, loadHistory_root t h hl]
  rfl

/-! ### non-vacuity -/

section Examples

def g1 : Generation :=
  { fileName := "0001_root_2020-01-01_000000Z.mhl",
    records := [{ path := "a.txt", entries := [{ fmt := "md5", digest := "d1", action := "original" }] }] }
def g2 : Generation :=
  { fileName := "0002_root_2020-01-02_000000Z.mhl",
    records := [{ path := "a.txt", entries := [{ fmt := "md5", digest := "d1", action := "verified" },
                                               { fmt := "sha1", digest := "d2", action := "new" }] }] }
def gN : Generation := { fileName := "0001_card_2020-01-01_000000Z.mhl" }

/-- stored in the "wrong" order: the listing is by number -/
def sRoot : HistStore :=
  { gens := [g2, g1], chain := [⟨1, g1.fileName⟩, ⟨2, g2.fileName⟩] }
def sCard : HistStore := { gens := [gN], chain := [⟨1, gN.fileName⟩] }

def tree : Node := .dir "root" [.file "a.txt" [1], .dir "card" [] (some sCard)] (some sRoot)

def okVal {α : Type} : Except Err α → Option α
  | .ok a => some a
  | .error _ => none

theorem tree_facts : okVal (info tree) = some [([], 1), ([], 2), (["card"], 1)] ∧
    okVal (infoSingleFile tree ["a.txt"]) =
      some [(1, "md5", "d1", "original"), (2, "md5", "d1", "verified"), (2, "sha1", "d2", "new")] := by
  decide +kernel

example : okVal (info tree) = some [([], 1), ([], 2), (["card"], 1)] := tree_facts.1

example : okVal (infoSingleFile tree ["a.txt"]) =
    some [(1, "md5", "d1", "original"), (2, "md5", "d1", "verified"), (2, "sha1", "d2", "new")] :=
  tree_facts.2

/-! #### nested histories: `card` (one generation) inside the root, `card/reel` (two generations) inside `card`; every
one of the three records a file `a.txt` of its own -/

def gC1 : Generation :=
  { fileName := "0001_card_2020-01-01_000000Z.mhl",
    records := [{ path := "a.txt", entries := [{ fmt := "md5", digest := "c1", action := "original" }] },
                { path := "sub/b.txt", entries := [{ fmt := "md5", digest := "c2", action := "original" }] }] }
def gR1 : Generation :=
  { fileName := "0001_reel_2020-01-01_000000Z.mhl",
    records := [{ path := "a.txt", entries := [{ fmt := "xxh64", digest := "r1", action := "original" }] }] }
def gR2 : Generation :=
  { fileName := "0002_reel_2020-01-02_000000Z.mhl",
    records := [{ path := "a.txt", entries := [{ fmt := "xxh64", digest := "r1", action := "verified" }] }] }
def sCardN : HistStore := { gens := [gC1], chain := [⟨1, gC1.fileName⟩] }
def sReel : HistStore := { gens := [gR1, gR2], chain := [⟨1, gR1.fileName⟩, ⟨2, gR2.fileName⟩] }

def treeN : Node :=
  .dir "root" [.file "a.txt" [1],
               .dir "card" [.file "a.txt" [2], .dir "sub" [.file "b.txt" [3]] none,
                            .dir "reel" [.file "a.txt" [4]] (some sReel)] (some sCardN)] (some sRoot)

/-- what is evaluated on `treeN`: the listing and the files of `card`; then the root, two levels down and the owners
(the kernel loads the history once per declaration; more than three such equations exceed the default size of
instance synthesis) -/
theorem treeN_card :
    okVal (info treeN) =
      some [([], 1), ([], 2), (["card"], 1), (["card", "reel"], 1), (["card", "reel"], 2)] ∧
    okVal (infoSingleFile treeN ["card", "a.txt"]) = some [(1, "md5", "c1", "original")] ∧
    okVal (infoSingleFile treeN ["card", "sub", "b.txt"]) = some [(1, "md5", "c2", "original")] := by decide +kernel

theorem treeN_levels :
    okVal (infoSingleFile treeN ["a.txt"]) =
      some [(1, "md5", "d1", "original"), (2, "md5", "d1", "verified"), (2, "sha1", "d2", "new")] ∧
    okVal (infoSingleFile treeN ["card", "reel", "a.txt"]) =
      some [(1, "xxh64", "r1", "original"), (2, "xxh64", "r1", "verified")] ∧
    (okVal (loadHistory treeN)).map (fun h =>
      ((allHists h).map (·.root), (ownerHist h ["a.txt"]).root, (ownerHist h ["card", "a.txt"]).root,
        (ownerHist h ["card", "reel", "a.txt"]).root)) =
    some ([[], ["card"], ["card", "reel"]], [], ["card"], ["card", "reel"]) := by decide +kernel

example : okVal (info treeN) =
    some [([], 1), ([], 2), (["card"], 1), (["card", "reel"], 1), (["card", "reel"], 2)] := treeN_card.1

/-- a file below the nested history, asked at the root: the lines of the NESTED history `card` (under `a.txt`, the
path relative to `card`) -/
example : okVal (infoSingleFile treeN ["card", "a.txt"]) = some [(1, "md5", "c1", "original")] := treeN_card.2.1

/-- the file with the same name in the root: the lines of the ROOT history -/
example : okVal (infoSingleFile treeN ["a.txt"]) =
    some [(1, "md5", "d1", "original"), (2, "md5", "d1", "verified"), (2, "sha1", "d2", "new")] :=
  treeN_levels.1

/-- a file in a sub-folder of the nested history: looked up as `sub/b.txt` in `card` -/
example : okVal (infoSingleFile treeN ["card", "sub", "b.txt"]) = some [(1, "md5", "c2", "original")] :=
  treeN_card.2.2

/-- two levels down: the DEEPEST history on the path (`card/reel`), not `card` -/
example : okVal (infoSingleFile treeN ["card", "reel", "a.txt"]) =
    some [(1, "xxh64", "r1", "original"), (2, "xxh64", "r1", "verified")] := treeN_levels.2.1

/-- a folder whose name merely starts with `card` is not below `card` (roots are compared component by component) -/
example : okVal (infoSingleFile treeN ["cardx", "a.txt"]) = some [] := by decide +kernel

/-- the owners, and the hypotheses of the last clause of `infoSingleFile_nearest_spec` -/
example : (okVal (loadHistory treeN)).map (fun h =>
      ((allHists h).map (·.root), (ownerHist h ["a.txt"]).root, (ownerHist h ["card", "a.txt"]).root,
        (ownerHist h ["card", "reel", "a.txt"]).root)) =
    some ([[], ["card"], ["card", "reel"]], [], ["card"], ["card", "reel"]) := treeN_levels.2.2

example : treeN.NoDupNames := by
  simp [treeN, Node.NoDupNames, Node.NamesDistinct, Node.NamesDistinctKids, Node.name]

/-- a folder without `ascmhl`: 30 -/
example : exceptErr (info (.dir "root" [.file "a.txt" [1]] none)) = some (.exit 30) := by decide +kernel

end Examples

end MhlProps.C19
