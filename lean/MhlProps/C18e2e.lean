/-
C18e2e — the END-TO-END statements of C18 (flatten):

  the packing list written by `flatten` contains, for every file ever recorded, its earliest non-failed digest per
  format; verifying a tree against it (`verify -pl`) succeeds exactly when the files still have those digests

obtained by COMPOSING the model's own `createFolder`, `applyWritten`, `flatten` and `verifyOrDiff … (some g)`
(`verify -pl FILE` is `verifyOrDiff env t o true (some g)`).  The setting of parts 1, 3 and 4 is C03e2e's
`Setting env rn cs o` (a tree `t = .dir rn cs none` without `ascmhl` folder, sealed once: `w` is the written
generation, `t' = sealedTree env rn cs o`); `hit0 env o` is the matcher of that first `create`.  In file order:

  1. `flatten_after_seal`: what `flatten` returns on the sealed tree, completely (the sealed generation's FILE
     records, unchanged and in order, under its ignore list)
  2. for ANY history: `flatten_verify_pl_judges_first` (which entry `verify -pl` compares: the `original` entry with
     the LEAST format name among the earliest non-failed ones; none ⇒ the file is called NEW); three witnesses that
     this is not always what `verify` against the full history compares; `flatten_verify_pl_coincides`: it is under
     `OriginalsFirst`, whence `flattened_snapshot` (the packing list of ANY history that describes a tree, records
     no rename and has that shape)
  3. the instance at the sealed history: `pl_snapshot` (the packing list records `t` in the sense of `Snapshot`);
     `verify_pl_any_tree`: `verify -pl` on ANY tree, completely; `verify_pl_after_seal`: the sealed tree AND the
     original, unsealed tree end with 0; `verify_pl_altered` (11), `_removed` (10), `_added` (21), `_precedence`,
     and the same on the model's own trees
  4. `flatten_two_generations`: seal, reseal with ANY other non-empty format list, flatten;
     `verify_pl_same_entry_after_seal`, `_two_generations`: `verify -pl` compares the entry `verify` compares
  then the evaluated example, and a witness that the property is FALSE outside its domain:
     `flatten_verify_pl_rename_fails` — for a history with a RENAME the unchanged tree verifies against its history
     (0) but not against its flattened history (10, the old path is reported missing): `flatten` keeps the record
     of the old path and drops `previousPath`.

Hypotheses beyond the setting: for 3. that the digest in the format `verify -pl` compares differs (as in C03e2e;
`env.H` is arbitrary); for 4. that the ignore options of the second run only name recorded patterns and `-dr` is off
(as C03e2e `reseal_ok`).  What a run wrote is read as `Records` (C02rec).
-/
import MhlProps.C03e2e
import MhlProps.Proofs.FlattenE2ELemmas

namespace MhlProps.C18e2e
open MhlModel MhlProps.C02rec MhlProps.C04 MhlProps.C03e2e MhlProps.C18

section
variable {env : Env} {rn : String} {cs : List Node} {o : CreateOpts}

/-! ### 1. flatten after the first seal

first the file records of the sealed generation -/

def fileRecords (g : Generation) : List Record := g.records.filter fun r => !r.isDir

theorem mem_fileRecords (g : Generation) (r : Record) : r ∈ fileRecords g ↔ r ∈ g.records ∧ r.isDir = false := by
  simp [fileRecords]

theorem fileRecords_ne_nil_iff (hS : Setting env rn cs o) (w : Written)
    (hw : (createFolder env (.dir rn cs none) o).written = [w]) :
    fileRecords w.gen ≠ [] ↔ ∃ p, (p, false) ∈ visiblePaths (hit0 env o) (.dir rn cs none) := by
  have F := sealed_records hS w hw
  constructor
  · intro hne
    obtain ⟨r, hr⟩ := List.exists_mem_of_ne_nil _ hne
    obtain ⟨p, hp, -⟩ := F.of_file ((mem_fileRecords _ _).1 hr).1 ((mem_fileRecords _ _).1 hr).2
    exact ⟨p, hp⟩
  · rintro ⟨p, hp⟩
    obtain ⟨r, hr, -, hd, -⟩ := F.file p hp
    exact List.ne_nil_of_mem ((mem_fileRecords _ _).2 ⟨hr, hd⟩)

/-- the packing list `flatten` writes for the tree sealed once: named after folder and stamp, process `flatten`, no
root hash, the ignore list and the FILE records of the sealed generation -/
def packingList (env : Env) (w : Written) : Generation :=
  { fileName := "packinglist_" ++ env.rootName ++ "_" ++ env.stamp ++ Gen.fileExtension,
    process := "flatten", rootHash := none, ignore := w.gen.ignore, records := fileRecords w.gen }

theorem sortedRecords_after_seal (hS : Setting env rn cs o) (w : Written)
    (hw : (createFolder env (.dir rn cs none) o).written = [w]) :
    sortedRecords (sealedHist w).gens = fileRecords w.gen :=
  (sealed_records hS w hw).sortedRecords (fun _ _ => origEntries_clean env _ o.formats hS.formats)
    (fun _ _ => origEntries_sorted_idem env _ o.formats) 1

theorem flattenGen_after_seal (hS : Setting env rn cs o) (w : Written)
    (hw : (createFolder env (.dir rn cs none) o).written = [w]) :
    flattenGen env (sealedHist w).gens [] [] = packingList env w := by
  obtain ⟨hign, hset, -, -⟩ := sealed_ignore_stable hS w hw
  unfold flattenGen packingList
  rw [sortedRecords_after_seal hS w hw, hset, hign, setPatterns_own none]

/-- on the tree sealed once `flatten` (without ignore options) cannot fail; what it returns
is determined completely: no error, no report, and — when the sealed generation has a file record, i.e. when the
tree has a visible file — exactly one generation, number 1 at the root: `packingList env w`; else nothing -/
theorem flatten_after_seal (hS : Setting env rn cs o) (w : Written)
    (hw : (createFolder env (.dir rn cs none) o).written = [w]) :
    flatten env (sealedTree env rn cs o) [] [] =
      { err := none, report := {},
        written := if (fileRecords w.gen).isEmpty then [] else [⟨[], 1, packingList env w⟩] } := by
  rw [flatten_eq env _ [] [] (sealedHist w) (sealed_tree_loads hS w hw).1 (sealedHist_gens_ne w),
    sortedRecords_after_seal hS w hw, flattenGen_after_seal hS w hw]

/-- the same clause by clause: `err = none`; with a visible file exactly one generation `[⟨[], 1, g⟩]`
with `g.process = "flatten"`, the ignore list of the sealed generation (which is the pattern list of the first
`create`), and the sealed generation's file records (directory records dropped); without a visible file nothing is
written -/
theorem flatten_after_seal' (hS : Setting env rn cs o) (w : Written)
    (hw : (createFolder env (.dir rn cs none) o).written = [w]) :
    (flatten env (sealedTree env rn cs o) [] []).err = none ∧
    (flatten env (sealedTree env rn cs o) [] []).exitCode = 0 ∧
    ((∃ p, (p, false) ∈ visiblePaths (hit0 env o) (.dir rn cs none)) →
      ∃ g, (flatten env (sealedTree env rn cs o) [] []).written = [⟨[], 1, g⟩] ∧ g = packingList env w ∧
        g.process = "flatten" ∧ g.rootHash = none ∧ g.refs = [] ∧
        g.ignore = w.gen.ignore ∧ g.ignore = setPatterns none o.ignoreCli o.ignoreFile ∧
        g.records = w.gen.records.filter (fun r => !r.isDir) ∧
        (∀ r ∈ g.records, r.isDir = false ∧ r.prev = none)) ∧
    ((¬ ∃ p, (p, false) ∈ visiblePaths (hit0 env o) (.dir rn cs none)) →
      (flatten env (sealedTree env rn cs o) [] []).written = []) := by
  rw [flatten_after_seal hS w hw]
  refine ⟨rfl, rfl, fun hex => ?_, fun hex => ?_⟩
  · rw [List.isEmpty_eq_false_iff.2 ((fileRecords_ne_nil_iff hS w hw).2 hex)]
    exact ⟨_, rfl, rfl, rfl, rfl, rfl, rfl, (sealed_ignore_stable hS w hw).1, rfl, fun r hr =>
      ⟨((mem_fileRecords _ _).1 hr).2, (sealed_records hS w hw).prev r ((mem_fileRecords _ _).1 hr).1⟩⟩
  · rw [List.isEmpty_iff.2 (not_not.1 fun hne => hex ((fileRecords_ne_nil_iff hS w hw).1 hne))]
    rfl

theorem packingList_records (hS : Setting env rn cs o) (w : Written)
    (hw : (createFolder env (.dir rn cs none) o).written = [w]) :
    Records ((visiblePaths (hit0 env o) (.dir rn cs none)).filter fun x => !x.2) (fileContent (.dir rn cs none))
      (fun p => origEntries env (fileContent (.dir rn cs none) p) o.formats) (packingList env w) :=
  (sealed_records hS w hw).filter_files rfl

end

/-! ### 2. the general statement: which entry `verify -pl` compares, for ANY history

`gens : List LGen` is arbitrary (nothing is assumed about it), and so are the ignore options of `flatten`. -/

theorem mem_sortedRecords_of_mem (gens : List LGen) (R : Record) (hR : R ∈ flattenRecords gens) :
    ({ R with entries := isort (fun a b => strLe a.fmt b.fmt) R.entries } : Record) ∈ sortedRecords gens :=
  List.mem_map.2 ⟨R, hR, rfl⟩

/-- Let `R` be the record `flattenRecords gens` has for a path.  Under the
packing list `flatten` writes (`verify -pl` judges against the one-generation history `plHist g`):

* no rename is followed: the recorded name of the path is the path;
* the entry the file is compared with — `findOriginal` — is the first `original` entry of `R`'s entries SORTED BY
  FORMAT NAME; so it is `some e` exactly when `e` is `original`, is the earliest non-failed entry of its format for
  the path in the history (an entry of a file record of the path, in the earliest generation that has a non-failed
  entry of that format: `C18.firstNonFailed_some`), and has the LEAST format name among such entries;
* there is none exactly when no earliest-non-failed entry of the path is `original` — then `verify -pl` calls the
  file NEW although the packing list has a record for it. -/
theorem flatten_verify_pl_judges_first (env : Env) (gens : List LGen) (ic ifl : List String) (R : Record)
    (hR : R ∈ flattenRecords gens) :
    recordedName (plHist (flattenGen env gens ic ifl)).gens R.path = R.path ∧
    findOriginal (plHist (flattenGen env gens ic ifl)).gens R.path =
      (isort (fun a b => strLe a.fmt b.fmt) R.entries).find? (fun e => e.action == "original") ∧
    (∀ e, findOriginal (plHist (flattenGen env gens ic ifl)).gens R.path = some e ↔
      e.action = "original" ∧ firstNonFailed gens R.path e.fmt = some e ∧
        ∀ e', e'.action = "original" → firstNonFailed gens R.path e'.fmt = some e' →
          strLe e.fmt e'.fmt = true) ∧
    (findOriginal (plHist (flattenGen env gens ic ifl)).gens R.path = none ↔
      ∀ f e, firstNonFailed gens R.path f = some e → e.action ≠ "original") := by
  have hc := flattenGen_clean env gens ic ifl
  have hfo : findOriginal (plHist (flattenGen env gens ic ifl)).gens R.path =
      (isort (fun a b => strLe a.fmt b.fmt) R.entries).find? (fun e => e.action == "original") :=
    hc.findOriginal_mem 1 _ (mem_sortedRecords_of_mem gens R hR)
  obtain ⟨hsorted, hnd, hmem⟩ := sortedRecords_entries gens _ (mem_sortedRecords_of_mem gens R hR)
  refine ⟨hc.recordedName_eq 1 _, hfo, ?_, ?_⟩
  · intro e
    rw [hfo, find?_sorted_iff hsorted hnd, hmem]
    simp only [beq_iff_eq]
    exact ⟨fun ⟨h1, h2, h3⟩ => ⟨h2, h1, fun e' ha hf => h3 e' ((hmem e').2 hf) ha⟩,
      fun ⟨h2, h1, h3⟩ => ⟨h1, h2, fun e' he' ha => h3 e' ha ((hmem e').1 he')⟩⟩
  · rw [hfo, List.find?_eq_none]
    constructor
    · intro h f e hf
      have hef : e.fmt = f := (firstNonFailed_some gens _ _ e hf).1
      have := h e ((hmem e).2 (hef ▸ hf))
      simpa using this
    · intro h e he
      have := h e.fmt e ((hmem e).1 he)
      simpa using this

theorem flatten_verify_pl_judge (env : Env) (gens : List LGen) (ic ifl : List String) (R : Record)
    (hR : R ∈ flattenRecords gens) (t2 : Node) (hashing : Bool) (q : RelPath) (hq : R.path = posix q) :
    judgeFile env t2 (plHist (flattenGen env gens ic ifl)) hashing q =
      match (isort (fun a b => strLe a.fmt b.fmt) R.entries).find? (fun e => e.action == "original") with
      | none => .new
      | some e => if hashing && env.H e.fmt (fileContent t2 q) != e.digest then .mismatch else .ok :=
  (flattenGen_clean env gens ic ifl).judgeFile_mem env t2 hashing q _ (mem_sortedRecords_of_mem gens R hR) hq

theorem flatten_verify_pl_unrecorded (env : Env) (gens : List LGen) (ic ifl : List String) (t2 : Node)
    (hashing : Bool) (q : RelPath) (hq : ∀ R ∈ flattenRecords gens, R.path ≠ posix q) :
    judgeFile env t2 (plHist (flattenGen env gens ic ifl)) hashing q = .new := by
  apply (flattenGen_clean env gens ic ifl).judgeFile_new
  intro r' hr'
  obtain ⟨R, hR, rfl⟩ := List.mem_map.1 hr'
  exact hq R hR

/-- the look-up over the packing list sees its records only: neither the environment nor the ignore options of
`flatten` matter, so on a closed history it can be evaluated -/
theorem findOriginal_flattenGen (env : Env) (gens : List LGen) (ic ifl : List String) (p : String) :
    findOriginal (plHist (flattenGen env gens ic ifl)).gens p =
      findOriginal [⟨1, { fileName := "", records := sortedRecords gens }⟩] p := rfl

/-! #### it does NOT always coincide with the entry `verify` against the full history uses -/

/-- (a) entries re-sorted by format name.  One generation whose record lists `xxh64` before `md5` (a manifest not
written by this tool; the schema does not fix the order): `verify` compares the FIRST `original` entry (xxh64),
`verify -pl` the one with the least format name (md5) -/
def exUnsorted : List LGen :=
  [⟨1, { fileName := "0001.mhl", records :=
    [{ path := "a.mov", size := some 5,
       entries := [⟨"xxh64", "x1", "original", none⟩, ⟨"md5", "m1", "original", none⟩] }] }⟩]

theorem not_coincide_resorted (env : Env) :
    findOriginal exUnsorted "a.mov" = some ⟨"xxh64", "x1", "original", none⟩ ∧
    findOriginal (plHist (flattenGen env exUnsorted [] [])).gens "a.mov" = some ⟨"md5", "m1", "original", none⟩ := by
  rw [findOriginal_flattenGen]
  decide +kernel

/-- (b) an `original` entry in a later generation, in a format with a smaller name: `verify` compares the entry of
the EARLIER generation, `verify -pl` the one with the least format name -/
def exLaterOriginal : List LGen :=
  [⟨1, { fileName := "0001.mhl", records :=
    [{ path := "a.mov", size := some 5, entries := [⟨"xxh64", "x1", "original", none⟩] }] }⟩,
   ⟨2, { fileName := "0002.mhl", records :=
    [{ path := "a.mov", size := some 5, entries := [⟨"md5", "m1", "original", none⟩] }] }⟩]

theorem not_coincide_later_original (env : Env) :
    findOriginal exLaterOriginal "a.mov" = some ⟨"xxh64", "x1", "original", none⟩ ∧
    findOriginal (plHist (flattenGen env exLaterOriginal [] [])).gens "a.mov" =
      some ⟨"md5", "m1", "original", none⟩ := by
  rw [findOriginal_flattenGen]
  decide +kernel

/-- (c) the `original` entry is shadowed by an earlier non-failed entry of the same format that is not `original`:
the packing list keeps the earlier one, so its record has NO `original` entry; `verify` compares with the
`original` digest, `verify -pl` calls the file NEW -/
def exShadowed : List LGen :=
  [⟨1, { fileName := "0001.mhl", records :=
    [{ path := "a.mov", size := some 5, entries := [⟨"md5", "m0", "verified", none⟩] }] }⟩,
   ⟨2, { fileName := "0002.mhl", records :=
    [{ path := "a.mov", size := some 5, entries := [⟨"md5", "m1", "original", none⟩] }] }⟩]

theorem not_coincide_shadowed (env : Env) (t2 : Node) :
    findOriginal exShadowed "a.mov" = some ⟨"md5", "m1", "original", none⟩ ∧
    flattenRecords exShadowed = [{ path := "a.mov", size := some 5, entries := [⟨"md5", "m0", "verified", none⟩] }] ∧
    findOriginal (plHist (flattenGen env exShadowed [] [])).gens "a.mov" = none ∧
    judgeFile env t2 (plHist (flattenGen env exShadowed [] [])) true ["a.mov"] = .new := by
  have h : findOriginal exShadowed "a.mov" = some ⟨"md5", "m1", "original", none⟩ ∧
      flattenRecords exShadowed =
        [{ path := "a.mov", size := some 5, entries := [⟨"md5", "m0", "verified", none⟩] }] ∧
      findOriginal [⟨1, { fileName := "", records := sortedRecords exShadowed }⟩] "a.mov" = none := by
    decide +kernel
  refine ⟨h.1, h.2.1, h.2.2, ?_⟩
  rw [flatten_verify_pl_judge env exShadowed [] [] _ (h.2.1 ▸ List.mem_singleton_self _) t2 true ["a.mov"] rfl]
  rfl

/-- (d) "a record whose first entry failed" is NOT a counterexample: the failed entry is dropped by `flatten` and
skipped by `findOriginal` alike (it is not `original`) -/
def exFailedFirst : List LGen :=
  [⟨1, { fileName := "0001.mhl", records :=
    [{ path := "a.mov", size := some 5, entries := [⟨"md5", "m1", "original", none⟩] }] }⟩,
   ⟨2, { fileName := "0002.mhl", records :=
    [{ path := "a.mov", size := some 5,
       entries := [⟨"md5", "zz", "failed", none⟩, ⟨"xxh64", "x1", "verified", none⟩] }] }⟩]

theorem coincide_failed_later (env : Env) :
    findOriginal exFailedFirst "a.mov" = some ⟨"md5", "m1", "original", none⟩ ∧
    findOriginal (plHist (flattenGen env exFailedFirst [] [])).gens "a.mov" =
      some ⟨"md5", "m1", "original", none⟩ := by
  rw [findOriginal_flattenGen]
  decide +kernel

/-! #### the condition under which it coincides -/

/-- the shape every history written by this tool has for a path `p` (and that the three counterexamples violate,
each in one point): the FIRST generation in which the look-up of `p` finds anything finds a file record of `p`, the
only one of that path in the generation, whose entries are sorted by format name (each format once), none failed,
one at least `original`; and no LATER file record of `p` has an `original` entry -/
structure OriginalsFirst (gens : List LGen) (p : String) (pre : List LGen) (g : LGen) (post : List LGen)
    (r : Record) : Prop where
  split : gens = pre ++ g :: post
  before : ∀ g' ∈ pre, g'.gen.find p = none
  found : g.gen.find p = some r
  mem : r ∈ g.gen.records
  file : r.isDir = false
  path : r.path = p
  unique : ∀ r' ∈ g.gen.records, r'.isDir = false → r'.path = p → r' = r
  sorted : r.entries.Pairwise (fun a b => strLe a.fmt b.fmt = true)
  fmts : (r.entries.map (·.fmt)).Nodup
  noFailed : ∀ e ∈ r.entries, e.action ≠ "failed"
  original : ∃ e ∈ r.entries, e.action = "original"
  after : ∀ g' ∈ post, ∀ r' ∈ g'.gen.records, r'.isDir = false → r'.path = p →
    ∀ e ∈ r'.entries, e.action ≠ "original"

/-- `flatten_verify_pl_coincides`: under `OriginalsFirst`, `verify -pl` and `verify` compare the file with the SAME
entry: the first `original` entry of the first record of the path -/
theorem flatten_verify_pl_coincides (env : Env) (gens : List LGen) (ic ifl : List String) (p : String)
    (pre : List LGen) (g : LGen) (post : List LGen) (r : Record) (h : OriginalsFirst gens p pre g post r) :
    findOriginal (plHist (flattenGen env gens ic ifl)).gens p = findOriginal gens p ∧
    findOriginal gens p = r.entries.find? (fun e => e.action == "original") ∧
    (findOriginal gens p).isSome = true := by
  -- the first original entry of `r`
  obtain ⟨eo, heo, hao⟩ := h.original
  have hsome : (r.entries.find? (fun e => e.action == "original")).isSome := by
    rw [List.find?_isSome]
    exact ⟨eo, heo, by simp [hao]⟩
  obtain ⟨e0, he0⟩ := Option.isSome_iff_exists.1 hsome
  have he0m := List.mem_of_find?_eq_some he0
  have he0a : e0.action = "original" := by simpa using List.find?_some he0
  -- the full history
  have hfull : findOriginal gens p = some e0 := by
    rw [h.split, findOriginal_eq_lookup, lookupEntry_unrecorded _ h.before, lookupEntry_cons _ h.found, he0]
    rfl
  have hpre : ∀ f, firstNonFailed pre p f = none := fun f => firstNonFailed_none_of_find_none pre p f h.before
  have hfnf : ∀ f, firstNonFailed gens p f =
      (r.entries.find? (fun e => e.fmt == f && e.action != "failed")).or (firstNonFailed post p f) := by
    intro f
    rw [h.split, firstNonFailed_append, hpre f, Option.none_or, firstNonFailed_cons,
      findSome_record_unique g.gen.records r h.mem h.file p h.path h.unique
        (fun r => r.entries.find? (fun e => e.fmt == f && e.action != "failed"))]
  have hfnf_r : ∀ e ∈ r.entries, firstNonFailed gens p e.fmt = some e := by
    intro e he
    rw [hfnf, find?_fmt_of_nodup h.fmts he (h.noFailed e he)]
    rfl
  -- an original earliest entry of `p` is an entry of `r`
  have horig : ∀ e, e.action = "original" → firstNonFailed gens p e.fmt = some e → e ∈ r.entries := by
    intro e ha hf
    rw [hfnf] at hf
    cases hfr : r.entries.find? (fun x => x.fmt == e.fmt && x.action != "failed") with
    | some x =>
      rw [hfr] at hf
      simp only [Option.some_or, Option.some.injEq] at hf
      subst hf
      exact List.mem_of_find?_eq_some hfr
    | none =>
      rw [hfr] at hf
      simp only [Option.none_or] at hf
      obtain ⟨-, -, g', hg', r', hr', hd', hp', he'⟩ := firstNonFailed_some post p e.fmt e hf
      exact absurd ha (h.after g' hg' r' hr' hd' hp' e he')
  -- the record of the packing list
  obtain ⟨R, hR, hRp, -⟩ := flatten_entry_is_earliest_complete gens p e0.fmt e0 (hfnf_r e0 he0m)
  obtain ⟨-, -, hiff, -⟩ := flatten_verify_pl_judges_first env gens ic ifl R hR
  rw [hRp] at hiff
  have hpl : findOriginal (plHist (flattenGen env gens ic ifl)).gens p = some e0 := by
    rw [hiff e0]
    exact ⟨he0a, hfnf_r e0 he0m, fun e' ha' hf' =>
      ((find?_sorted_iff h.sorted h.fmts e0).1 he0).2.2 e' (horig e' ha' hf') (by simp [ha'])⟩
  exact ⟨by rw [hpl, hfull], by rw [hfull, he0], by rw [hfull]; rfl⟩

theorem flattenGen_ignore (env : Env) {gens : List LGen} {P : List String} (hl : latestIgnore gens = some P)
    (hne : P ≠ []) (hnd : P.Nodup) (hP : setPatterns none P [] = P) : (flattenGen env gens [] []).ignore = P := by
  change setPatterns none (setPatterns (latestIgnore gens) [] []) [] = P
  rw [setPatterns_latest_own hl hne hnd [] [] (by simp) (by simp), hP]

/-- the end-to-end statement for any history: if `H` describes the tree `t` (`Describes`), records no rename, and has
for every file of `t` the shape `OriginalsFirst`, then the packing list `flatten` writes for `H` records `t` in the
sense of `Snapshot`: `verify -pl` of any tree against it says what `Snapshot.unchanged / altered / removed / added`
say, with the same format compared as by `verify` against `H` -/
theorem flattened_snapshot {env : Env} {H : Hist} {P : List String} {t : Node} {fmt : RelPath → String}
    (D : Describes env H P t fmt) (hP : setPatterns none P [] = P)
    (hprev : ∀ g ∈ H.gens, ∀ r ∈ g.gen.records, r.prev = none)
    (hof : ∀ p, (p, false) ∈ visiblePaths (env.hit P) t →
      ∃ pre g post r, OriginalsFirst H.gens (posix p) pre g post r) :
    Snapshot env (plHist (flattenGen env H.gens [] [])) (env.hit P) t fmt where
  gens := plHist_gens_ne _
  matcher := by
    unfold vHit
    rw [setPatterns_latest_own (gens := (plHist (flattenGen env H.gens [] [])).gens)
      (congrArg some (flattenGen_ignore env D.latest D.own.1 D.own.2 hP)) D.own.1 D.own.2 _ _
      (fun _ h => absurd h List.not_mem_nil) (fun _ h => absurd h List.not_mem_nil)]
  distinct := D.distinct
  judge := fun T hashing q hq => by
    obtain ⟨pre, g, post, r, ho⟩ := hof q hq
    obtain ⟨e, he, hf, hd⟩ := D.orig q hq
    rw [MhlProps.C17.recordedName_id H.gens _ fun g hg r hr _ => hprev g hg r hr] at he
    rw [(flattenGen_clean env H.gens [] []).judgeFile_eq,
      (flatten_verify_pl_coincides env H.gens [] [] _ _ _ _ _ ho).1, he]
    simp only [hf, hd]
  expected := fun p hp => by
    obtain ⟨r', hr', rfl⟩ := (mem_expectedPaths_pl _ p).1 hp
    obtain ⟨-, -, g, hg, r, hr, -, hrp, -⟩ := sortedRecords_origin _ r' hr'
    obtain ⟨g1, g2, hsplit⟩ := List.append_of_mem hg
    apply D.expected
    rw [mem_expectedPaths_of_flat D.flat, D.root, ← hrp, hsplit]
    refine MhlProps.C17.recorded_expected [] g1 g g2 r hr fun g' hg' hin => ?_
    obtain ⟨r2, hr2, p2, hp2, -⟩ := (MhlProps.C17.mem_prevPaths _ _ _).1 hin
    rw [hprev g' (hsplit ▸ List.mem_append_right _ (List.mem_cons_of_mem _ hg')) r2 hr2] at hp2
    cases hp2

section
variable {env : Env} {rn : String} {cs : List Node} {o : CreateOpts}

/-! #### a history that begins with the sealed generation satisfies the condition: `verify -pl` compares what
`verify` compares (`verify_pl_same_entry_after_seal`, `verify_pl_same_entry_two_generations` in part 4) -/

theorem sealed_originalsFirst (hS : Setting env rn cs o) (w : Written)
    (hw : (createFolder env (.dir rn cs none) o).written = [w]) (p : RelPath)
    (hp : (p, false) ∈ visiblePaths (hit0 env o) (.dir rn cs none)) (post : List LGen)
    (hafter : ∀ g' ∈ post, ∀ r' ∈ g'.gen.records, r'.isDir = false → r'.path = posix p →
      ∀ e ∈ r'.entries, e.action ≠ "original") :
    ∃ r, OriginalsFirst (⟨1, w.gen⟩ :: post) (posix p) [] ⟨1, w.gen⟩ post r ∧
      r.entries = origEntries env (fileContent (.dir rn cs none) p) o.formats := by
  have F := sealed_records hS w hw
  obtain ⟨r, hr, hpath, hd, -, hents⟩ := F.file p hp
  obtain ⟨c1, c2, c3⟩ := origEntries_clean env (fileContent (.dir rn cs none) p) o.formats hS.formats
  obtain ⟨e, he⟩ := List.exists_mem_of_ne_nil _ c2
  refine ⟨r, ?_, hents⟩
  exact
    { split := rfl, before := (fun _ h => nomatch h), found := hpath ▸ F.find_mem hr,
      mem := hr, file := hd, path := hpath,
      unique := fun x hx _ hxp => eq_of_nodup_map F.nodup hx hr (hxp.trans hpath.symm),
      sorted := hents ▸ isort_key_sorted (fun e : Entry => e.fmt) _, fmts := hents ▸ c1, noFailed := hents ▸ c3,
      original := hents ▸ ⟨e, he, (origEntries_spec env _ o.formats e he).1⟩, after := hafter }

theorem sealed_first_coincides (hS : Setting env rn cs o) (w : Written)
    (hw : (createFolder env (.dir rn cs none) o).written = [w]) (p : RelPath)
    (hp : (p, false) ∈ visiblePaths (hit0 env o) (.dir rn cs none)) (post : List LGen)
    (hafter : ∀ g' ∈ post, ∀ r' ∈ g'.gen.records, r'.isDir = false → r'.path = posix p →
      ∀ e ∈ r'.entries, e.action ≠ "original") :
    findOriginal (plHist (flattenGen env (⟨1, w.gen⟩ :: post) [] [])).gens (posix p) =
      findOriginal (⟨1, w.gen⟩ :: post) (posix p) ∧
    findOriginal (⟨1, w.gen⟩ :: post) (posix p) =
      some (mkOrig env (fileContent (.dir rn cs none) p) (firstFormat o.formats)) := by
  obtain ⟨r, hof, hents⟩ := sealed_originalsFirst hS w hw p hp post hafter
  obtain ⟨h1, h2, -⟩ := flatten_verify_pl_coincides env _ [] [] _ _ _ _ _ hof
  exact ⟨h1, by rw [h2, hents, origEntries_find_original env _ o.formats hS.formats]⟩

/-! ### 3. `verify -pl` against the packing list of the tree sealed once: on ANY tree, and from that on the sealed and
the unsealed tree -/

/-- the verdict of `verify -pl` (`hashing = true`) on a file `p` of ANY tree `t2`: if the POSIX text of `p` is that
of a file `q` that was visible when the tree was sealed, the digest of the content of `p` in `t2` in the LEAST
requested format name is compared with that of `q` at seal time; otherwise the file is new -/
theorem pl_judge (hS : Setting env rn cs o) (w : Written)
    (hw : (createFolder env (.dir rn cs none) o).written = [w]) (t2 : Node) (hashing : Bool) (p : RelPath) :
    (∀ q, (q, false) ∈ visiblePaths (hit0 env o) (.dir rn cs none) → posix q = posix p →
      judgeFile env t2 (plHist (packingList env w)) hashing p =
        if hashing && env.H (firstFormat o.formats) (fileContent t2 p) !=
            env.H (firstFormat o.formats) (fileContent (.dir rn cs none) q) then .mismatch else .ok) ∧
    ((∀ q, (q, false) ∈ visiblePaths (hit0 env o) (.dir rn cs none) → posix q ≠ posix p) →
      judgeFile env t2 (plHist (packingList env w)) hashing p = .new) := by
  have F := packingList_records hS w hw
  have hc : PlClean (packingList env w) := ⟨rfl, F.nodup, F.prev⟩
  constructor
  · intro q hq hqp
    obtain ⟨r, hr, hpath, -, -, hents⟩ := F.file q (List.mem_filter.2 ⟨hq, rfl⟩)
    rw [hc.judgeFile_mem env t2 hashing p r hr (hpath.trans hqp), hents,
      origEntries_find_original env _ o.formats hS.formats]
    rfl
  · intro hno
    apply hc.judgeFile_new
    intro r hr hrp
    obtain ⟨q, hq, hpath, -⟩ := F.of_file hr ((mem_fileRecords _ _).1 hr).2
    exact hno q (List.mem_filter.1 hq).1 (hpath.symm.trans hrp)

theorem pl_expected (hS : Setting env rn cs o) (w : Written)
    (hw : (createFolder env (.dir rn cs none) o).written = [w]) (p : RelPath) :
    p ∈ expectedPaths (plHist (packingList env w)) ↔ (p, false) ∈ visiblePaths (hit0 env o) (.dir rn cs none) := by
  have F := packingList_records hS w hw
  rw [mem_expectedPaths_pl]
  constructor
  · rintro ⟨r, hr, rfl⟩
    obtain ⟨q, hq, hpath, -⟩ := F.of_file hr ((mem_fileRecords _ _).1 hr).2
    replace hq := (List.mem_filter.1 hq).1
    rw [hpath, splitPath_posix (visible_names_ok _ _ hS.namesOk _ hq).2]
    exact hq
  · intro hp
    obtain ⟨r, hr, hpath, -⟩ := F.file p (List.mem_filter.2 ⟨hp, rfl⟩)
    exact ⟨r, hr, by rw [hpath, splitPath_posix (visible_names_ok _ _ hS.namesOk _ hp).2]⟩

theorem pl_snapshot (hS : Setting env rn cs o) (w : Written)
    (hw : (createFolder env (.dir rn cs none) o).written = [w]) :
    Snapshot env (plHist (packingList env w)) (hit0 env o) (.dir rn cs none) (fun _ => firstFormat o.formats) := by
  rw [← flattenGen_after_seal hS w hw]
  exact flattened_snapshot (sealed_describes hS w hw) (setPatterns_own none _ _)
    (fun g hg => by obtain rfl := List.mem_singleton.1 hg; exact (sealed_records hS w hw).prev)
    fun p hp => ⟨[], _, [], (sealed_originalsFirst hS w hw p hp [] fun _ h => nomatch h).imp fun _ h => h.1⟩

/-- the characterisation of a `verify -pl` run (and of the non-hashing run) against the packing list of the tree
sealed once, on ANY tree `t2` (no `ascmhl` folder is needed, none is looked at): with `hit` the matcher of the
first `create`, `t` the tree at seal time and `ff` the least requested format name,

* mismatch: the visible files of `t2` whose text is that of a file `q` visible in `t` and whose digest in `ff`
  differs from that of `q` at seal time (never without hashing);
* new: the visible files of `t2` whose text is not that of a file visible in `t`;
* missing: the files visible in `t` that are not visible in `t2`;

the report is the `posix` image of these, and the run ends as `verifyExit` says: mismatch (11) over new (21) over
missing (10). -/
theorem verify_pl_any_tree (hS : Setting env rn cs o) (w : Written)
    (hw : (createFolder env (.dir rn cs none) o).written = [w]) (t2 : Node) (hashing : Bool) :
    (∀ p, p ∈ vMism env t2 (plHist (packingList env w)) {} hashing ↔
      hashing = true ∧ (p, false) ∈ visiblePaths (hit0 env o) t2 ∧
        ∃ q, (q, false) ∈ visiblePaths (hit0 env o) (.dir rn cs none) ∧ posix q = posix p ∧
          env.H (firstFormat o.formats) (fileContent t2 p) ≠
            env.H (firstFormat o.formats) (fileContent (.dir rn cs none) q)) ∧
    (∀ p, p ∈ vNews env t2 (plHist (packingList env w)) {} hashing ↔
      (p, false) ∈ visiblePaths (hit0 env o) t2 ∧
        ∀ q, (q, false) ∈ visiblePaths (hit0 env o) (.dir rn cs none) → posix q ≠ posix p) ∧
    (∀ p, p ∈ vMissing env t2 (plHist (packingList env w)) {} ↔
      (p, false) ∈ visiblePaths (hit0 env o) (.dir rn cs none) ∧ ∀ d, (p, d) ∉ visiblePaths (hit0 env o) t2) ∧
    (verifyOrDiff env t2 {} hashing (some (packingList env w))).report =
      { mismatch := (vMism env t2 (plHist (packingList env w)) {} hashing).map posix,
        missing := (vMissing env t2 (plHist (packingList env w)) {}).map posix,
        new := (vNews env t2 (plHist (packingList env w)) {} hashing).map posix } ∧
    (verifyOrDiff env t2 {} true (some (packingList env w))).err =
      (if vMism env t2 (plHist (packingList env w)) {} true ≠ [] then some errVerifyFailed
       else if vNews env t2 (plHist (packingList env w)) {} true ≠ [] then some errNewFiles
       else if vMissing env t2 (plHist (packingList env w)) {} ≠ [] then some errMissingFiles
       else none) := by
  have hhit := (pl_snapshot hS w hw).matcher
  refine ⟨?_, ?_, ?_, ?_, ?_⟩
  · intro p
    rw [MhlProps.C03.mism_iff, hhit]
    constructor
    · rintro ⟨hv, -, hj⟩
      by_cases hex : ∃ q, (q, false) ∈ visiblePaths (hit0 env o) (.dir rn cs none) ∧ posix q = posix p
      · obtain ⟨q, hq, hqp⟩ := hex
        rw [(pl_judge hS w hw t2 hashing p).1 q hq hqp] at hj
        cases hashing with
        | false => simp at hj
        | true =>
          refine ⟨rfl, hv, q, hq, hqp, ?_⟩
          intro heq
          simp [heq] at hj
      · rw [(pl_judge hS w hw t2 hashing p).2 (fun q hq hqp => hex ⟨q, hq, hqp⟩)] at hj
        cases hj
    · rintro ⟨hh, hv, q, hq, hqp, hne⟩
      refine ⟨hv, Or.inl rfl, ?_⟩
      rw [(pl_judge hS w hw t2 hashing p).1 q hq hqp, hh]
      simp [hne]
  · intro p
    rw [MhlProps.C03.news_iff, hhit]
    constructor
    · rintro ⟨hv, -, hj⟩
      refine ⟨hv, ?_⟩
      intro q hq hqp
      rw [(pl_judge hS w hw t2 hashing p).1 q hq hqp] at hj
      split at hj <;> cases hj
    · rintro ⟨hv, hno⟩
      exact ⟨hv, Or.inl rfl, (pl_judge hS w hw t2 hashing p).2 hno⟩
  · intro p
    rw [MhlProps.C03.missing_iff, hhit, pl_expected hS w hw p]
    constructor
    · rintro ⟨he, hnv, -⟩
      exact ⟨he, hnv⟩
    · rintro ⟨he, hnv⟩
      refine ⟨he, hnv, ?_⟩
      exact MhlProps.C03.hitAbove_false_of_visible _ _ p false he
  · rw [verifyOrDiff_loaded _ _ _ _ (some _) _ rfl (plHist_gens_ne _)]
  · exact verify_err_of_loaded env t2 (some _) _ rfl (plHist_gens_ne _)

theorem verify_pl_unchanged (hS : Setting env rn cs o) (w : Written)
    (hw : (createFolder env (.dir rn cs none) o).written = [w]) (t2 : Node) (hashing : Bool)
    (hvis : ∀ x, x ∈ visiblePaths (hit0 env o) t2 ↔ x ∈ visiblePaths (hit0 env o) (.dir rn cs none))
    (hcont : ∀ p, (p, false) ∈ visiblePaths (hit0 env o) (.dir rn cs none) →
      env.H (firstFormat o.formats) (fileContent t2 p) =
        env.H (firstFormat o.formats) (fileContent (.dir rn cs none) p)) :
    (verifyOrDiff env t2 {} hashing (some (packingList env w))).err = none ∧
    (verifyOrDiff env t2 {} hashing (some (packingList env w))).exitCode = 0 ∧
    (verifyOrDiff env t2 {} hashing (some (packingList env w))).report.mismatch = [] ∧
    (verifyOrDiff env t2 {} hashing (some (packingList env w))).report.new = [] ∧
    (verifyOrDiff env t2 {} hashing (some (packingList env w))).report.missing = [] :=
  (pl_snapshot hS w hw).unchanged t2 (some _) hashing rfl hvis fun q hq _ => hcont q hq

/-- the packing list of the unchanged tree verifies — on the sealed tree `t'`, and on the
ORIGINAL tree `t` without any `ascmhl` folder (the packing list is self-contained); exit code 0, empty reports -/
theorem verify_pl_after_seal (hS : Setting env rn cs o) (w : Written)
    (hw : (createFolder env (.dir rn cs none) o).written = [w]) :
    ((verifyOrDiff env (sealedTree env rn cs o) {} true (some (packingList env w))).err = none ∧
     (verifyOrDiff env (sealedTree env rn cs o) {} true (some (packingList env w))).exitCode = 0 ∧
     (verifyOrDiff env (sealedTree env rn cs o) {} true (some (packingList env w))).report.mismatch = [] ∧
     (verifyOrDiff env (sealedTree env rn cs o) {} true (some (packingList env w))).report.new = [] ∧
     (verifyOrDiff env (sealedTree env rn cs o) {} true (some (packingList env w))).report.missing = []) ∧
    ((verifyOrDiff env (.dir rn cs none) {} true (some (packingList env w))).err = none ∧
     (verifyOrDiff env (.dir rn cs none) {} true (some (packingList env w))).exitCode = 0 ∧
     (verifyOrDiff env (.dir rn cs none) {} true (some (packingList env w))).report.mismatch = [] ∧
     (verifyOrDiff env (.dir rn cs none) {} true (some (packingList env w))).report.new = [] ∧
     (verifyOrDiff env (.dir rn cs none) {} true (some (packingList env w))).report.missing = []) := by
  constructor
  · apply verify_pl_unchanged hS w hw
    · intro x
      rw [sealedTree_eq hS w hw, visiblePaths_root_hist _ rn cs _ none]
    · intro p _
      rw [sealedTree_eq hS w hw, fileContent_root_hist rn cs _ none]
  · exact verify_pl_unchanged hS w hw _ true (fun _ => Iff.rfl) (fun _ _ => rfl)

/-- the same for the generation `flatten` returns, without naming it: it verifies the tree it was made from -/
theorem verify_pl_after_seal' (hS : Setting env rn cs o)
    (hex : ∃ p, (p, false) ∈ visiblePaths (hit0 env o) (.dir rn cs none)) :
    ∃ g, (flatten env (sealedTree env rn cs o) [] []).written = [⟨[], 1, g⟩] ∧
      (verifyOrDiff env (sealedTree env rn cs o) {} true (some g)).err = none ∧
      (verifyOrDiff env (sealedTree env rn cs o) {} true (some g)).report.mismatch = [] ∧
      (verifyOrDiff env (sealedTree env rn cs o) {} true (some g)).report.new = [] ∧
      (verifyOrDiff env (sealedTree env rn cs o) {} true (some g)).report.missing = [] ∧
      (verifyOrDiff env (.dir rn cs none) {} true (some g)).err = none := by
  obtain ⟨w, -, hw, -⟩ := first_seal_core hS
  obtain ⟨-, -, hwr, -⟩ := flatten_after_seal' hS w hw
  obtain ⟨g, hg, rfl, -⟩ := hwr hex
  obtain ⟨⟨a1, -, a3, a4, a5⟩, ⟨b1, -⟩⟩ := verify_pl_after_seal hS w hw
  exact ⟨_, hg, a1, a3, a4, a5, b1⟩

/-! #### one file altered / removed / added, and the precedence of the exit codes -/

/-- one file altered (its digest in the least requested format name differs): `verify -pl` ends with
`VerificationFailedException` (exit code 11) and reports exactly `p`, as a mismatch -/
theorem verify_pl_altered (hS : Setting env rn cs o) (w : Written)
    (hw : (createFolder env (.dir rn cs none) o).written = [w]) (t2 : Node) (p : RelPath)
    (hvis : visiblePaths (hit0 env o) t2 = visiblePaths (hit0 env o) (.dir rn cs none))
    (hp : (p, false) ∈ visiblePaths (hit0 env o) (.dir rn cs none))
    (hdig : env.H (firstFormat o.formats) (fileContent t2 p) ≠
      env.H (firstFormat o.formats) (fileContent (.dir rn cs none) p))
    (hother : ∀ q, (q, false) ∈ visiblePaths (hit0 env o) (.dir rn cs none) → q ≠ p →
      env.H (firstFormat o.formats) (fileContent t2 q) =
        env.H (firstFormat o.formats) (fileContent (.dir rn cs none) q)) :
    (verifyOrDiff env t2 {} true (some (packingList env w))).err = some errVerifyFailed ∧
    (verifyOrDiff env t2 {} true (some (packingList env w))).exitCode = 11 ∧
    (verifyOrDiff env t2 {} true (some (packingList env w))).report.mismatch = [posix p] ∧
    (verifyOrDiff env t2 {} true (some (packingList env w))).report.new = [] ∧
    (verifyOrDiff env t2 {} true (some (packingList env w))).report.missing = [] :=
  (pl_snapshot hS w hw).altered t2 (some _) rfl p hvis hp hdig hother

/-- one file altered, on the model's own tree: the sealed tree with the content of `p` replaced (C03e2e's `alteredTree`) -/
theorem verify_pl_altered_trees (hS : Setting env rn cs o) (w : Written)
    (hw : (createFolder env (.dir rn cs none) o).written = [w]) (p : RelPath)
    (hp : (p, false) ∈ visiblePaths (hit0 env o) (.dir rn cs none)) (c' : Bytes)
    (hdig : env.H (firstFormat o.formats) c' ≠
      env.H (firstFormat o.formats) (fileContent (.dir rn cs none) p)) :
    ((verifyOrDiff env (alteredTree env rn cs o p c') {} true (some (packingList env w))).err =
        some errVerifyFailed ∧
     (verifyOrDiff env (alteredTree env rn cs o p c') {} true (some (packingList env w))).exitCode = 11 ∧
     (verifyOrDiff env (alteredTree env rn cs o p c') {} true (some (packingList env w))).report.mismatch =
        [posix p] ∧
     (verifyOrDiff env (alteredTree env rn cs o p c') {} true (some (packingList env w))).report.new = [] ∧
     (verifyOrDiff env (alteredTree env rn cs o p c') {} true (some (packingList env w))).report.missing = []) := by
  have hsf : SameFilesDh (.dir rn cs none) (sealedTree env rn cs o) := sameFilesDh_applyWritten _ _
  exact ((pl_snapshot hS w hw).of_sameFiles hsf).alteredAt (some _) p c' rfl (hsf.visiblePaths _ ▸ hp)
    (by rw [hsf.fileContent]; exact hdig)

/-- one file gone: `verify -pl` ends with `CompletenessCheckFailedException` (exit code 10) and reports exactly
`p`, as missing -/
theorem verify_pl_removed (hS : Setting env rn cs o) (w : Written)
    (hw : (createFolder env (.dir rn cs none) o).written = [w]) (t2 : Node) (p : RelPath)
    (hp : (p, false) ∈ visiblePaths (hit0 env o) (.dir rn cs none))
    (hvis : ∀ x, x ∈ visiblePaths (hit0 env o) t2 ↔
      x ∈ visiblePaths (hit0 env o) (.dir rn cs none) ∧ x.1 ≠ p)
    (hother : ∀ q, (q, false) ∈ visiblePaths (hit0 env o) (.dir rn cs none) → q ≠ p →
      env.H (firstFormat o.formats) (fileContent t2 q) =
        env.H (firstFormat o.formats) (fileContent (.dir rn cs none) q)) :
    (verifyOrDiff env t2 {} true (some (packingList env w))).err = some errMissingFiles ∧
    (verifyOrDiff env t2 {} true (some (packingList env w))).exitCode = 10 ∧
    (verifyOrDiff env t2 {} true (some (packingList env w))).report.mismatch = [] ∧
    (verifyOrDiff env t2 {} true (some (packingList env w))).report.new = [] ∧
    (verifyOrDiff env t2 {} true (some (packingList env w))).report.missing = [posix p] :=
  (pl_snapshot hS w hw).removed t2 (some _) true rfl p hp ((pl_expected hS w hw p).2 hp) hvis hother

/-- one more visible file whose text is not that of a sealed file: `verify -pl` ends with
`NewFilesFoundException` (exit code 21) and reports exactly `p`, as new -/
theorem verify_pl_added (hS : Setting env rn cs o) (w : Written)
    (hw : (createFolder env (.dir rn cs none) o).written = [w]) (t2 : Node) (p : RelPath)
    (hp : ∀ q, (q, false) ∈ visiblePaths (hit0 env o) (.dir rn cs none) → posix q ≠ posix p)
    (hvis : ∀ x, x ∈ visiblePaths (hit0 env o) t2 ↔
      x ∈ visiblePaths (hit0 env o) (.dir rn cs none) ∨ x = (p, false))
    (hother : ∀ q, (q, false) ∈ visiblePaths (hit0 env o) (.dir rn cs none) →
      env.H (firstFormat o.formats) (fileContent t2 q) =
        env.H (firstFormat o.formats) (fileContent (.dir rn cs none) q)) :
    (verifyOrDiff env t2 {} true (some (packingList env w))).err = some errNewFiles ∧
    (verifyOrDiff env t2 {} true (some (packingList env w))).exitCode = 21 ∧
    (verifyOrDiff env t2 {} true (some (packingList env w))).report.mismatch = [] ∧
    (∀ s, s ∈ (verifyOrDiff env t2 {} true (some (packingList env w))).report.new ↔ s = posix p) ∧
    (verifyOrDiff env t2 {} true (some (packingList env w))).report.missing = [] := by
  obtain ⟨h1, h2, h3, h4, -, h6⟩ := (pl_snapshot hS w hw).added t2 (some _) true rfl p
    ((pl_judge hS w hw t2 true p).2 hp) hvis hother
  exact ⟨h1, h2, h3, h4, h6⟩

/-- the precedence of the exit codes (`verifyExit`), on any tree: mismatch (11) over new (21) over missing (10) -/
theorem verify_pl_precedence (hS : Setting env rn cs o) (w : Written)
    (hw : (createFolder env (.dir rn cs none) o).written = [w]) (t2 : Node) :
    ((verifyOrDiff env t2 {} true (some (packingList env w))).exitCode = 11 ↔
      (verifyOrDiff env t2 {} true (some (packingList env w))).report.mismatch ≠ []) ∧
    ((verifyOrDiff env t2 {} true (some (packingList env w))).exitCode = 21 ↔
      (verifyOrDiff env t2 {} true (some (packingList env w))).report.mismatch = [] ∧
      (verifyOrDiff env t2 {} true (some (packingList env w))).report.new ≠ []) ∧
    ((verifyOrDiff env t2 {} true (some (packingList env w))).exitCode = 10 ↔
      (verifyOrDiff env t2 {} true (some (packingList env w))).report.mismatch = [] ∧
      (verifyOrDiff env t2 {} true (some (packingList env w))).report.new = [] ∧
      (verifyOrDiff env t2 {} true (some (packingList env w))).report.missing ≠ []) ∧
    ((verifyOrDiff env t2 {} true (some (packingList env w))).exitCode = 0 ↔
      (verifyOrDiff env t2 {} true (some (packingList env w))).report.mismatch = [] ∧
      (verifyOrDiff env t2 {} true (some (packingList env w))).report.new = [] ∧
      (verifyOrDiff env t2 {} true (some (packingList env w))).report.missing = []) := by
  exact verify_precedence_of_loaded env t2 (some _) _ rfl (plHist_gens_ne _)

/-! #### removed / added once more, on the model's own trees: a root-level file removed / added -/

/-- removed, on the model's own tree: the root-level file `n` removed (no `ascmhl` folder needed) -/
theorem verify_pl_removed_root (hS : Setting env rn cs o) (w : Written)
    (hw : (createFolder env (.dir rn cs none) o).written = [w]) (n : String)
    (hp : ([n], false) ∈ visiblePaths (hit0 env o) (.dir rn cs none)) :
    (verifyOrDiff env (removeRoot rn cs n) {} true (some (packingList env w))).err = some errMissingFiles ∧
    (verifyOrDiff env (removeRoot rn cs n) {} true (some (packingList env w))).exitCode = 10 ∧
    (verifyOrDiff env (removeRoot rn cs n) {} true (some (packingList env w))).report.mismatch = [] ∧
    (verifyOrDiff env (removeRoot rn cs n) {} true (some (packingList env w))).report.new = [] ∧
    (verifyOrDiff env (removeRoot rn cs n) {} true (some (packingList env w))).report.missing = [posix [n]] := by
  rw [show removeRoot rn cs n = Node.updateAt (removeChild n) (.dir rn cs none) [] from
    (updateAt_nil (removeChild n) (.dir rn cs none)).symm]
  exact (pl_snapshot hS w hw).removedAt (some _) true [] n rfl hp ((pl_expected hS w hw [n]).2 hp)

/-- added, on the model's own tree: one more root-level file `n`, not ignored, well-formed, not yet in the folder -/
theorem verify_pl_added_root (hS : Setting env rn cs o) (w : Written)
    (hw : (createFolder env (.dir rn cs none) o).written = [w]) (n : String) (b : Bytes)
    (hn : NameOk n) (hfresh : ∀ c ∈ cs, c.name ≠ n) (hvisible : hit0 env o [n] = false) :
    (verifyOrDiff env (addRoot rn cs n b) {} true (some (packingList env w))).err = some errNewFiles ∧
    (verifyOrDiff env (addRoot rn cs n b) {} true (some (packingList env w))).exitCode = 21 ∧
    (verifyOrDiff env (addRoot rn cs n b) {} true (some (packingList env w))).report.mismatch = [] ∧
    (∀ s, s ∈ (verifyOrDiff env (addRoot rn cs n b) {} true (some (packingList env w))).report.new ↔
      s = posix [n]) ∧
    (verifyOrDiff env (addRoot rn cs n b) {} true (some (packingList env w))).report.missing = [] := by
  have hfresh' : (Node.dir rn cs none).at? ([] ++ [n]) = none := by
    rw [List.nil_append, Node.at?_dir_cons]
    cases hc : findChild cs n with
    | none => rfl
    | some c => exact absurd (findChild_some hc).2 (hfresh c (findChild_some hc).1)
  rw [show addRoot rn cs n b = Node.updateAt (addChild (.file n b)) (.dir rn cs none) [] from
    (updateAt_nil (addChild (.file n b)) (.dir rn cs none)).symm]
  obtain ⟨h1, h2, h3, h4, h5⟩ := (pl_snapshot hS w hw).addedAt (some _) true [] n b rfl rfl (Or.inl rfl) hfresh'
    hvisible ((pl_judge hS w hw _ true [n]).2 fun q hq hqp => by
      obtain rfl : q = [n] := posix_inj (visible_names_ok _ _ hS.namesOk _ hq).2
        (fun s hs => List.mem_singleton.1 hs ▸ hn) hqp
      obtain ⟨nm, c, hat⟩ := visible_file_at _ _ hS.distinct hq
      exact nomatch hfresh'.symm.trans hat)
  exact ⟨h1, h2, h3, fun s => by rw [h4]; exact List.mem_singleton, h5⟩

/-! ### 4. seal, reseal with other formats, flatten; and that `verify -pl` compares the entry `verify` compares, after
one seal and after two -/

/-- the tree after the second `create` (options `o₂`) on the sealed tree -/
def resealedTree (env : Env) (rn : String) (cs : List Node) (o o₂ : CreateOpts) : Node :=
  applyWritten (sealedTree env rn cs o) (createFolder env (sealedTree env rn cs o) o₂).written

/-- the history that tree loads as -/
def twoHist (w w₂ : Written) : Hist :=
  .mk [] [⟨1, w.gen⟩, ⟨2, w₂.gen⟩] [⟨w.number, w.gen.fileName⟩, ⟨w₂.number, w₂.gen.fileName⟩] true []

theorem resealed_written_facts (hS : Setting env rn cs o) (w w₂ : Written) (o₂ : CreateOpts)
    (hcli : ∀ x ∈ o₂.ignoreCli, x ∈ setPatterns none o.ignoreCli o.ignoreFile)
    (hfile : ∀ x ∈ o₂.ignoreFile, x ∈ setPatterns none o.ignoreCli o.ignoreFile)
    (hw : (createFolder env (.dir rn cs none) o).written = [w])
    (hw₂ : writeOne (sealedHist w) (cSession env (sealedTree env rn cs o) (sealedHist w) o₂) env.rootName env.stamp
        "in-place" none (sealedHist w) [] = .ok w₂) :
    w₂.histRoot = [] ∧ w₂.number = 2 ∧ w₂.gen.state = .ok ∧ parseGenName w₂.gen.fileName = some 2 ∧
      w₂.gen.ignore = pats o := by
  obtain ⟨hroot, hnum, hstate, hparse⟩ := MhlProps.C06.writeOne_next _ _ _ _ _ _ _ _ hw₂ hS.rootName hS.stamp
  have hnum2 : w₂.number = 2 := hnum
  exact ⟨hroot, hnum2, hstate, hnum2 ▸ hparse, (sealed_describes hS w hw).written_ignore _ o₂ hcli hfile hw₂ rfl⟩

theorem resealed_records (hS : Setting env rn cs o) (w w₂ : Written) (o₂ : CreateOpts)
    (hcli : ∀ x ∈ o₂.ignoreCli, x ∈ setPatterns none o.ignoreCli o.ignoreFile)
    (hfile : ∀ x ∈ o₂.ignoreFile, x ∈ setPatterns none o.ignoreCli o.ignoreFile)
    (hf₂ : o₂.formats ≠ []) (hdr₂ : o₂.detectRenaming = false)
    (hw : (createFolder env (.dir rn cs none) o).written = [w])
    (hwr₂ : (createFolder env (sealedTree env rn cs o) o₂).written = [w₂]) :
    Records (visiblePaths (hit0 env o) (.dir rn cs none)) (fileContent (.dir rn cs none))
      (fun p => writtenEntries env (sealedHist w).gens (posix p) (fileContent (.dir rn cs none) p) o₂.formats)
      w₂.gen := by
  obtain ⟨hd', hn', -⟩ := sealedTree_names hS
  have hfc : fileContent (sealedTree env rn cs o) = fileContent (.dir rn cs none) := funext fun p => by
    rw [sealedTree_eq hS w hw, fileContent_root_hist rn cs _ none]
  have F := writeOne_flat_gen env (sealedTree env rn cs o) o₂ (sealedHist w) rfl rfl hd' hn' hf₂ w₂
    (createFolder_writeOne env _ o₂ (sealedHist w) (sealed_tree_loads hS w hw).1 rfl hdr₂ w₂ hwr₂)
  rwa [resealed_vis hS w hw o₂ hcli hfile, hfc] at F

theorem resealed_entries (hS : Setting env rn cs o) (w : Written)
    (hw : (createFolder env (.dir rn cs none) o).written = [w]) (o₂ : CreateOpts) (p : RelPath)
    (hp : (p, false) ∈ visiblePaths (hit0 env o) (.dir rn cs none)) :
    (∀ e ∈ writtenEntries env (sealedHist w).gens (posix p) (fileContent (.dir rn cs none) p) o₂.formats,
      (e.fmt ∈ o.formats ∨ e.fmt ∈ o₂.formats) ∧
      e.digest = env.H e.fmt (fileContent (.dir rn cs none) p) ∧ e.action ≠ "failed" ∧
      (e.fmt ∉ o.formats → e.action = "verified") ∧ e.action ≠ "original") ∧
    ∀ f ∈ o₂.formats,
      ∃ e ∈ writtenEntries env (sealedHist w).gens (posix p) (fileContent (.dir rn cs none) p) o₂.formats,
        e.fmt = f := by
  have F := sealed_records hS w hw
  -- with respect to the history before the second run the file `p` is unaltered, and it has an original entry
  have hP : FirstOk (fun f => env.H f (fileContent (.dir rn cs none) p)) (sealedHist w).gens (posix p) :=
    (sealed_describes hS w hw).firstOk p hp
  have horig : findOriginal (sealedHist w).gens (posix p) ≠ none := by
    rw [show findOriginal (sealedHist w).gens (posix p) = _ from
      (sealed_first_coincides hS w hw p hp [] fun _ h => nomatch h).2]
    simp
  -- the recorded formats of the path are requested formats of the first run
  have hex : ∀ f, f ∈ existingFormats (sealedHist w).gens (posix p) → f ∈ o.formats := by
    intro f hf
    obtain ⟨g, hg, r', hr', e, he, rfl⟩ := (mem_existingFormats _ _ _).1 hf
    obtain rfl : g = ⟨1, w.gen⟩ := List.mem_singleton.1 hg
    obtain ⟨r, hr, hpath, -, -, hents⟩ := F.file p hp
    rw [← hpath, F.find_mem hr] at hr'
    cases hr'
    rw [hents] at he
    exact (origEntries_spec env _ o.formats e he).2.2
  refine ⟨fun e he => ?_, writtenEntries_requested hP o₂.formats⟩
  obtain ⟨hdig, hact⟩ := writtenEntries_unaltered hP o₂.formats e he
  rw [if_neg horig] at hact
  obtain ⟨e0, he0, rfl⟩ := (mem_writtenEntries env _ _ _ _ e).1 he
  refine ⟨?_, hdig, by rw [hact]; decide, fun _ => hact, by rw [hact]; decide⟩
  rw [relabel_fmt]
  rcases sealEntries_fmt_mem _ _ _ _ e0 he0 with h | h
  · exact Or.inl (hex _ h)
  · exact Or.inr ((mem_isort strLe o₂.formats _).1 h)

/-- seal with the formats of `o`, seal again (the tree unchanged) with the formats of
`o₂` (any non-empty list), flatten.  The two generations load as numbers 1 and 2; `flatten` cannot fail and its
result is determined (`flattenGen`); the packing list carries the unchanged pattern list; and it has exactly one
record per visible file, in which

* the formats are exactly the union of the formats of both runs, each once, sorted by name;
* every entry carries `env.H fmt content`; none is `failed`; the formats of the first run are `original`, those
  only the second run brought are `verified` -/
theorem flatten_two_generations (hS : Setting env rn cs o) (w : Written)
    (hw : (createFolder env (.dir rn cs none) o).written = [w]) (o₂ : CreateOpts) (hf₂ : o₂.formats ≠ [])
    (hdr₂ : o₂.detectRenaming = false)
    (hcli : ∀ x ∈ o₂.ignoreCli, x ∈ setPatterns none o.ignoreCli o.ignoreFile)
    (hfile : ∀ x ∈ o₂.ignoreFile, x ∈ setPatterns none o.ignoreCli o.ignoreFile) :
    ∃ w₂, (createFolder env (sealedTree env rn cs o) o₂).written = [w₂] ∧ w₂.number = 2 ∧
      loadHistory (resealedTree env rn cs o o₂) = .ok (twoHist w w₂) ∧
      flatten env (resealedTree env rn cs o o₂) [] [] =
        { written := if (sortedRecords (twoHist w w₂).gens).isEmpty then []
                     else [⟨[], 1, flattenGen env (twoHist w w₂).gens [] []⟩] } ∧
      (flattenGen env (twoHist w w₂).gens [] []).process = "flatten" ∧
      (flattenGen env (twoHist w w₂).gens [] []).ignore = setPatterns none o.ignoreCli o.ignoreFile ∧
      (flattenGen env (twoHist w w₂).gens [] []).records = sortedRecords (twoHist w w₂).gens ∧
      ((sortedRecords (twoHist w w₂).gens).map (·.path)).Nodup ∧
      (∀ r ∈ sortedRecords (twoHist w w₂).gens,
        ∃ p, (p, false) ∈ visiblePaths (hit0 env o) (.dir rn cs none) ∧ r.path = posix p) ∧
      (∀ p, (p, false) ∈ visiblePaths (hit0 env o) (.dir rn cs none) →
        ∃ r ∈ sortedRecords (twoHist w w₂).gens, r.path = posix p ∧ r.isDir = false ∧ r.prev = none ∧
          r.size = some (fileContent (.dir rn cs none) p).length ∧
          (∀ f, f ∈ r.entries.map (·.fmt) ↔ f ∈ o.formats ∨ f ∈ o₂.formats) ∧
          (r.entries.map (·.fmt)).Nodup ∧
          r.entries.Pairwise (fun a b => strLe a.fmt b.fmt = true) ∧
          (∀ e ∈ r.entries, e.digest = env.H e.fmt (fileContent (.dir rn cs none) p) ∧ e.action ≠ "failed" ∧
            (e.fmt ∈ o.formats → e.action = "original") ∧ (e.fmt ∉ o.formats → e.action = "verified"))) := by
  obtain ⟨w₂, -, hwr₂, -, -, hw₂⟩ := reseal_core hS w hw o₂ hdr₂ hcli hfile
  obtain ⟨hroot₂, hnum₂, hstate₂, hparse₂, hign₂⟩ := resealed_written_facts hS w w₂ o₂ hcli hfile hw hw₂
  have hl : loadHistory (resealedTree env rn cs o o₂) = .ok (twoHist w w₂) := by
    obtain ⟨-, -, hstate, hparse, -⟩ := written_facts hS w hw
    unfold resealedTree
    rw [hwr₂, sealedTree_eq hS w hw, applyWritten_root rn cs _ w₂ hroot₂]
    exact loadHistory_secondStore rn cs hS.flat w w₂ hparse hstate hparse₂ hstate₂
  have F1 := sealed_records hS w hw
  have F2 := resealed_records hS w w₂ o₂ hcli hfile hf₂ hdr₂ hw hwr₂
  have hgens : (twoHist w w₂).gens = [⟨1, w.gen⟩, ⟨2, w₂.gen⟩] := rfl
  have hgne : (twoHist w w₂).gens ≠ [] := by rw [hgens]; simp
  refine ⟨w₂, hwr₂, hnum₂, hl, flatten_eq env _ [] [] _ hl hgne, rfl, ?_, rfl, ?_, ?_, ?_⟩
  · exact flattenGen_ignore env (by simp [latestIgnore, twoHist, Hist.gens, hign₂]) (setPatterns_ne_nil _ _ _)
      (nodup_setPatterns _ _ _) (setPatterns_own none _ _)
  · rw [sortedRecords_paths]
    exact flatten_paths_unique _
  · intro r' hr'
    obtain ⟨-, -, g, hg, r, hr, hd, hrp, -⟩ := sortedRecords_origin _ r' hr'
    rw [← hrp]
    rw [hgens] at hg
    simp only [List.mem_cons, List.not_mem_nil, or_false] at hg
    rcases hg with rfl | rfl
    · exact (F1.of_file hr hd).imp fun p h => ⟨h.1, h.2.1⟩
    · exact (F2.of_file hr hd).imp fun p h => ⟨h.1, h.2.1⟩
  · intro p hp
    obtain ⟨r₂, -, -, -, -, he₂⟩ := F2.file p hp
    obtain ⟨hents₂, hall₂⟩ := resealed_entries hS w hw o₂ p hp
    rw [← he₂] at hents₂ hall₂
    -- the earliest non-failed entry of the file, format by format
    have hf : ∀ f, firstNonFailed (twoHist w w₂).gens (posix p) f =
        if f ∈ o.formats then some (mkOrig env (fileContent (.dir rn cs none) p) f)
        else r₂.entries.find? (fun e => e.fmt == f && e.action != "failed") := by
      intro f
      rw [hgens, F1.firstNonFailed_cons 1 _ hp, F2.firstNonFailed_cons 2 _ hp, origEntries_find_fmt, ← he₂]
      split <;> simp [firstNonFailed]
    -- the written record of the file
    obtain ⟨f0, hf0⟩ := List.exists_mem_of_ne_nil _ hS.formats
    obtain ⟨r, hr, hrp⟩ := sortedRecords_of_first (twoHist w w₂).gens (posix p) f0 _ ((hf f0).trans (if_pos hf0))
    obtain ⟨hsorted, hnd, hre⟩ := sortedRecords_entries _ r hr
    obtain ⟨hrd, hrprev, g, hg, r0, hr0, -, hr0p, hr0s⟩ := sortedRecords_origin _ r hr
    rw [hrp] at hre
    have hrsize : r.size = some (fileContent (.dir rn cs none) p).length := by
      rw [← hr0s]
      rw [hgens] at hg
      simp only [List.mem_cons, List.not_mem_nil, or_false] at hg
      rcases hg with rfl | rfl
      · exact (F1.of_path hp hr0 (hr0p.trans hrp)).2.1
      · exact (F2.of_path hp hr0 (hr0p.trans hrp)).2.1
    -- every entry of that record, described
    have hdesc : ∀ e ∈ r.entries, (e.fmt ∈ o.formats ∨ e.fmt ∈ o₂.formats) ∧
        e.digest = env.H e.fmt (fileContent (.dir rn cs none) p) ∧ e.action ≠ "failed" ∧
        (e.fmt ∈ o.formats → e.action = "original") ∧ (e.fmt ∉ o.formats → e.action = "verified") := by
      intro e he
      have hfe := (hre e).1 he
      rw [hf] at hfe
      split at hfe
      · next hin =>
        rw [← Option.some.inj hfe]
        exact ⟨Or.inl hin, rfl, by simp [mkOrig], fun _ => rfl, fun h => absurd hin h⟩
      · next hnin =>
        obtain ⟨a1, a2, a3, a4, -⟩ := hents₂ e (List.mem_of_find?_eq_some hfe)
        exact ⟨a1, a2, a3, fun h => absurd h hnin, a4⟩
    have hfm : ∀ f, f ∈ r.entries.map (·.fmt) ↔ f ∈ o.formats ∨ f ∈ o₂.formats := by
      intro f
      constructor
      · intro hm
        obtain ⟨e, he, rfl⟩ := List.mem_map.1 hm
        exact (hdesc e he).1
      · intro hm
        -- some entry is the earliest one of the format
        have hsome : ∃ e, firstNonFailed (twoHist w w₂).gens (posix p) f = some e := by
          rw [hf f]
          by_cases hin : f ∈ o.formats
          · exact ⟨_, if_pos hin⟩
          · obtain ⟨e, he, hef⟩ := hall₂ f (hm.resolve_left hin)
            rw [if_neg hin]
            exact Option.isSome_iff_exists.1 (List.find?_isSome.2 ⟨e, he, by simp [hef, (hents₂ e he).2.2.1]⟩)
        obtain ⟨e, he⟩ := hsome
        obtain rfl := (firstNonFailed_some _ _ _ _ he).1
        exact List.mem_map.2 ⟨e, (hre e).2 he, rfl⟩
    exact ⟨r, hr, hrp, hrd, hrprev, hrsize, hfm, hnd, hsorted, fun e he => (hdesc e he).2⟩

/-- after one seal: the entry `verify -pl` compares a visible file with is the entry `verify` compares it with -/
theorem verify_pl_same_entry_after_seal (hS : Setting env rn cs o) (w : Written)
    (hw : (createFolder env (.dir rn cs none) o).written = [w]) (p : RelPath)
    (hp : (p, false) ∈ visiblePaths (hit0 env o) (.dir rn cs none)) :
    findOriginal (plHist (packingList env w)).gens (posix p) = findOriginal (sealedHist w).gens (posix p) ∧
    findOriginal (sealedHist w).gens (posix p) =
      some (mkOrig env (fileContent (.dir rn cs none) p) (firstFormat o.formats)) := by
  rw [← flattenGen_after_seal hS w hw]
  exact sealed_first_coincides hS w hw p hp [] (fun _ h => nomatch h)

/-- after seal and reseal: the same -/
theorem verify_pl_same_entry_two_generations (hS : Setting env rn cs o) (w : Written)
    (hw : (createFolder env (.dir rn cs none) o).written = [w]) (o₂ : CreateOpts) (hf₂ : o₂.formats ≠ [])
    (hdr₂ : o₂.detectRenaming = false)
    (hcli : ∀ x ∈ o₂.ignoreCli, x ∈ setPatterns none o.ignoreCli o.ignoreFile)
    (hfile : ∀ x ∈ o₂.ignoreFile, x ∈ setPatterns none o.ignoreCli o.ignoreFile) (w₂ : Written)
    (hwr₂ : (createFolder env (sealedTree env rn cs o) o₂).written = [w₂]) (p : RelPath)
    (hp : (p, false) ∈ visiblePaths (hit0 env o) (.dir rn cs none)) :
    findOriginal (plHist (flattenGen env (twoHist w w₂).gens [] [])).gens (posix p) =
      findOriginal (twoHist w w₂).gens (posix p) ∧
    findOriginal (twoHist w w₂).gens (posix p) =
      some (mkOrig env (fileContent (.dir rn cs none) p) (firstFormat o.formats)) := by
  apply sealed_first_coincides hS w hw p hp [⟨2, w₂.gen⟩]
  intro g' hg' r' hr' _ hp' e he
  obtain rfl := List.mem_singleton.1 hg'
  rw [((resealed_records hS w w₂ o₂ hcli hfile hf₂ hdr₂ hw hwr₂).of_path hp hr' hp').2.2] at he
  exact ((resealed_entries hS w hw o₂ p hp).1 e he).2.2.2.2

end

end MhlProps.C18e2e

-- reopened without `MhlProps.C02rec`, which has an `exEnv`, `exOpts`, `exOpts2`, `exTree` of its own
namespace MhlProps.C18e2e
open MhlModel MhlProps.C03e2e

/-! ### non-vacuity and an independent evaluation of the pipeline

C03e2e's example: the tree `exTree` (two files, a sub-folder with a file, two ignored files), sealed with the
formats xxh64 and md5 (`exSetting`, `exW`, `exSealed`). -/

def exPL : Generation := packingList exEnv exW

theorem ex_vis : visiblePaths (hit0 exEnv exOpts) (.dir "root" exKids none) =
    [(["sub", "x"], false), (["a.txt"], false), (["b.txt"], false), (["sub"], true)] := by decide +kernel

/-- `flatten` on the sealed tree, EVALUATED (the history is the one `ex_load` gives): exit code 0, one generation,
number 1 at the root, process `flatten`, the pattern list of the seal, one record per visible FILE (the folder record
`sub` is dropped) with size and the two `original` digests sorted by format name -/
example : (flatten exEnv exSealed [] []).err = none ∧
    ((flatten exEnv exSealed [] []).written.map fun w => (w.histRoot, w.number, w.gen.process.toList)) =
      [([], 1, "flatten".toList)] ∧
    ((flatten exEnv exSealed [] []).written.map fun w => w.gen.fileName.toList) =
      ["packinglist_root_2020-01-16_091500Z.mhl".toList] ∧
    ((flatten exEnv exSealed [] []).written.map fun w => (w.gen.ignore, w.gen.rootHash.isNone)) =
      [([".DS_Store", "ascmhl", "ascmhl/", "skip.tmp"], true)] ∧
    ((flatten exEnv exSealed [] []).written.map fun w =>
      w.gen.records.map fun r => (r.path, r.isDir, r.size)) =
      [[("sub/x", false, some 1), ("a.txt", false, some 2), ("b.txt", false, some 1)]] ∧
    ((flatten exEnv exSealed [] []).written.map fun w =>
      w.gen.records.map fun r => (r.prev, r.entries.map fun e => (e.digest, e.action))) =
      [[(none, [("md5:1", "original"), ("xxh64:1", "original")]),
        (none, [("md5:2", "original"), ("xxh64:2", "original")]),
        (none, [("md5:1", "original"), ("xxh64:1", "original")])]] := by
  rw [flatten_eq exEnv exSealed [] [] (sealedHist exW) ex_load (sealedHist_gens_ne exW)]
  decide +kernel

/-- the hypothesis "the tree has a visible file" holds of the example -/
example : ∃ p, (p, false) ∈ visiblePaths (hit0 exEnv exOpts) (.dir "root" exKids none) :=
  ⟨["a.txt"], by rw [ex_vis]; decide⟩

/-- the same through the theorem: what `flatten` returns is `packingList exEnv exW` -/
example : flatten exEnv exSealed [] [] = { written := [⟨[], 1, exPL⟩] } := by
  have h := flatten_after_seal exSetting exW exW_written
  have he : (fileRecords exW.gen).isEmpty = false :=
    List.isEmpty_eq_false_iff.2 ((fileRecords_ne_nil_iff exSetting exW exW_written).2 ⟨["a.txt"], by rw [ex_vis]; decide⟩)
  rw [he] at h
  exact h

theorem ex_expected_pl : expectedPaths (plHist exPL) = [["sub", "x"], ["a.txt"], ["b.txt"]] := by
  rw [expectedPaths_eq_with]
  decide +kernel

/-- `verify -pl` on the sealed tree and on the original tree, EVALUATED: exit code 0, empty reports -/
example : (verifyOrDiff exEnv exSealed {} true (some exPL)).exitCode = 0 ∧
    (verifyOrDiff exEnv exSealed {} true (some exPL)).report.mismatch = [] ∧
    (verifyOrDiff exEnv exSealed {} true (some exPL)).report.new = [] ∧
    (verifyOrDiff exEnv exSealed {} true (some exPL)).report.missing = [] ∧
    (verifyOrDiff exEnv exTree {} true (some exPL)).exitCode = 0 := by
  rw [verifyOrDiff_loaded _ _ _ _ (some _) _ rfl (plHist_gens_ne _), verifyOrDiff_loaded _ _ _ _ (some _) _ rfl (plHist_gens_ne _)]
  unfold vMissing
  rw [ex_expected_pl]
  decide +kernel

/-- the same through the theorem -/
example : (verifyOrDiff exEnv exSealed {} true (some exPL)).err = none ∧
    (verifyOrDiff exEnv exTree {} true (some exPL)).err = none :=
  ⟨(verify_pl_after_seal exSetting exW exW_written).1.1, (verify_pl_after_seal exSetting exW exW_written).2.1⟩

/-- `a.txt` altered (three bytes instead of two), by the theorem: exit code 11, exactly `a.txt` reported … -/
example : (verifyOrDiff exEnv exAltered {} true (some exPL)).err = some errVerifyFailed ∧
    (verifyOrDiff exEnv exAltered {} true (some exPL)).exitCode = 11 ∧
    (verifyOrDiff exEnv exAltered {} true (some exPL)).report.mismatch = ["a.txt"] ∧
    (verifyOrDiff exEnv exAltered {} true (some exPL)).report.new = [] ∧
    (verifyOrDiff exEnv exAltered {} true (some exPL)).report.missing = [] :=
  verify_pl_altered_trees exSetting exW exW_written ["a.txt"] (by rw [ex_vis]; decide) [1, 2, 3] (by decide +kernel)

/-- … and EVALUATED -/
example : (verifyOrDiff exEnv exAltered {} true (some exPL)).exitCode = 11 ∧
    (verifyOrDiff exEnv exAltered {} true (some exPL)).report.mismatch = ["a.txt"] := by
  rw [verifyOrDiff_loaded _ _ _ _ (some _) _ rfl (plHist_gens_ne _)]
  unfold vMissing
  rw [ex_expected_pl]
  decide +kernel

/-- `a.txt` removed from the (unsealed) tree; a file `new.bin` added; both and `b.txt` altered -/
def exRemoved : Node :=
  .dir "root" [.file "b.txt" [7], .dir "sub" [.file "x" [3]] none, .file "skip.tmp" [9], .file ".DS_Store" []] none

def exAdded : Node := .dir "root" (exKids ++ [.file "new.bin" [1]]) none

def exAll : Node :=
  .dir "root" [.file "b.txt" [7, 7], .dir "sub" [.file "x" [3]] none, .file "new.bin" [1]] none

/-- EVALUATED: removed ⇒ exit code 10 naming the file; added ⇒ 21 naming it; a mismatch, a new file and a missing
file together ⇒ 11 (mismatch over new over missing), all three reported -/
example : (verifyOrDiff exEnv exRemoved {} true (some exPL)).exitCode = 10 ∧
    (verifyOrDiff exEnv exRemoved {} true (some exPL)).report.missing = ["a.txt"] ∧
    (verifyOrDiff exEnv exAdded {} true (some exPL)).exitCode = 21 ∧
    (verifyOrDiff exEnv exAdded {} true (some exPL)).report.new = ["new.bin"] ∧
    (verifyOrDiff exEnv exAll {} true (some exPL)).exitCode = 11 ∧
    (verifyOrDiff exEnv exAll {} true (some exPL)).report.mismatch = ["b.txt"] ∧
    (verifyOrDiff exEnv exAll {} true (some exPL)).report.new = ["new.bin"] ∧
    (verifyOrDiff exEnv exAll {} true (some exPL)).report.missing = ["a.txt"] := by
  rw [verifyOrDiff_loaded _ _ _ _ (some _) _ rfl (plHist_gens_ne _), verifyOrDiff_loaded _ _ _ _ (some _) _ rfl (plHist_gens_ne _), verifyOrDiff_loaded _ _ _ _ (some _) _ rfl (plHist_gens_ne _)]
  unfold vMissing
  rw [ex_expected_pl]
  decide +kernel

/-- through the theorems: `exRemoved` unfolds to `removeRoot "root" exKids "a.txt"` and `exAdded` to
`addRoot "root" exKids "new.bin" [1]` (the first two examples are accepted by that; the next two name the trees
of the theorems), and the hypotheses of `verify_pl_removed_root` / `verify_pl_added_root` (a
visible file; a well-formed fresh name that is not ignored) hold -/
example : (verifyOrDiff exEnv exRemoved {} true (some exPL)).err = some errMissingFiles ∧
    (verifyOrDiff exEnv exRemoved {} true (some exPL)).report.missing = ["a.txt"] :=
  have h := verify_pl_removed_root exSetting exW exW_written "a.txt" (by rw [ex_vis]; decide)
  ⟨h.1, h.2.2.2.2⟩

example : (verifyOrDiff exEnv exAdded {} true (some exPL)).err = some errNewFiles ∧
    "new.bin" ∈ (verifyOrDiff exEnv exAdded {} true (some exPL)).report.new :=
  have h := verify_pl_added_root exSetting exW exW_written "new.bin" [1] (by decide) (by decide) (by decide +kernel)
  ⟨h.1, (h.2.2.2.1 _).2 rfl⟩

example : (verifyOrDiff exEnv (removeRoot "root" exKids "a.txt") {} true (some exPL)).exitCode = 10 ∧
    (verifyOrDiff exEnv (removeRoot "root" exKids "a.txt") {} true (some exPL)).report.missing = ["a.txt"] :=
  have h := verify_pl_removed_root exSetting exW exW_written "a.txt" (by rw [ex_vis]; decide)
  ⟨h.2.1, h.2.2.2.2⟩

example : (verifyOrDiff exEnv (addRoot "root" exKids "new.bin" [1]) {} true (some exPL)).exitCode = 21 ∧
    "new.bin" ∈ (verifyOrDiff exEnv (addRoot "root" exKids "new.bin" [1]) {} true (some exPL)).report.new :=
  have h := verify_pl_added_root exSetting exW exW_written "new.bin" [1] (by decide) (by decide) (by decide +kernel)
  ⟨h.2.1, (h.2.2.2.1 _).2 rfl⟩

/-- an ignored file added is not "visible": the hypothesis `hit … [n] = false` of `verify_pl_added_root` fails for
it -/
example : hit0 exEnv exOpts ["skip.tmp"] = true := by decide +kernel

/-- the example sealed (xxh64, md5) and resealed with sha1 (`exOpts2`) -/
def exResealed : Node := resealedTree exEnv "root" exKids exOpts exOpts2

/-- its flattening, EVALUATED: each record has the union of the formats, sorted by name; the formats of the first
run `original`, the one the second run brought `verified`; no `failed` -/
example : (flatten exEnv exResealed [] []).err = none ∧
    ((flatten exEnv exResealed [] []).written.map fun w => (w.histRoot, w.number, w.gen.ignore)) =
      [([], 1, [".DS_Store", "ascmhl", "ascmhl/", "skip.tmp"])] ∧
    ((flatten exEnv exResealed [] []).written.map fun w =>
      w.gen.records.map fun r => (r.path, r.size, r.entries.map fun e => (e.digest, e.action))) =
      [[("sub/x", some 1, [("md5:1", "original"), ("sha1:1", "verified"), ("xxh64:1", "original")]),
        ("a.txt", some 2, [("md5:2", "original"), ("sha1:2", "verified"), ("xxh64:2", "original")]),
        ("b.txt", some 1, [("md5:1", "original"), ("sha1:1", "verified"), ("xxh64:1", "original")])]] := by
  decide +kernel

/-- the hypotheses of `flatten_two_generations` hold of the example -/
example : ∃ w₂, (createFolder exEnv exSealed exOpts2).written = [w₂] ∧ w₂.number = 2 ∧
    loadHistory exResealed = .ok (twoHist exW w₂) :=
  let ⟨w₂, h1, h2, h3, _⟩ := flatten_two_generations exSetting exW exW_written exOpts2 (by decide) rfl
    (by simp [exOpts2]) (by simp [exOpts2])
  ⟨w₂, h1, h2, h3⟩

/-- `OriginalsFirst` is satisfiable: the history of C18's example, for "b.mov" -/
example : OriginalsFirst MhlProps.C18.exGens "b.mov" [] (MhlProps.C18.exGens.headD default)
    (MhlProps.C18.exGens.drop 1)
    { path := "b.mov", size := some 7, entries := [⟨"xxh64", "b0", "original", none⟩] } :=
  { split := rfl, before := by simp, found := by decide, mem := by decide, file := rfl, path := rfl,
    unique := by decide, sorted := by simp, fmts := by simp, noFailed := by decide, original := by decide,
    after := by decide }

/-! ### a history with a RENAME: the end-to-end property FAILS (witness)

`flatten` takes over the file records of every generation but not their previous paths (`flattenRecords` builds
records with `prev = none`, see `sortedRecords_origin`), and it keeps the record of the OLD path.  So for a tree that
is unchanged since its last seal, in whose history a file was renamed (recorded with `-dr`), `verify` ends with 0
but `verify -pl` against the flattened history reports the old path as MISSING and ends with 10. -/

def exRenG1 : Generation :=
  { fileName := "0001_root_2020-01-16_091500Z.mhl", ignore := [".DS_Store", "ascmhl", "ascmhl/"],
    records := [{ path := "a.mov", size := some 1, entries := [⟨"md5", "md5:1", "original", none⟩] }] }

def exRenG2 : Generation :=
  { fileName := "0002_root_2020-01-17_091500Z.mhl", ignore := [".DS_Store", "ascmhl", "ascmhl/"],
    records := [{ path := "b.mov", size := some 1, prev := some "a.mov",
                  entries := [⟨"md5", "md5:1", "original", none⟩] }] }

def exRenStore : HistStore :=
  { gens := [exRenG1, exRenG2], chain := [⟨1, exRenG1.fileName⟩, ⟨2, exRenG2.fileName⟩] }

/-- the tree after the rename: only `b.mov` is there -/
def exRenTree : Node := .dir "root" [.file "b.mov" [7]] (some exRenStore)

def exRenHist : Hist := .mk [] [⟨1, exRenG1⟩, ⟨2, exRenG2⟩] exRenStore.chain true []

theorem exRen_load : loadHistory exRenTree = .ok exRenHist :=
  loadHistory_secondStore "root" [.file "b.mov" [7]] rfl ⟨[], 1, exRenG1⟩ ⟨[], 2, exRenG2⟩
    (by decide +kernel) rfl (by decide +kernel) rfl

/-- `verify` against the history: exit code 0, nothing reported -/
theorem exRen_verify : (verify exEnv exRenTree {}).exitCode = 0 ∧ (verify exEnv exRenTree {}).report.missing = [] := by
  rw [MhlProps.C03.verify_def, verifyOrDiff_loaded _ _ _ _ none exRenHist exRen_load (by decide)]
  have hexp : expectedPaths exRenHist = [["b.mov"]] := by
    simp only [expectedPaths, expectedOfGens, splitPath_eq_splitPathL]
    decide +kernel
  unfold vMissing
  rw [hexp]
  decide +kernel

def exRenPL : Generation := flattenGen exEnv exRenHist.gens [] []

theorem exRen_flatten_eq : flatten exEnv exRenTree [] [] = { written := [⟨[], 1, exRenPL⟩] } := by
  rw [flatten_eq exEnv exRenTree [] [] exRenHist exRen_load (by decide)]
  have : (MhlProps.C18.sortedRecords exRenHist.gens).isEmpty = false := by decide +kernel
  rw [this]
  rfl

/-- what `flatten` writes for it: a record for the old path and one for the new path, no previous path -/
theorem exRen_flatten :
    ((flatten exEnv exRenTree [] []).written.map fun w => w.gen.records.map fun r => (r.path, r.prev)) =
      [[("a.mov", none), ("b.mov", none)]] := by
  rw [exRen_flatten_eq]
  decide +kernel

/-- `verify -pl` of the SAME, unchanged tree against that packing list: exit code 10, `a.mov` reported missing.
The end-to-end property "verify -pl succeeds exactly when the files still have those digests" does not hold for a
history with a rename. -/
theorem flatten_verify_pl_rename_fails :
    (verify exEnv exRenTree {}).exitCode = 0 ∧
    (verifyOrDiff exEnv exRenTree {} true (some exRenPL)).exitCode = 10 ∧
    (verifyOrDiff exEnv exRenTree {} true (some exRenPL)).err = some errMissingFiles ∧
    (verifyOrDiff exEnv exRenTree {} true (some exRenPL)).report.missing = ["a.mov"] ∧
    (verifyOrDiff exEnv exRenTree {} true (some exRenPL)).report.mismatch = [] ∧
    (verifyOrDiff exEnv exRenTree {} true (some exRenPL)).report.new = [] := by
  refine ⟨exRen_verify.1, ?_⟩
  rw [verifyOrDiff_loaded _ _ _ _ (some _) _ rfl (plHist_gens_ne _)]
  unfold vMissing
  rw [expectedPaths_eq_with]
  decide +kernel

end MhlProps.C18e2e
