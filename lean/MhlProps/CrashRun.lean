/-
CrashRun — the known finding D6b is accepted only behind the hashing phase.

About `MhlModel/CrashRun.lean`: a whole `create` run as events (`Ev.read` for every media file hashed, `Ev.fs` for the
operations of the commit), the crash points of such a run, and `knownWindow` - the signature under which the harness
accepts the known finding D6b (first-ever create killed inside its commit window: the `ascmhl` folder exists without
chain file, exit 32): the state refuses AND the run reads no media file any more.

* the run as the code performs it (`runEvents`: hash, then commit): the disk is untouched while it reads, no read
  follows the first operation, and EVERY refusing crash point lies in the known window (3);
* the seeded change "make the ascmhl folders first, then hash" (`eagerRunEvents`): a refusing crash point OUTSIDE the
  known window exists as soon as there is one media file (6) - in fact the whole hashing phase is such (4);
* both orders perform the same operations and end in the same disk state (5): only the crash enumeration sees it (6).
-/
import MhlProps.C15

namespace MhlProps.CrashRun
open MhlModel.Crash MhlProps.CrashLemmas MhlProps.CrashRunLemmas MhlProps.C15

/-! ### 0. the model-level split of `c.ops`; the crash points of an event list -/

theorem ops_eq_mkdirPart_rest (c : HistCommit) : c.ops = c.mkdirPart ++ c.rest := by
  simp [HistCommit.ops, HistCommit.mkdirPart, HistCommit.rest]

/-- the model-level `mkdirPart` is the `mkdirOps` of the C15 proofs -/
theorem mkdirPart_eq_mkdirOps (c : HistCommit) : c.mkdirPart = mkdirOps c := rfl

/-- … and `rest` the operations behind it, spelt with C15's `manifestTail` -/
theorem rest_eq (c : HistCommit) : c.rest = .create (C15.mt c) :: manifestTail c := by
  simp [HistCommit.rest, manifestTail, chainTail, C15.mt, mp, ct, cp]

theorem mkdirPart_of_first {c : HistCommit} (hex : c.folderExists = false) : c.mkdirPart = [.mkdir c.folder] := by
  simp [HistCommit.mkdirPart, hex]

theorem mem_crashPoints (evs : List Ev) (k : Nat) (ops : List Op) :
    (k, ops) ∈ crashPoints evs ↔ k ≤ evs.length ∧ ops = evOps (evs.take k) := by
  simp only [crashPoints, List.mem_map, List.mem_range, Prod.mk.injEq]
  constructor
  · rintro ⟨a, ha, rfl, rfl⟩; exact ⟨by omega, rfl⟩
  · rintro ⟨hk, rfl⟩; exact ⟨k, by omega, rfl, rfl⟩

/-! ### 1. the operations of the run; nothing happens to the disk while it reads -/

theorem evOps_runEvents (reads : List String) (cs : List HistCommit) :
    evOps (runEvents reads cs) = createOps cs := by
  simp [runEvents, evOps_append]

theorem disk_unchanged_while_reading (fs : Fs) (reads : List String) (cs : List HistCommit) {k : Nat}
    (hk : k ≤ reads.length) : applyOps fs (evOps ((runEvents reads cs).take k)) = fs := by
  unfold runEvents
  rw [List.take_append_of_le_length (by simpa using hk), ← List.map_take, evOps_map_read]; rfl

theorem evOps_take_after_reads (reads : List String) (cs : List HistCommit) (j : Nat) :
    evOps ((runEvents reads cs).take (reads.length + j)) = (createOps cs).take j := by
  unfold runEvents
  rw [List.take_append, evOps_append]
  simp [← List.map_take]

/-- whatever the order of reads and operations (so for `eagerRunEvents` too): the operations performed at a crash point
are a prefix of all -/
theorem crash_point_mem_crashStates (fs : Fs) (evs : List Ev) (k : Nat) :
    applyOps fs (evOps (evs.take k)) ∈ crashStates fs (evOps evs) :=
  applyOps_mem_crashStates_of_prefix (evOps_take_prefix evs k)

/-- every crash point of the run leaves a crash state of the commit (in the sense of `crashStates`) -/
theorem run_crash_point_mem_crashStates (fs : Fs) (reads : List String) (cs : List HistCommit) (k : Nat) :
    applyOps fs (evOps ((runEvents reads cs).take k)) ∈ crashStates fs (createOps cs) := by
  rw [← evOps_runEvents reads cs]; exact crash_point_mem_crashStates fs _ k

/-! ### 2. where the reads are -/

theorem run_readsAfter_iff (reads : List String) (cs : List HistCommit) (k : Nat) :
    readsAfter (runEvents reads cs) k = true ↔ k < reads.length := by
  unfold runEvents
  rw [readsAfter_append, readsAfter_map_fs, Bool.or_false, readsAfter_map_read]

/-- with all media read no read follows: not at the boundary (nothing written yet), not once the first
operation has been performed -/
theorem run_no_read_after_hashing (reads : List String) (cs : List HistCommit) {k : Nat} (hk : k ≥ reads.length) :
    readsAfter (runEvents reads cs) k = false := by
  rw [← Bool.not_eq_true, run_readsAfter_iff]; omega

theorem run_read_follows_while_reading (reads : List String) (cs : List HistCommit) {k : Nat}
    (hk : k < reads.length) : readsAfter (runEvents reads cs) k = true :=
  (run_readsAfter_iff reads cs k).2 hk

/-! ### 3. the run as the code performs it: refusal only inside the known window -/

/-- 3 (general form). If the disk the run starts with does not refuse for `folder`, every refusing crash point of
the run - whatever it commits - lies in the known window.  The only hypothesis needed is the one on the start state:
while only reads have happened the disk is `fs` itself. -/
theorem run_refusal_only_in_known_window_of_start (fs : Fs) (reads : List String) (cs : List HistCommit)
    (folder : String) (hstart : refuses32 fs folder = false) (k : Nat)
    (href : refuses32 (applyOps fs (evOps ((runEvents reads cs).take k))) folder = true) :
    knownWindow (runEvents reads cs) k fs folder = true := by
  by_cases hk : k ≤ reads.length
  · rw [disk_unchanged_while_reading fs reads cs hk, hstart] at href
    cases href
  · unfold knownWindow
    rw [href, run_no_read_after_hashing reads cs (by omega)]; rfl

/-- 3. the first-ever commit (the `ascmhl` folder is not there: `c.folder ∉ fs.dirs` - this is what makes the start
state not refuse; `c.folderExists = false` and the missing chain file are the hypotheses of `first_create_window`,
kept so that the statement speaks about exactly that situation, but they are not used): every crash point of the run
whose disk state refuses with 32 lies in the known window -/
theorem run_refusal_only_in_known_window (fs : Fs) (reads : List String) (c : HistCommit)
    (_hex : c.folderExists = false) (_hnone : fsGet fs (cp c) = none) (hdir : c.folder ∉ fs.dirs) (k : Nat)
    (href : refuses32 (applyOps fs (evOps ((runEvents reads [c]).take k))) c.folder = true) :
    knownWindow (runEvents reads [c]) k fs c.folder = true := by
  refine run_refusal_only_in_known_window_of_start fs reads [c] c.folder ?_ k href
  rw [← Bool.not_eq_true, refuses32_iff]
  exact fun h => hdir h.1

/-- 3'. the extra hypothesis `c.folder ∉ fs.dirs` cannot be dropped: with a folder left behind by an earlier killed
first create the start state itself refuses, while reads are still to come -/
theorem run_refusal_needs_fresh_folder :
    ∃ (fs : Fs) (reads : List String) (c : HistCommit) (k : Nat),
      c.folderExists = false ∧ fsGet fs (cp c) = none ∧
      refuses32 (applyOps fs (evOps ((runEvents reads [c]).take k))) c.folder = true ∧
      knownWindow (runEvents reads [c]) k fs c.folder = false :=
  ⟨{ files := [], dirs := ["a/"] }, ["x.mov"],
    { folder := "a/", folderExists := false, manifestName := "1.mhl", manifestChunks := [], chainChunks := [] }, 0,
    by decide⟩

/-- 3''. the known window is not empty: for the run as the code performs it the point right behind the mkdir is in
it (the `first_create_window` state, with the information that nothing is read any more) -/
theorem run_known_window_nonempty (fs : Fs) (reads : List String) (c : HistCommit)
    (hex : c.folderExists = false) (hnone : fsGet fs (cp c) = none) :
    knownWindow (runEvents reads [c]) (reads.length + 1) fs c.folder = true := by
  unfold knownWindow
  rw [run_no_read_after_hashing reads [c] (by omega), evOps_take_after_reads, createOps_singleton,
    ops_eq_mkdirPart_rest, mkdirPart_of_first hex]
  simp only [List.singleton_append, List.take_succ_cons, List.take_zero, applyOps_cons, applyOps_nil,
    Bool.not_false, Bool.and_true]
  exact refuses32_mkdir hnone

/-! ### 4. the seeded variant: a refusing crash point outside the known window -/

theorem evOps_eagerRunEvents (reads : List String) (c : HistCommit) : evOps (eagerRunEvents reads c) = c.ops := by
  simp [eagerRunEvents, evOps_append, ops_eq_mkdirPart_rest]

theorem evOps_take_eager_hashing (reads : List String) (c : HistCommit) {j : Nat} (hj : j ≤ reads.length) :
    evOps ((eagerRunEvents reads c).take (c.mkdirPart.length + j)) = c.mkdirPart := by
  unfold eagerRunEvents
  rw [List.append_assoc, List.take_append, evOps_append]
  simp only [List.length_map, Nat.le_add_right, List.take_of_length_le, evOps_map_fs, Nat.add_sub_cancel_left]
  rw [List.take_append_of_le_length (by simpa using hj), ← List.map_take, evOps_map_read, List.append_nil]

/-- 4 (the whole widened window). In the seeded variant EVERY crash point inside the hashing phase - behind the
mkdir, before the last media file was opened - refuses with 32 and is outside the known window -/
theorem eager_hashing_phase_outside_known_window (fs : Fs) (reads : List String) (c : HistCommit)
    (hex : c.folderExists = false) (hnone : fsGet fs (cp c) = none) {j : Nat} (hj : j < reads.length) :
    refuses32 (applyOps fs (evOps ((eagerRunEvents reads c).take (1 + j)))) c.folder = true ∧
    readsAfter (eagerRunEvents reads c) (1 + j) = true ∧
    knownWindow (eagerRunEvents reads c) (1 + j) fs c.folder = false := by
  have hlen : c.mkdirPart.length = 1 := by rw [mkdirPart_of_first hex]; rfl
  have hops : evOps ((eagerRunEvents reads c).take (1 + j)) = [.mkdir c.folder] := by
    rw [← hlen, evOps_take_eager_hashing reads c (Nat.le_of_lt hj), mkdirPart_of_first hex]
  have hread : readsAfter (eagerRunEvents reads c) (1 + j) = true := by
    unfold eagerRunEvents
    rw [readsAfter_append, readsAfter_append, readsAfter_map_fs, Bool.false_or, Bool.or_eq_true]
    left
    rw [readsAfter_map_read]
    simp only [List.length_map, hlen]; omega
  have href : refuses32 (applyOps fs (evOps ((eagerRunEvents reads c).take (1 + j)))) c.folder = true := by
    rw [hops]; exact refuses32_mkdir hnone
  refine ⟨href, hread, ?_⟩
  unfold knownWindow
  rw [href, hread]; rfl

/-! ### 5. both orders end in the same disk state -/

/-- 5. the variant is indistinguishable for a run that completes -/
theorem eager_same_final_state (fs : Fs) (reads : List String) (c : HistCommit) :
    applyOps fs (evOps (eagerRunEvents reads c)) = applyOps fs c.ops := by
  rw [evOps_eagerRunEvents]

/-- 5'. … and equal to the final state of the run as the code performs it -/
theorem eager_same_final_state_as_run (fs : Fs) (reads : List String) (c : HistCommit) :
    applyOps fs (evOps (eagerRunEvents reads c)) = applyOps fs (evOps (runEvents reads [c])) := by
  rw [evOps_eagerRunEvents, evOps_runEvents, createOps_singleton]

/-- 5''. same number of events, same reads: nothing but the order differs -/
theorem eager_length (reads : List String) (c : HistCommit) :
    (eagerRunEvents reads c).length = (runEvents reads [c]).length := by
  simp [eagerRunEvents, runEvents, createOps_singleton, ops_eq_mkdirPart_rest]
  omega

/-! ### 6. the contrast -/

/-- 6. 3, 4 and 5' in one statement: same start, same commit, same media - the code's order has no refusing crash
point outside the known window, the seeded order has one -/
theorem orders_differ_only_in_crash_points (fs : Fs) (reads : List String) (c : HistCommit)
    (hreads : reads ≠ []) (hex : c.folderExists = false) (hnone : fsGet fs (cp c) = none)
    (hdir : c.folder ∉ fs.dirs) :
    (∀ k, refuses32 (applyOps fs (evOps ((runEvents reads [c]).take k))) c.folder = true →
        knownWindow (runEvents reads [c]) k fs c.folder = true) ∧
    (∃ k, refuses32 (applyOps fs (evOps ((eagerRunEvents reads c).take k))) c.folder = true ∧
        knownWindow (eagerRunEvents reads c) k fs c.folder = false) ∧
    applyOps fs (evOps (eagerRunEvents reads c)) = applyOps fs (evOps (runEvents reads [c])) := by
  refine ⟨fun k => run_refusal_only_in_known_window fs reads c hex hnone hdir k, ?_, ?_⟩
  · obtain ⟨h1, _, h3⟩ :=
      eager_hashing_phase_outside_known_window fs reads c hex hnone (List.length_pos_iff.2 hreads)
    exact ⟨1 + 0, h1, h3⟩
  · exact eager_same_final_state_as_run fs reads c

/-! ### 7. a concrete run: first create in "a/", two media files -/

section examples

-- `exC` and `exFs` below are this namespace's own; they are not the `C15.exC`, `C15.exFs` that `open MhlProps.C15`
-- also makes visible

def exC : HistCommit :=
  { folder := "a/", folderExists := false, manifestName := "1.mhl",
    manifestChunks := [[1, 2], [3]], chainChunks := [[7]] }
def exFs : Fs := { files := [("x.mov", [42]), ("y.mov", [43])], dirs := [] }
def exReads : List String := ["x.mov", "y.mov"]

/-- (k, refuses32, knownWindow) for every crash point -/
def exTable (evs : List Ev) : List (Nat × Bool × Bool) :=
  (crashPoints evs).map fun (k, ops) => (k, refuses32 (applyOps exFs ops) "a/", knownWindow evs k exFs "a/")

/-- the crash points of the run as the code performs it: 2 reads, then the 8 operations -/
example : (crashPoints (runEvents exReads [exC])).map (fun p => (p.1, p.2.length)) =
    [(0, 0), (1, 0), (2, 0), (3, 1), (4, 2), (5, 3), (6, 4), (7, 5), (8, 6), (9, 7), (10, 8)] := by decide +kernel

/-- the code's order: nothing refuses while it reads (k = 0, 1, 2); behind the mkdir (k = 3) up to the last operation
but one (k = 9) the state refuses and every such point is in the known window; the completed run (k = 10) is fine -/
example : exTable (runEvents exReads [exC]) =
    [(0, false, false), (1, false, false), (2, false, false),
     (3, true, true), (4, true, true), (5, true, true), (6, true, true), (7, true, true), (8, true, true),
     (9, true, true),
     (10, false, false)] := by decide +kernel

/-- the seeded order: mkdir (k = 1), then the reads: k = 1 and k = 2 refuse OUTSIDE the known window (a read is still
to come); from k = 3 on (all media read) the points are inside it again -/
example : exTable (eagerRunEvents exReads exC) =
    [(0, false, false),
     (1, true, false), (2, true, false),
     (3, true, true), (4, true, true), (5, true, true), (6, true, true), (7, true, true), (8, true, true),
     (9, true, true),
     (10, false, false)] := by decide +kernel

/-- refusing but not in the known window: none in the code's order, two in the seeded order -/
example : ((exTable (runEvents exReads [exC])).filter fun r => r.2.1 && !r.2.2).map (·.1) = [] := by decide +kernel
example : ((exTable (eagerRunEvents exReads exC)).filter fun r => r.2.1 && !r.2.2).map (·.1) = [1, 2] := by
  decide +kernel

/-- both end in the same state -/
example : applyOps exFs (evOps (eagerRunEvents exReads exC)) = applyOps exFs (evOps (runEvents exReads [exC])) :=
  eager_same_final_state_as_run _ _ _

end examples

end MhlProps.CrashRun
