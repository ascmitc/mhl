/-
C19seq — C19 END TO END.

  `info` on a folder lists, for its history and for every nested history, exactly the generations that exist, in
  ascending order; `info -sf FILE` prints exactly one line per digest recorded for that file, with generation
  number, format, digest and action as written; both fail with the no-history code (30) when there is no history.

Obtained by composing the model's own `create` / `applyWritten` (C06seq's `run`, C03e2e's `sealedTree`) with
`loadHistory`, `info` and `infoSingleFile`.  Five sections: `info` after any C06seq run; `info` on any tree that loads;
`info -sf` on a tree sealed once; `info -sf` after folder-mode runs over a file that is never edited, and generation
by generation when it is; no history.  On a folder in order (`C06seq.RunInv t n gs`, any point of a run) each of the
two commands is a function of `n` and the stored generations `gs` (`runInv_info`, `runInv_sf`); what section 4 adds to
C06seq's run theory is the recorded history `PInv` of the file over the generations a run writes (`step_record`,
`run_pinv`).  `info -sf` answers from the nearest enclosing history (`ownerHist`; DESIGN.md §8, D18); the trees of sections 3 and 4
have no nested histories, so there it is the root history under the path itself.
Non-vacuity: C06seq's `exSteps` (4 generations), a run that writes nothing, C03e2e's sealed example, and the nested
trees `big1` (only nested), `big3` (two levels), `c3` (three levels) of C04nested, by `decide +kernel`.

Helper lemmas: MhlProps/Proofs/InfoLemmas.lean.
-/
import MhlProps.C03e2e
import MhlProps.C06seq
import MhlProps.Proofs.InfoLemmas

namespace MhlProps.C19seq
open MhlModel MhlProps.C19 MhlProps.C06seq

/-! ### 1. `info` after a run -/

/-- the number of steps of a run that write a generation -/
def writes (env : Env) : Node → List Step → Nat
  | _, [] => 0
  | t, st :: rest =>
    (if (create { env with stamp := st.stamp } (st.edit t) st.opts).written.isEmpty then 0 else 1)
      + writes env (stepTree env t st) rest

/-- the steps that write are the generations written: each step writes at most one -/
theorem writes_eq (env : Env) (hrn : '\n' ∉ env.rootName.toList) (steps : List Step) :
    ∀ (t : Node) (n : Nat) (gs : List Generation), RunInv t n gs → (∀ st ∈ steps, st.Ok) →
      writes env t steps = (runGens env t steps).length := by
  induction steps with
  | nil => intro _ _ _ _ _; rfl
  | cons st steps ih =>
    intro t n gs h hok
    have hrest : ∀ x ∈ steps, x.Ok := fun x hx => hok x (by simp [hx])
    rw [writes, runGens, List.length_append, List.length_map]
    rcases step_inv env hrn t n gs h st (hok st (by simp)) with ⟨h0, h'⟩ | ⟨w, hw, h', -, -⟩
    · rw [h0, ih _ n gs h' hrest]; rfl
    · rw [hw, ih _ _ _ h' hrest]; rfl

/-! #### the two commands on a folder in order (`RunInv`: any point of a C06seq run) -/

/-- the trees of a C06seq run (`run`, `stepTree` from a folder without nested `ascmhl` folders) have NO nested
histories at any point: the loaded history has no children, so it owns every path -/
theorem runInv_children {t : Node} {n : Nat} {gs : List Generation} (hR : RunInv t n gs) (h : Hist)
    (hl : loadHistory t = .ok h) : h.children = [] ∧ ∀ p, ownerHist h p = h :=
  ⟨(loadHistory_flat t hR.flat h hl).1, fun p => ownerHist_of_no_children h p (loadHistory_flat t hR.flat h hl).1⟩

theorem runInv_numbers {t : Node} {n : Nat} {gs : List Generation} (hR : RunInv t n gs) :
    (numbered 1 gs).map (·.number) = List.range' 1 n := by
  obtain ⟨h, hl, hnum, -⟩ := id hR.good
  rwa [(hR.good.gens_eq hl).1] at hnum

theorem runInv_info {t : Node} {n : Nat} {gs : List Generation} (hR : RunInv t n gs) :
    info t = if n = 0 then .error errNoHistory else .ok ((List.range' 1 n).map fun k => (([] : RelPath), k)) := by
  obtain ⟨h, hl, -⟩ := id hR.good
  split
  · next h0 => exact (info_no_history t h [] hl ((hR.good.gens_nil_iff hl).2 h0)).1
  · next h0 =>
    rw [info_lines t h hl (mt (hR.good.gens_nil_iff hl).1 h0), infoLines_eq, (runInv_children hR h hl).1,
      List.flatMap_nil, List.append_nil, ownLines, loadHistory_root t h hl, (hR.good.gens_eq hl).1,
      ← runInv_numbers hR, List.map_map]
    rfl

theorem runInv_sf {t : Node} {n : Nat} {gs : List Generation} (hR : RunInv t n gs) (p : RelPath) :
    infoSingleFile t p = if n = 0 then .error errNoHistory else .ok (sfLines (numbered 1 gs) (posix p)) := by
  obtain ⟨h, hl, -⟩ := id hR.good
  split
  · next h0 => exact (info_no_history t h p hl ((hR.good.gens_nil_iff hl).2 h0)).2
  · next h0 =>
    rw [infoSingleFile_lines_flat t h p hl (mt (hR.good.gens_nil_iff hl).1 h0) (runInv_children hR h hl).1,
      (hR.good.gens_eq hl).1]

theorem runInv_sf_lines {t : Node} {n : Nat} {gs : List Generation} (hR : RunInv t n gs) (p : RelPath)
    (lines : List (Nat × String × String × String)) (hlines : infoSingleFile t p = .ok lines) :
    lines = sfLines (numbered 1 gs) (posix p) := by
  rw [runInv_sf hR p] at hlines
  split at hlines <;> cases hlines
  rfl

/-- Start from a folder without any `ascmhl` folder and apply ANY list of admissible steps
(C06seq: any media edits, any `create` options, folder mode or `-sf`, runs that end with an error included).  Let
`n = writes env t steps` be the number of steps that wrote a generation.  Then the history holds exactly `n`
generations, and
* if `n ≥ 1`, `info` succeeds and prints exactly the lines `([], 1), ([], 2), …, ([], n)`: every generation of the
  root history once, in ascending order, and nothing else;
* if `n = 0` (every step wrote nothing), `info` ends with `NoMHLHistoryException`, exit code 30. -/
theorem info_after_run (env : Env) (hrn : '\n' ∉ env.rootName.toList) (t : Node) (hdir : t.isDir = true)
    (hn : noNested t = true) (hh : t.hist = none) (steps : List Step) (hok : ∀ st ∈ steps, st.Ok) :
    (gensOf (run env t steps)).length = writes env t steps ∧ writes env t steps ≤ steps.length ∧
    (1 ≤ writes env t steps →
      info (run env t steps) = .ok ((List.range' 1 (writes env t steps)).map fun k => (([] : RelPath), k))) ∧
    (writes env t steps = 0 → info (run env t steps) = .error errNoHistory ∧ errNoHistory = .exit 30) := by
  obtain ⟨hi, hle⟩ := run_fresh env hrn t hdir hn hh steps hok
  rw [writes_eq env hrn steps t 0 [] (runInv_fresh t hdir hn hh) hok]
  rw [runInv_info hi]
  exact ⟨by rw [(goodHist_load _ _ _ hi.good).1], hle, fun h1 => if_neg (by omega),
    fun h0 => ⟨if_pos h0, errNoHistory_eq⟩⟩

/-! ### 2. `info` lists exactly the generations that exist -/

/-- no history (root or nested) holds a generation number twice.  True of every history the tool writes (names
`0001_…`, `0002_…`; `C06seq.run_numbers_contiguous`); NOT implied by `loadHistory` succeeding: two manifests
`0001_a.mhl` and `0001_b.mhl` in one `ascmhl` folder both load as generation 1 (`info_nodup_needs_numbers`). -/
def NumbersDistinct (h : Hist) : Prop := ∀ x ∈ h :: allDescendants h, (x.gens.map (·.number)).Nodup

/-- For ANY tree whose history loads and has at least one generation at the
root, `info` succeeds with a list `L` such that

* (exactness) `(r, k) ∈ L` iff some loaded history (the root one or a nested one) is rooted at `r` and has a
  generation numbered `k`;
* (blocks) `L` is, history by history in pre-order (`h :: allDescendants h`), the block `ownLines x` = the
  generations of `x` in loaded order; the root history's block comes first;
* (ascending) within every block the generation numbers are ascending (`loadGens` sorts by number);
* (pre-order) for every history `x` the listing of `x` and of everything nested in it is a CONTIGUOUS part of `L`
  that starts with `x`'s own block followed by the listings of its children in order; in particular the block of
  every nested history comes after the block of its parent;
* (on disk) with distinct sibling names, every line `(r, k)` names a folder `r` of the tree and a manifest numbered
  `k` that `loadGens` reads from that folder's `ascmhl` folder; the lines carrying the root `x.root` are exactly
  `x`'s block;
* (no duplicates) with distinct sibling names and no number twice in one history (`NumbersDistinct`), `L` is
  duplicate-free and every block is STRICTLY ascending.

Duplicate-freeness under `t.NamesDistinct` alone is FALSE of the model (`info_nodup_needs_numbers` below): two
manifests of one `ascmhl` folder may carry the same number, which `NumbersDistinct h` excludes. -/
theorem info_lists_exactly_existing (t : Node) (h : Hist) (hl : loadHistory t = .ok h) (hg : h.gens ≠ []) :
    ∃ L, info t = .ok L ∧
      (∀ r k, (r, k) ∈ L ↔ ∃ x ∈ h :: allDescendants h, x.root = r ∧ ∃ g ∈ x.gens, g.number = k) ∧
      L = (h :: allDescendants h).flatMap ownLines ∧
      L = ownLines h ++ (allDescendants h).flatMap ownLines ∧
      (∀ x ∈ h :: allDescendants h, ((ownLines x).map (·.2)).Pairwise (· ≤ ·)) ∧
      (∀ x ∈ h :: allDescendants h,
        infoLines x <:+: L ∧ infoLines x = ownLines x ++ x.children.flatMap infoLines) ∧
      (∀ x ∈ h :: allDescendants h, ∀ c ∈ x.children, ∃ a b d, L = a ++ ownLines x ++ b ++ ownLines c ++ d) ∧
      (t.NamesDistinct →
        (∀ r k, (r, k) ∈ L → ∃ n, t.at? r = some n ∧ ∃ g ∈ storeGens n.hist, g.number = k) ∧
        (∀ x ∈ h :: allDescendants h, L.filter (fun ln => ln.1 == x.root) = ownLines x) ∧
        (NumbersDistinct h → L.Nodup ∧
          ∀ x ∈ h :: allDescendants h, ((ownLines x).map (·.2)).Pairwise (· < ·))) := by
  have hsorted := loaded_all_sorted t h hl
  refine ⟨infoLines h, info_lines t h hl hg, fun r k => mem_infoLines h r k, infoLines_flat h, ?_, ?_, ?_, ?_, ?_⟩
  · rw [infoLines_flat h, List.flatMap_cons]
  · intro x hx
    rw [ownLines_snd]
    exact hsorted x hx
  · intro x hx
    exact ⟨infoLines_infix h x hx, infoLines_eq x⟩
  · intro x hx c hc
    exact infoLines_parent_first h x c hx hc
  · intro hd
    have hok := loadHistory_histOK t h hl hd
    obtain ⟨hroot, hgens, hdesc⟩ := loaded_all_on_disk t h hl hd
    refine ⟨?_, ?_, ?_⟩
    · intro r k hrk
      obtain ⟨x, hx, rfl, g, hgm, rfl⟩ := (mem_infoLines h r k).1 hrk
      rcases List.mem_cons.1 hx with rfl | hx
      · refine ⟨t, by rw [hroot]; exact Node.at?_nil t, g, by rw [← hgens]; exact hgm, rfl⟩
      · obtain ⟨n, s, hat, hh, hgs⟩ := hdesc x hx
        exact ⟨n, hat, g, by rw [hh]; show g ∈ loadGens s; rw [← hgs]; exact hgm, rfl⟩
    · intro x hx
      rw [infoLines_flat h]
      exact filter_root_block _ hok.nodup x hx
    · intro hnum
      refine ⟨?_, ?_⟩
      · rw [infoLines_flat h]
        exact flatMap_ownLines_nodup _ hok.nodup hnum
      · intro x hx
        rw [ownLines_snd]
        have h1 := hsorted x hx
        have h2 : (x.gens.map (·.number)).Pairwise (· ≠ ·) := hnum x hx
        exact (h1.and h2).imp (fun ⟨a, b⟩ => Nat.lt_of_le_of_ne a b)

/-- two manifests with the same number in one `ascmhl` folder: `0001_a_….mhl` and `0001_b_….mhl`, both listed in the
chain file (a manifest the chain does not list is not loaded at all, `C06.loadGens_listed_only`) -/
def dupNumTree : Node :=
  .dir "root" [.file "a.txt" [1]]
    (some { gens := [{ fileName := "0001_a_2020-01-01_000000Z.mhl" }, { fileName := "0001_b_2020-01-01_000000Z.mhl" }],
            chain := [⟨1, "0001_a_2020-01-01_000000Z.mhl"⟩, ⟨1, "0001_b_2020-01-01_000000Z.mhl"⟩] })

theorem info_nodup_needs_numbers :
    dupNumTree.NamesDistinct ∧ (∃ h, loadHistory dupNumTree = .ok h ∧ h.gens ≠ []) ∧
    info dupNumTree = .ok [([], 1), ([], 1)] ∧
    ¬ (∀ L, info dupNumTree = .ok L → L.Nodup) := by
  have hi : info dupNumTree = .ok [([], 1), ([], 1)] := by decide +kernel
  refine ⟨by simp [dupNumTree, Node.NamesDistinct, Node.NamesDistinctKids, Node.name], ?_, hi, ?_⟩
  · cases hl : loadHistory dupNumTree with
    | error e =>
      exfalso
      have : info dupNumTree = .error e := info_load_error _ e hl
      rw [hi] at this; cases this
    | ok h =>
      refine ⟨h, rfl, ?_⟩
      intro h0
      rw [(info_no_history dupNumTree h [] hl h0).1] at hi
      cases hi
  · intro hall
    have := hall _ hi
    simp at this

/-! ### `info -sf` answers from the nearest enclosing history -/

/-- the statement of `C19.infoSingleFile_nearest`, under the name C19seq is claimed by: the lines are those of the
NEAREST ENCLOSING history `ownerHist h f` under the path relative to its root (DESIGN.md §8, D18).  The trees of
sections 3 and 4 have no nested histories (`sealedHist_flat`, `runInv_children`), so there they are
`sfLines h.gens (posix f)`, the root history under the path itself. -/
theorem infoSingleFile_sfLines (t : Node) (h : Hist) (f : RelPath) (hl : loadHistory t = .ok h) (hg : h.gens ≠ []) :
    infoSingleFile t f = .ok (sfLines (ownerHist h f).gens (posix (f.drop (ownerHist h f).root.length))) :=
  infoSingleFile_nearest t h f hl hg

/-- the statement of `C19.infoSingleFile_lines_root`, with `sfLines` for its body -/
theorem infoSingleFile_sfLines_root (t : Node) (h : Hist) (f : RelPath) (hl : loadHistory t = .ok h) (hg : h.gens ≠ [])
    (ho : ownerHist h f = h) : infoSingleFile t f = .ok (sfLines h.gens (posix f)) :=
  infoSingleFile_lines_root t h f hl hg ho

/-! ### 3. `info -sf` on a tree sealed once -/

section afterSeal
open MhlProps.C03e2e
variable {env : Env} {rn : String} {cs : List Node} {o : CreateOpts}

/-- the history of a tree sealed once (C03e2e: a tree WITHOUT any `ascmhl` folder, sealed by one folder-mode `create`)
has no nested histories; so every path is owned by the root history, which is the one the theorems of this section
speak of -/
theorem sealedHist_flat (w : Written) : (sealedHist w).children = [] := rfl

/-- In the setting of C03e2e (a tree without history, sealed once by a folder-mode `create`
with formats `o.formats`), for every file `p` the run saw (at the top level or in a sub-folder), `info -sf p` on the
sealed tree succeeds and prints exactly one line per DISTINCT requested format:
`(1, f, env.H f content, "original")` for `f` in `fmtList o.formats` — the requested formats, each once, in strictly
ascending format-name order (the writer sorts the entries of a record), generation number 1, the digest of the
file's content in that format, action `original`.  Nothing else is printed. -/
theorem info_sf_after_seal (hS : Setting env rn cs o) (p : RelPath)
    (hp : (p, false) ∈ visiblePaths (hit0 env o) (.dir rn cs none)) :
    infoSingleFile (sealedTree env rn cs o) p =
      .ok ((fmtList o.formats).map fun f => (1, f, env.H f (fileContent (.dir rn cs none) p), "original")) ∧
    fileContent (sealedTree env rn cs o) p = fileContent (.dir rn cs none) p ∧
    (fmtList o.formats).Pairwise (· < ·) ∧ (∀ f, f ∈ fmtList o.formats ↔ f ∈ o.formats) ∧
    fmtList o.formats ≠ [] := by
  obtain ⟨w, -, hw, -⟩ := first_seal_core hS
  obtain ⟨hl, -⟩ := sealed_tree_loads hS w hw
  obtain ⟨r, hfind, -, -, hents⟩ := (sealed_records hS w hw).find_file hp
  refine ⟨?_, ?_, fmtList_sorted _, mem_fmtList _, fmtList_ne_nil _ hS.formats⟩
  · rw [infoSingleFile_lines_flat _ _ p hl (sealedHist_gens_ne w) (sealedHist_flat w)]
    simp only [sealedHist, Hist.gens, sfLines_single, recordEntries, hfind, hents, origEntries_eq_map, List.map_map]
    rfl
  · rw [sealedTree_eq hS w hw]
    exact fileContent_root_hist rn cs _ none p

theorem info_sf_after_seal_count (hS : Setting env rn cs o) (p : RelPath)
    (hp : (p, false) ∈ visiblePaths (hit0 env o) (.dir rn cs none)) :
    ∃ lines, infoSingleFile (sealedTree env rn cs o) p = .ok lines ∧ lines.length = (fmtList o.formats).length ∧
      1 ≤ lines.length ∧ lines.length ≤ o.formats.length ∧ (lines.map (·.2.1)).Nodup := by
  refine ⟨_, (info_sf_after_seal hS p hp).1, by simp, ?_, ?_, ?_⟩
  · simp only [List.length_map]
    exact List.length_pos_iff.2 (fmtList_ne_nil _ hS.formats)
  · simp only [List.length_map]
    exact fmtList_length_le _
  · simp only [List.map_map, Function.comp_def, List.map_id']
    exact fmtList_nodup _

/-- a path the run did not see (ignored by the patterns, or not in the tree) has no line at all: `info -sf` still
succeeds (the history has a generation) and prints nothing -/
theorem info_sf_after_seal_unseen (hS : Setting env rn cs o) (p : RelPath) (hpn : p ≠ [])
    (hpok : ∀ s ∈ p, NameOk s) (hp : ∀ d, (p, d) ∉ visiblePaths (hit0 env o) (.dir rn cs none)) :
    infoSingleFile (sealedTree env rn cs o) p = .ok [] := by
  obtain ⟨w, -, hw, -⟩ := first_seal_core hS
  obtain ⟨hl, -⟩ := sealed_tree_loads hS w hw
  rw [infoSingleFile_lines_flat _ _ p hl (sealedHist_gens_ne w) (sealedHist_flat w)]
  simp [sealedHist, Hist.gens, sfLines_single, recordEntries, (sealed_records hS w hw).find_none
    (fun x hx => (visible_names_ok _ _ hS.namesOk x hx).2) hpn hpok hp]

end afterSeal

/-! ### 4. `info -sf` after a run -/

/-- a folder-mode step (no `-sf`) without `-dr` and with at least one format -/
structure FolderStep (st : Step) : Prop where
  ok : st.Ok
  folder : st.opts.singleFiles = []
  noRename : st.opts.detectRenaming = false
  formats : st.opts.formats ≠ []

/-- the tree a `create` runs on: sibling names distinct, names well formed (no '/', not "."), and whatever is at
`p` is a file with content `c` (the file may also be absent, or hidden by an ignore pattern) -/
structure FileKept (p : RelPath) (c : Bytes) (t : Node) : Prop where
  distinct : t.NamesDistinct
  namesOk : t.NamesOk
  file : ∀ n, t.at? p = some n → ∃ nm, n = .file nm c

/-- `P` holds of the tree every step's `create` runs on (the tree after that step's media edit) -/
def Along (env : Env) (P : Node → Prop) : Node → List Step → Prop
  | _, [] => True
  | t, st :: rest => P (st.edit t) ∧ Along env P (stepTree env t st) rest

/-- what holds at every point of a run over a file that is never edited -/
structure FInv (env : Env) (p : RelPath) (c : Bytes) (t : Node) (n : Nat) : Prop where
  run : ∃ gs, RunInv t n gs
  file : ∀ h, loadHistory t = .ok h → PInv env (posix p) c h.gens

theorem fileKept_ne_nil {p : RelPath} {c : Bytes} {t : Node} (hk : FileKept p c t) (hdir : t.isDir = true) :
    p ≠ [] := by
  intro h0
  subst h0
  obtain ⟨nm, hnm⟩ := hk.file t (Node.at?_nil t)
  rw [hnm] at hdir
  cases hdir

theorem fileKept_content {p : RelPath} {c : Bytes} {t : Node} (hk : FileKept p c t) (hit : RelPath → Bool)
    (hv : (p, false) ∈ visiblePaths hit t) : fileContent t p = c := by
  obtain ⟨n0, hat, -⟩ := MhlProps.C02.visible_on_disk hit t hk.distinct p false hv
  obtain ⟨nm, rfl⟩ := hk.file n0 hat
  simp [fileContent, hat]

theorem fileKept_not_dir {p : RelPath} {c : Bytes} {t : Node} (hk : FileKept p c t) (hit : RelPath → Bool) :
    (p, true) ∉ visiblePaths hit t := by
  intro hv
  obtain ⟨n0, hat, hd⟩ := MhlProps.C02.visible_on_disk hit t hk.distinct p true hv
  obtain ⟨nm, rfl⟩ := hk.file n0 hat
  cases hd

/-- `writeOne_flat_gen` read for the one path `p`: recorded with `writtenEntries` of its content if the run saw it, no
record otherwise -/
theorem written_find (env : Env) (t : Node) (o : CreateOpts) (h : Hist) (hl : loadHistory t = .ok h)
    (hflat : noNested t = true) (hdir : t.isDir = true) (hsf : o.singleFiles = []) (hdr : o.detectRenaming = false)
    (hf : o.formats ≠ []) (p : RelPath) (c : Bytes) (hk : FileKept p c t) (hpok : ∀ s ∈ p, NameOk s) (w : Written)
    (hw : (create env t o).written = [w]) :
    ((p, false) ∈ visiblePaths (MhlProps.C02rec.cHit env h o) t ∧
      ∃ r, w.gen.find (posix p) = some r ∧ r.entries = writtenEntries env h.gens (posix p) c o.formats) ∨
    ((∀ d, (p, d) ∉ visiblePaths (MhlProps.C02rec.cHit env h o) t) ∧ w.gen.find (posix p) = none) := by
  rw [create_eq_createFolder env t o hsf] at hw
  have hc := (loadHistory_flat t hflat h hl).1
  have F := writeOne_flat_gen env t o h hc (loadHistory_root t h hl) hk.distinct hk.namesOk hf w
    (createFolder_writeOne env t o h hl hc hdr w hw)
  have hpn := fileKept_ne_nil hk hdir
  by_cases hv : (p, false) ∈ visiblePaths (MhlProps.C02rec.cHit env h o) t
  · left
    obtain ⟨r0, hfind, -, -, hents⟩ := F.find_file hv
    rw [fileKept_content hk _ hv] at hents
    exact ⟨hv, r0, hfind, hents⟩
  · right
    have hnone : ∀ d, (p, d) ∉ visiblePaths (MhlProps.C02rec.cHit env h o) t := by
      intro d
      cases d with
      | false => exact hv
      | true => exact fileKept_not_dir hk _
    exact ⟨hnone, F.find_none (fun x hx => (visible_names_ok _ _ hk.namesOk x hx).2) hpn hpok hnone⟩

theorem finv_iff {env : Env} {p : RelPath} {c : Bytes} {t : Node} {n : Nat} :
    FInv env p c t n ↔ ∃ gs, RunInv t n gs ∧ PInv env (posix p) c (numbered 1 gs) := by
  constructor
  · rintro ⟨⟨gs, hR⟩, hf⟩
    obtain ⟨h, hl, -⟩ := id hR.good
    exact ⟨gs, hR, (hR.good.gens_eq hl).1 ▸ hf h hl⟩
  · rintro ⟨gs, hR, hP⟩
    exact ⟨⟨gs, hR⟩, fun h hl => (hR.good.gens_eq hl).1 ▸ hP⟩

/-- what a folder-mode step appends for the file `p`, nothing assumed of the file's past: `C06seq.step_inv` for the
generation, `written_find` for its record of `p` -/
theorem step_record (env : Env) (hrn : '\n' ∉ env.rootName.toList) (p : RelPath) (c' : Bytes)
    (hpok : ∀ s ∈ p, NameOk s) (t : Node) (n : Nat) (gs : List Generation) (hR : RunInv t n gs) (st : Step)
    (hst : FolderStep st) (hk : FileKept p c' (st.edit t)) :
    ((create { env with stamp := st.stamp } (st.edit t) st.opts).written = [] ∧ RunInv (stepTree env t st) n gs) ∨
    ∃ w hE, (create { env with stamp := st.stamp } (st.edit t) st.opts).written = [w] ∧
      RunInv (stepTree env t st) (n + 1) (gs ++ [w.gen]) ∧
      numbered 1 (gs ++ [w.gen]) = numbered 1 gs ++ [⟨n + 1, w.gen⟩] ∧ loadHistory (st.edit t) = .ok hE ∧
      (((p, false) ∈ visiblePaths (MhlProps.C02rec.cHit { env with stamp := st.stamp } hE st.opts) (st.edit t) ∧
          recordEntries ⟨n + 1, w.gen⟩ (posix p) =
            writtenEntries { env with stamp := st.stamp } (numbered 1 gs) (posix p) c' st.opts.formats) ∨
        ((p, false) ∉ visiblePaths (MhlProps.C02rec.cHit { env with stamp := st.stamp } hE st.opts) (st.edit t) ∧
          recordEntries ⟨n + 1, w.gen⟩ (posix p) = [])) := by
  rcases step_inv env hrn t n gs hR st hst.ok with ⟨h0, h'⟩ | ⟨w, hw, h', -, -⟩
  · exact Or.inl ⟨h0, h'⟩
  · have hgE := mediaEdit_good st.edit hst.ok.edit t hR.isDir hR.flat n gs hR.good
    obtain ⟨hE, hlE, -⟩ := id hgE
    obtain ⟨hEg, hlen⟩ := hgE.gens_eq hlE
    refine Or.inr ⟨w, hE, hw, h', by rw [numbered_append, hlen, Nat.add_comm]; rfl, hlE, ?_⟩
    rcases written_find { env with stamp := st.stamp } (st.edit t) st.opts hE hlE
      (hst.ok.edit.noNested t hR.isDir hR.flat) (hst.ok.edit.isDir t hR.isDir) hst.folder hst.noRename hst.formats
      p c' hk hpok w hw with ⟨hv, r0, hr0, hents⟩ | ⟨hnone, hfind⟩
    · exact Or.inl ⟨hv, by simp only [recordEntries, hr0, hents, hEg]⟩
    · exact Or.inr ⟨hnone false, by simp only [recordEntries, hfind]⟩

theorem finv_fresh (env : Env) (p : RelPath) (c : Bytes) (t : Node) (hdir : t.isDir = true)
    (hn : noNested t = true) (hh : t.hist = none) : FInv env p c t 0 :=
  finv_iff.2 ⟨[], runInv_fresh t hdir hn hh, PInv.nil env _ c⟩

/-- the one induction over steps of this section, in the closed form of `C06seq.run_runInv`; each step is
`step_record`, `PInv.append` and `writtenEntries_unaltered` -/
theorem run_pinv (env : Env) (hrn : '\n' ∉ env.rootName.toList) (p : RelPath) (c : Bytes)
    (hpok : ∀ s ∈ p, NameOk s) (steps : List Step) :
    ∀ (t : Node) (n : Nat) (gs : List Generation), RunInv t n gs → PInv env (posix p) c (numbered 1 gs) →
      (∀ st ∈ steps, FolderStep st) → Along env (FileKept p c) t steps →
      PInv env (posix p) c (numbered 1 (gs ++ runGens env t steps)) := by
  induction steps with
  | nil => intro t n gs _ hP _ _; rwa [runGens, List.append_nil]
  | cons st steps ih =>
    intro t n gs hR hP hok hal
    have hrest : ∀ x ∈ steps, FolderStep x := fun x hx => hok x (by simp [hx])
    obtain ⟨hk, hal'⟩ := hal
    rw [runGens]
    rcases step_record env hrn p c hpok t n gs hR st (hok st (by simp)) hk with
      ⟨h0, h'⟩ | ⟨w, hE, hw, h', hnum, -, hrec⟩
    · rw [h0]
      exact ih _ n gs h' hP hrest hal'
    · rw [hw, List.map_singleton, ← List.append_assoc]
      refine ih _ (n + 1) (gs ++ [w.gen]) h' (hnum ▸ hP.append _ fun r hr e he => ?_) hrest hal'
      have he' : e ∈ recordEntries ⟨n + 1, w.gen⟩ (posix p) := by simp only [recordEntries, hr]; exact he
      rcases hrec with ⟨-, heq⟩ | ⟨-, heq⟩
      · exact writtenEntries_unaltered (hP.stamp st.stamp).firstOk st.opts.formats e (heq ▸ he')
      · rw [heq] at he'; cases he'

theorem run_finv (env : Env) (hrn : '\n' ∉ env.rootName.toList) (p : RelPath) (c : Bytes)
    (hpok : ∀ s ∈ p, NameOk s) (steps : List Step) (t : Node) (n : Nat) (hI : FInv env p c t n)
    (hok : ∀ st ∈ steps, FolderStep st) (hal : Along env (FileKept p c) t steps) :
    FInv env p c (run env t steps) (n + writes env t steps) := by
  obtain ⟨gs, hR, hP⟩ := finv_iff.1 hI
  have hok' : ∀ st ∈ steps, st.Ok := fun st h => (hok st h).ok
  rw [writes_eq env hrn steps t n gs hR hok']
  exact finv_iff.2 ⟨_, (run_runInv env hrn steps t n gs hR hok').1, run_pinv env hrn p c hpok steps t n gs hR hP hok hal⟩

/-- A run from a folder without history whose steps are all folder-mode `create`s (no `-sf`,
no `-dr`, at least one format; any media edits, any ignore options, with or without directory hashes, runs that end
with an error included), over a file `p` that is NEVER EDITED: in the tree every `create` runs on, whatever is at
`p` is a file with content `c` (it may be absent or hidden by a pattern in some steps), sibling names are distinct
and names well formed.  Let `N` be the number of steps that wrote a generation.  If `N = 0`, `info -sf p` ends with
exit code 30; otherwise it succeeds and

* every line's generation number is in `1..N`, and the numbers are ascending along the list;
* every line's digest is `env.H fmt c`, the digest of the file's content in the line's format;
* no line has action `failed`; more precisely (what C04 predicts) every line is `original` or `verified`: the lines
  of the FIRST generation that records the file are all `original`, the lines of every later generation are all
  `verified` (formats recorded before and formats new in that generation alike). -/
theorem info_sf_after_run (env : Env) (hrn : '\n' ∉ env.rootName.toList) (t : Node) (hdir : t.isDir = true)
    (hn : noNested t = true) (hh : t.hist = none) (p : RelPath) (c : Bytes) (hpok : ∀ s ∈ p, NameOk s)
    (steps : List Step) (hsteps : ∀ st ∈ steps, FolderStep st) (hkeep : Along env (FileKept p c) t steps) :
    (writes env t steps = 0 → infoSingleFile (run env t steps) p = .error errNoHistory) ∧
    (1 ≤ writes env t steps → ∃ lines, infoSingleFile (run env t steps) p = .ok lines ∧
      (∀ ℓ ∈ lines, 1 ≤ ℓ.1 ∧ ℓ.1 ≤ writes env t steps) ∧
      (lines.map (·.1)).Pairwise (· ≤ ·) ∧
      (∀ ℓ ∈ lines, ℓ.2.2.1 = env.H ℓ.2.1 c) ∧
      (∀ ℓ ∈ lines, ℓ.2.2.2 ≠ "failed") ∧
      (∀ ℓ ∈ lines,
        (ℓ.2.2.2 = "original" ∧ ∀ ℓ' ∈ lines, ℓ.1 ≤ ℓ'.1) ∨
        (ℓ.2.2.2 = "verified" ∧ ∃ ℓ' ∈ lines, ℓ'.1 < ℓ.1 ∧ ℓ'.2.2.2 = "original"))) := by
  have hI := run_finv env hrn p c hpok steps t 0 (finv_fresh env p c t hdir hn hh) hsteps hkeep
  rw [Nat.zero_add] at hI
  obtain ⟨gs, hR, hP⟩ := finv_iff.1 hI
  rw [runInv_sf hR p]
  exact ⟨fun h0 => if_pos h0, fun hN => ⟨_, if_neg (by omega), sfLines_unaltered hP _ (runInv_numbers hR)⟩⟩

/-- one more folder-mode step from a folder in order, nothing assumed of the file's past; `ents` are the entries the
new generation records for `p` -/
theorem step_lines (env : Env) (hrn : '\n' ∉ env.rootName.toList) (p : RelPath) (c' : Bytes)
    (hpok : ∀ s ∈ p, NameOk s) (t : Node) (n : Nat) (gs : List Generation) (hR : RunInv t n gs) (st : Step)
    (hst : FolderStep st) (hk : FileKept p c' (st.edit t)) (lines : List (Nat × String × String × String))
    (hlines : infoSingleFile (stepTree env t st) p = .ok lines) :
    ∃ ents : List Entry,
      lines = sfLines (numbered 1 gs) (posix p) ++ ents.map (fun e => (n + 1, e.fmt, e.digest, e.action)) ∧
      (∀ e ∈ ents,
        e ∈ writtenEntries { env with stamp := st.stamp } (numbered 1 gs) (posix p) c' st.opts.formats) ∧
      ∀ hE, loadHistory (st.edit t) = .ok hE →
        (p, false) ∈ visiblePaths (MhlProps.C02rec.cHit { env with stamp := st.stamp } hE st.opts) (st.edit t) →
        (create { env with stamp := st.stamp } (st.edit t) st.opts).written ≠ [] →
        ents = writtenEntries { env with stamp := st.stamp } (numbered 1 gs) (posix p) c' st.opts.formats := by
  rcases step_record env hrn p c' hpok t n gs hR st hst hk with ⟨h0, h'⟩ | ⟨w, hE, hw, h', hnum, hlE, hrec⟩
  · refine ⟨[], ?_, fun e he => (by cases he), fun _ _ _ hne => absurd h0 hne⟩
    rw [runInv_sf_lines h' p lines hlines, List.map_nil, List.append_nil]
  · refine ⟨recordEntries ⟨n + 1, w.gen⟩ (posix p), ?_, ?_, ?_⟩
    · rw [runInv_sf_lines h' p lines hlines, hnum, sfLines_append, sfLines_single]
    · intro e he
      rcases hrec with ⟨-, heq⟩ | ⟨-, heq⟩
      · exact heq ▸ he
      · rw [heq] at he; cases he
    · intro hE' hlE' hvis _
      obtain rfl : hE = hE' := by rw [hlE] at hlE'; cases hlE'; rfl
      rcases hrec with ⟨-, heq⟩ | ⟨hn, -⟩
      · exact heq
      · exact absurd hvis hn

/-- Generation by generation.  At any point of such a run let one more folder-mode step
run on a tree in which `p` still has the content `c`.  The lines afterwards are the lines from before followed by
the lines of the new generation, all numbered `n + 1`, all with the digest of `c` in their format, all `original`
if there was no line before and all `verified` otherwise (recorded formats and new formats alike); and when the
generation was written and the run saw the file, EVERY requested format has a line in it. -/
theorem info_sf_unaltered_step (env : Env) (hrn : '\n' ∉ env.rootName.toList) (p : RelPath) (c : Bytes)
    (hpok : ∀ s ∈ p, NameOk s) (t : Node) (n : Nat) (hI : FInv env p c t n) (st : Step) (hst : FolderStep st)
    (hk : FileKept p c (st.edit t)) :
    ∀ lines, infoSingleFile (stepTree env t st) p = .ok lines →
      ∃ old new, lines = old ++ new ∧
        (∀ lines₀, infoSingleFile t p = .ok lines₀ → lines₀ = old) ∧
        (∀ ℓ ∈ new, ℓ.1 = n + 1 ∧ ℓ.2.2.1 = env.H ℓ.2.1 c ∧
          (old = [] → ℓ.2.2.2 = "original") ∧ (old ≠ [] → ℓ.2.2.2 = "verified")) ∧
        (∀ hE, loadHistory (st.edit t) = .ok hE →
          (p, false) ∈ visiblePaths (MhlProps.C02rec.cHit { env with stamp := st.stamp } hE st.opts) (st.edit t) →
          (create { env with stamp := st.stamp } (st.edit t) st.opts).written ≠ [] →
          ∀ f ∈ st.opts.formats, ∃ ℓ ∈ new, ℓ.2.1 = f) := by
  intro lines hlines
  obtain ⟨gs, hR, hP⟩ := finv_iff.1 hI
  obtain ⟨ents, rfl, hmem, hfull⟩ := step_lines env hrn p c hpok t n gs hR st hst hk lines hlines
  have hP' := hP.stamp st.stamp
  refine ⟨_, _, rfl, runInv_sf_lines hR p, ?_, ?_⟩
  · intro ℓ hℓ
    obtain ⟨e, he, rfl⟩ := List.mem_map.1 hℓ
    obtain ⟨a1, a2⟩ := writtenEntries_unaltered hP'.firstOk st.opts.formats e (hmem e he)
    exact ⟨rfl, a1, fun hold => a2.trans (if_pos (hP.orig_none_iff.2 hold)),
      fun hold => a2.trans (if_neg fun h0 => hold (hP.orig_none_iff.1 h0))⟩
  · intro hE hlE hvis hw f hf
    rw [hfull hE hlE hvis hw]
    obtain ⟨e, he, hfmt⟩ := writtenEntries_requested hP'.firstOk st.opts.formats f hf
    exact ⟨_, List.mem_map_of_mem he, hfmt⟩

/-- At any point of such a run (`FInv`: the file had content `c` whenever it was sealed;
`n` generations), let one more folder-mode step run on a tree in which the file `p` now has content `c'`.  Then the
lines of `info -sf p` afterwards are the lines from before (`old`, unchanged: generations `1..n`, digests of `c`)
followed by the lines of the new generation (`new`, all numbered `n + 1`), and for every new line

* the digest is `env.H fmt c'`, the digest of the NEW content;
* if its format was already recorded (occurs in an old line), its action is `failed` exactly when the digest of
  the new content differs from the digest of the old content in that format, `verified` exactly when they agree;
* if any new line is `failed`, every new line is in an already recorded format (no new format is added).

In particular, if something was recorded and the digests differ in EVERY recorded format, every new line is
`failed`; and the new generation does have lines when it was written and the run saw the file. -/
theorem info_sf_edited_step (env : Env) (hrn : '\n' ∉ env.rootName.toList) (p : RelPath) (c c' : Bytes)
    (hpok : ∀ s ∈ p, NameOk s) (t : Node) (n : Nat) (hI : FInv env p c t n) (st : Step) (hst : FolderStep st)
    (hk : FileKept p c' (st.edit t)) :
    ∀ lines, infoSingleFile (stepTree env t st) p = .ok lines →
      ∃ old new, lines = old ++ new ∧
        (∀ lines₀, infoSingleFile t p = .ok lines₀ → lines₀ = old) ∧
        (∀ ℓ ∈ old, 1 ≤ ℓ.1 ∧ ℓ.1 ≤ n ∧ ℓ.2.2.1 = env.H ℓ.2.1 c ∧ ℓ.2.2.2 ≠ "failed") ∧
        (∀ ℓ ∈ new, ℓ.1 = n + 1 ∧ ℓ.2.2.1 = env.H ℓ.2.1 c' ∧
          ((∃ ℓ₀ ∈ old, ℓ₀.2.1 = ℓ.2.1) →
            (ℓ.2.2.2 = "failed" ↔ env.H ℓ.2.1 c' ≠ env.H ℓ.2.1 c) ∧
            (ℓ.2.2.2 = "verified" ↔ env.H ℓ.2.1 c' = env.H ℓ.2.1 c)) ∧
          ((∃ ℓ' ∈ new, ℓ'.2.2.2 = "failed") → ∃ ℓ₀ ∈ old, ℓ₀.2.1 = ℓ.2.1)) ∧
        (old ≠ [] → (∀ ℓ₀ ∈ old, env.H ℓ₀.2.1 c' ≠ env.H ℓ₀.2.1 c) → ∀ ℓ ∈ new, ℓ.2.2.2 = "failed") ∧
        (∀ hE, loadHistory (st.edit t) = .ok hE →
          (p, false) ∈ visiblePaths (MhlProps.C02rec.cHit { env with stamp := st.stamp } hE st.opts) (st.edit t) →
          (create { env with stamp := st.stamp } (st.edit t) st.opts).written ≠ [] → new ≠ []) := by
  intro lines hlines
  obtain ⟨gs, hR, hP⟩ := finv_iff.1 hI
  obtain ⟨ents, rfl, hmem, hfull⟩ := step_lines env hrn p c' hpok t n gs hR st hst hk lines hlines
  have hP' := hP.stamp st.stamp
  obtain ⟨o1, -, o3, o4, -⟩ := sfLines_unaltered hP _ (runInv_numbers hR)
  refine ⟨_, _, rfl, runInv_sf_lines hR p, fun ℓ hℓ => ⟨(o1 ℓ hℓ).1, (o1 ℓ hℓ).2, o3 ℓ hℓ, o4 ℓ hℓ⟩, ?_, ?_, ?_⟩
  · intro ℓ hℓ
    obtain ⟨e, he, rfl⟩ := List.mem_map.1 hℓ
    obtain ⟨a1, a2, a3⟩ := writtenEntries_altered hP' c' st.opts.formats e (hmem e he)
    refine ⟨rfl, a1, ?_, ?_⟩
    · rintro ⟨ℓ₀, hℓ₀, hfmt⟩
      exact a2 ((mem_existing_iff_line _ _ _).2 ⟨ℓ₀, hℓ₀, hfmt⟩)
    · rintro ⟨ℓ', hℓ', hfail⟩
      obtain ⟨e', he', rfl⟩ := List.mem_map.1 hℓ'
      exact (mem_existing_iff_line _ _ _).1 (a3 ⟨e', hmem e' he', hfail⟩)
  · intro hne hdiff ℓ hℓ
    obtain ⟨e, he, rfl⟩ := List.mem_map.1 hℓ
    have hex : existingFormats (numbered 1 gs) (posix p) ≠ [] := by
      obtain ⟨ℓ₀, hℓ₀⟩ := List.exists_mem_of_ne_nil _ hne
      exact List.ne_nil_of_mem ((mem_existing_iff_line _ _ _).2 ⟨ℓ₀, hℓ₀, rfl⟩)
    have hd : ∀ f ∈ existingFormats (numbered 1 gs) (posix p), env.H f c' ≠ env.H f c := by
      intro f hf
      obtain ⟨ℓ₀, hℓ₀, rfl⟩ := (mem_existing_iff_line _ _ _).1 hf
      exact hdiff ℓ₀ hℓ₀
    exact ((writtenEntries_all_failed hP' c' st.opts.formats hex hd).2 e (hmem e he)).1
  · intro hE hlE hvis hw h0
    rw [hfull hE hlE hvis hw] at h0
    exact writtenEntries_ne_nil { env with stamp := st.stamp } _ (posix p) c' st.opts.formats hst.formats
      (List.map_eq_nil_iff.1 h0)

/-! ### 5. no history: exit code 30, everywhere

What is modelled.  The model's `info t` and `infoSingleFile t p` are the functions `info_for_entire_history(root)`
and `info_for_single_file(root, …)` of commands.py with `t` = the folder given as root path: both load the history
of THAT folder and raise `NoMHLHistoryException` (30) when it has no generation.  There is no DOWNWARD search in
the tool either: a folder that only has nested histories below it gives 30, in the tool and in the model
(`info_only_nested`).  The UPWARD search of `info -sf FILE` without a root path (walk up from the file's folder to
the nearest folder that has an `ascmhl` folder, and use that as root; 30 if there is none) is NOT part of the
model; it corresponds to calling `infoSingleFile` on the sub-tree at that folder with the path relative to it (an
example of this section).  Once the root history has a generation, a file that belongs to a nested history is
routed to the nearest enclosing nested history (`find_history_for_path` in the tool, `ownerHist` in the model;
DESIGN.md §8, D18); the no-history test itself is made on the ROOT history alone. -/

/-- `C19.info_no_history` with the exit code (`errNoHistory_eq`).  Whenever the history of the root folder loads and has no generation, `info`
and `info -sf` (for every file path) end with `NoMHLHistoryException`, exit code 30 — whatever nested histories the
tree holds. -/
theorem info_no_history_everywhere (t : Node) (h : Hist) (p : RelPath) (hl : loadHistory t = .ok h)
    (hg : h.gens = []) :
    info t = .error errNoHistory ∧ infoSingleFile t p = .error errNoHistory ∧ errNoHistory = .exit 30 :=
  ⟨(info_no_history t h p hl hg).1, (info_no_history t h p hl hg).2, errNoHistory_eq⟩

/-- in terms of the tree: the root folder has no `ascmhl` folder, or one in which every manifest is gone, is not listed
in the chain file (`load_from_path` ignores such a manifest), or has a name that is not a generation name.  Then both
commands end with 30 — unless loading fails (the chain file of the root's `ascmhl` folder or a NESTED history is
broken), in which case both end with that error instead. -/
theorem info_no_history_tree (t : Node) (p : RelPath)
    (hroot : t.hist = none ∨ ∃ s, t.hist = some s ∧
      ∀ g ∈ s.gens, g.state = .missing ∨ s.lists g.fileName = false ∨ parseGenName g.fileName = none) :
    (info t = .error errNoHistory ∧ infoSingleFile t p = .error errNoHistory ∧
        ∃ h, loadHistory t = .ok h ∧ h.gens = []) ∨
    (∃ e, loadHistory t = .error e ∧ info t = .error e ∧ infoSingleFile t p = .error e) := by
  cases hl : loadHistory t with
  | error e =>
    right
    exact ⟨e, rfl, info_load_error t e hl, infoSingleFile_load_error t p e hl⟩
  | ok h =>
    left
    have hg : h.gens = [] := by
      rw [loaded_gens_eq t h hl]
      rcases hroot with h0 | ⟨s, hs, hall⟩
      · simp only [h0, storeGens]
      · rw [hs]
        exact (loadGens_eq_nil_iff s).2 hall
    exact ⟨(info_no_history t h p hl hg).1, (info_no_history t h p hl hg).2, h, rfl, hg⟩

/-- a tree with ONLY nested histories: no `ascmhl` folder at the root, the tree loads, some nested history has
generations.  `info` does not look downward: 30. -/
theorem info_only_nested (t : Node) (h : Hist) (p : RelPath) (hh : t.hist = none) (hl : loadHistory t = .ok h)
    (_hnested : ∃ x ∈ allDescendants h, x.gens ≠ []) :
    info t = .error errNoHistory ∧ infoSingleFile t p = .error errNoHistory := by
  have hg : h.gens = [] := by simp only [loaded_gens_eq t h hl, hh, storeGens]
  exact info_no_history t h p hl hg

/-! ### non-vacuity -/

section Examples
open MhlProps.C04nested

/-! #### the run `exSteps` of C06seq: four generations; its first three steps are folder-mode steps, `sub/x` is never
edited, `a.txt` is edited before step 2 -/

def exSteps3 : List Step := exSteps.take 3

def exStep2 : Step := ⟨editFile ["a.txt"] [1, 2], { formats := ["sha1", "md5"], ignoreCli := ["b.tmp"] }, "2020-01-02_000000Z"⟩

def keptB (p : RelPath) (c : Bytes) (t : Node) : Bool := namesDistinctB t && decide t.NamesOk && fileIsB p c t

theorem fileKept_of_check (p : RelPath) (c : Bytes) (t : Node) (h : keptB p c t = true) : FileKept p c t := by
  simp only [keptB, Bool.and_eq_true, decide_eq_true_eq] at h
  exact ⟨namesDistinctB_sound t h.1.1, h.1.2, fileIsB_sound p c t h.2⟩

def alongB (env : Env) (chk : Node → Bool) : Node → List Step → Bool
  | _, [] => true
  | t, st :: rest => chk (st.edit t) && alongB env chk (stepTree env t st) rest

theorem along_of_check (env : Env) (p : RelPath) (c : Bytes) :
    ∀ (steps : List Step) (t : Node), alongB env (keptB p c) t steps = true → Along env (FileKept p c) t steps
  | [], _, _ => trivial
  | st :: rest, t, h => by
    rw [alongB, Bool.and_eq_true] at h
    exact ⟨fileKept_of_check _ _ _ h.1, along_of_check env p c rest _ h.2⟩

/-- what is evaluated of the run and its initial parts, once (each evaluation of a run by the kernel is dear): the
number of steps that write; the lines of `info -sf`; the checks that `sub/x` is never edited and that `a.txt` has the
content `[1]` at step 1 and `[1, 2]` at step 2 -/
theorem exRun_facts :
    (writes exEnv exTree exSteps = 4 ∧ writes exEnv exTree exSteps3 = 3 ∧ writes exEnv exTree (exSteps.take 1) = 1) ∧
    (infoSingleFile (run exEnv exTree exSteps3) ["sub", "x"] =
      .ok [(1, "xxh128", "xxh128:0", "original"),
           (2, "md5", "md5:0", "verified"), (2, "sha1", "sha1:0", "verified"), (2, "xxh128", "xxh128:0", "verified"),
           (3, "xxh128", "xxh128:0", "verified")] ∧
    infoSingleFile (run exEnv exTree (exSteps.take 2)) ["a.txt"] =
      .ok [(1, "xxh128", "xxh128:1", "original"), (2, "xxh128", "xxh128:2", "failed")]) ∧
    alongB exEnv (keptB ["sub", "x"] []) exTree exSteps3 = true ∧
    alongB exEnv (keptB ["a.txt"] [1]) exTree (exSteps.take 1) = true ∧
    keptB ["a.txt"] [1, 2] (exStep2.edit (run exEnv exTree (exSteps.take 1))) = true := by
  decide +kernel

example : writes exEnv exTree exSteps = 4 := exRun_facts.1.1

/-- `info` after the run, through `info_after_run` -/
theorem exRun_info : info (run exEnv exTree exSteps) = .ok ((List.range' 1 4).map fun k => (([] : RelPath), k)) := by
  have h := (info_after_run exEnv (by decide) exTree rfl (by rfl) rfl exSteps exSteps_ok).2.2.1
  rw [exRun_facts.1.1] at h
  exact h (by decide)

example : info (run exEnv exTree exSteps) = .ok [([], 1), ([], 2), ([], 3), ([], 4)] := exRun_info

example : info (run exEnv exTree exSteps) = .ok ((List.range' 1 4).map fun k => (([] : RelPath), k)) := exRun_info

/-- a run whose only step writes nothing: 30 -/
def exStepsNone : List Step := [⟨replaceKids [.dir "empty" [] none], { singleFiles := [["empty"]] }, "2020-01-05_000000Z"⟩]

example : (∀ st ∈ exStepsNone, st.Ok) ∧ writes exEnv exTree exStepsNone = 0 ∧
    info (run exEnv exTree exStepsNone) = .error (.exit 30) := by
  have hok : ∀ st ∈ exStepsNone, st.Ok := by
    intro st hst
    simp only [exStepsNone, List.mem_singleton] at hst
    subst hst
    exact ⟨mediaEdit_replaceKids _ (by rfl), by decide⟩
  have hw : writes exEnv exTree exStepsNone = 0 := by decide +kernel
  exact ⟨hok, hw, ((info_after_run exEnv (by decide) exTree rfl (by rfl) rfl exStepsNone hok).2.2.2 hw).1⟩

theorem exSteps3_folder : ∀ st ∈ exSteps3, FolderStep st := by
  intro st hst
  have hok := exSteps_ok st (List.mem_of_mem_take hst)
  simp only [exSteps3, exSteps, List.take_succ_cons, List.take_zero, List.mem_cons, List.not_mem_nil,
    or_false] at hst
  rcases hst with rfl | rfl | rfl <;> exact ⟨hok, rfl, rfl, by decide⟩

theorem exSteps3_keeps : Along exEnv (FileKept ["sub", "x"] []) exTree exSteps3 :=
  along_of_check _ _ _ _ _ exRun_facts.2.2.1

/-- the hypotheses of `info_sf_after_run` hold for `sub/x` over these three steps, and all three write -/
example : (∀ s ∈ (["sub", "x"] : RelPath), NameOk s) ∧ (∀ st ∈ exSteps3, FolderStep st) ∧
    Along exEnv (FileKept ["sub", "x"] []) exTree exSteps3 ∧ writes exEnv exTree exSteps3 = 3 :=
  ⟨by decide, exSteps3_folder, exSteps3_keeps, exRun_facts.1.2.1⟩

/-- the lines for `sub/x` after these three steps, evaluated: generation 1 `original`, generation 2 the recorded format `verified` and the two new
ones `verified`, generation 3 `verified` -/
example : infoSingleFile (run exEnv exTree exSteps3) ["sub", "x"] =
    .ok [(1, "xxh128", "xxh128:0", "original"),
         (2, "md5", "md5:0", "verified"), (2, "sha1", "sha1:0", "verified"), (2, "xxh128", "xxh128:0", "verified"),
         (3, "xxh128", "xxh128:0", "verified")] := exRun_facts.2.1.1

/-- the theorem applied -/
example : ∃ lines, infoSingleFile (run exEnv exTree exSteps3) ["sub", "x"] = .ok lines ∧
    (∀ ℓ ∈ lines, ℓ.2.2.1 = exEnv.H ℓ.2.1 []) ∧ ∀ ℓ ∈ lines, ℓ.2.2.2 ≠ "failed" := by
  obtain ⟨lines, h1, -, -, h4, h5, -⟩ := (info_sf_after_run exEnv (by decide) exTree rfl (by rfl) rfl ["sub", "x"] []
    (by decide) exSteps3 exSteps3_folder exSteps3_keeps).2 (by rw [exRun_facts.1.2.1]; decide)
  exact ⟨lines, h1, h4, h5⟩

theorem exStep2_folder : FolderStep exStep2 := exSteps3_folder exStep2 (by simp [exSteps3, exSteps, exStep2])

/-- `a.txt` is altered to `[1, 2]` before step 2 -/
theorem exStep2_keeps : FileKept ["a.txt"] [1, 2] (exStep2.edit (run exEnv exTree (exSteps.take 1))) :=
  fileKept_of_check _ _ _ exRun_facts.2.2.2.2

/-- the hypotheses of `info_sf_edited_step` at the point after step 1 -/
theorem ex_finv1 : FInv exEnv ["a.txt"] [1] (run exEnv exTree (exSteps.take 1)) 1 := by
  have h := run_finv exEnv (by decide) ["a.txt"] [1] (by decide) (exSteps.take 1) exTree 0
    (finv_fresh exEnv _ _ exTree rfl (by rfl) rfl)
    (fun st hst => exSteps3_folder st (List.take_subset_take_left exSteps (by decide) hst))
    (along_of_check _ _ _ _ _ exRun_facts.2.2.2.1)
  rw [exRun_facts.1.2.2] at h
  exact h

example : FolderStep exStep2 ∧
    FileKept ["a.txt"] [1, 2] (exStep2.edit (run exEnv exTree (exSteps.take 1))) ∧
    stepTree exEnv (run exEnv exTree (exSteps.take 1)) exStep2 = run exEnv exTree (exSteps.take 2) :=
  ⟨exStep2_folder, exStep2_keeps, by
    rw [show exSteps.take 2 = exSteps.take 1 ++ [exStep2] from rfl, run_append, run_cons, run_nil]⟩

/-- the lines for `a.txt` after step 2, evaluated: the recorded format is `failed` (the digest differs), and the two
requested new formats are NOT added -/
example : infoSingleFile (run exEnv exTree (exSteps.take 2)) ["a.txt"] =
    .ok [(1, "xxh128", "xxh128:1", "original"), (2, "xxh128", "xxh128:2", "failed")] := exRun_facts.2.1.2

/-- the theorem applied: every line of generation 2 is `failed` -/
example : ∀ lines, infoSingleFile (stepTree exEnv (run exEnv exTree (exSteps.take 1)) exStep2) ["a.txt"] = .ok lines →
    ∀ ℓ ∈ lines, ℓ.1 = 2 → ℓ.2.2.2 = "failed" := by
  intro lines hlines
  obtain ⟨old, new, rfl, hbefore, hold, hnew, hall, -⟩ := info_sf_edited_step exEnv (by decide) ["a.txt"] [1] [1, 2]
    (by decide) _ 1 ex_finv1 exStep2 exStep2_folder exStep2_keeps lines hlines
  have hold_eq : old = [(1, "xxh128", "xxh128:1", "original")] := (hbefore _ (by decide +kernel)).symm
  intro ℓ hℓ h2
  rcases List.mem_append.1 hℓ with h | h
  · have := (hold ℓ h).2.1
    omega
  · apply hall (by rw [hold_eq]; simp) ?_ ℓ h
    rw [hold_eq]
    intro ℓ₀ hℓ₀
    simp only [List.mem_singleton] at hℓ₀
    subst hℓ₀
    decide +kernel

/-! #### why `-dr` is excluded from `info_sf_after_run` -/

def drTree : Node := .dir "root" [.file "a.txt" [1]] none

/-- create; then add `b.txt` (same length, hence same toy digest), hide `a.txt` by a new pattern, and create `-dr` -/
def drSteps : List Step :=
  [ ⟨id, {}, "2020-01-01_000000Z"⟩,
    ⟨replaceKids [.file "a.txt" [1], .file "b.txt" [9]], { detectRenaming := true, ignoreCli := ["a.txt"] },
      "2020-01-02_000000Z"⟩ ]

/-- all hypotheses of `info_sf_after_run` hold except `detectRenaming = false` in step 2: `a.txt` is never edited
(it is still there, content `[1]`, only hidden by the pattern).  The second run takes the hidden `a.txt` for
renamed to `b.txt` and records `b.txt` with previous path `a.txt`; `find_media_hash_for_path("a.txt")` returns that
record, so `info -sf a.txt` prints a second `original` line, for generation 2 -/
theorem info_sf_needs_noRename :
    (∀ st ∈ drSteps, st.Ok ∧ st.opts.singleFiles = [] ∧ st.opts.formats ≠ []) ∧
    Along exEnv (FileKept ["a.txt"] [1]) drTree drSteps ∧
    (create { exEnv with stamp := "2020-01-02_000000Z" }
      (replaceKids [.file "a.txt" [1], .file "b.txt" [9]] (run exEnv drTree (drSteps.take 1)))
      { detectRenaming := true, ignoreCli := ["a.txt"] }).report.renamed = [("a.txt", "b.txt")] ∧
    infoSingleFile (run exEnv drTree drSteps) ["a.txt"] =
      .ok [(1, "xxh128", "xxh128:1", "original"), (2, "xxh128", "xxh128:1", "original")] := by
  refine ⟨?_, ⟨?_, ?_, trivial⟩, ?_⟩
  · intro st hst
    simp only [drSteps, List.mem_cons, List.not_mem_nil, or_false] at hst
    rcases hst with rfl | rfl
    · exact ⟨⟨mediaEdit_id, by decide⟩, rfl, by decide⟩
    · exact ⟨⟨mediaEdit_replaceKids _ (by rfl), by decide⟩, rfl, by decide⟩
  · exact fileKept_of_check _ _ _ (by decide +kernel)
  · exact fileKept_of_check _ _ _ (by decide +kernel)
  · -- `String.splitOn` does not reduce in the kernel: evaluate `createFolderWith splitPathL`
    unfold run stepTree createStep create
    rw [createFolder_eq_with]
    decide +kernel

/-! #### a tree sealed once (C03e2e's example): two formats, given in the order xxh64, md5 -/

example : infoSingleFile (MhlProps.C03e2e.sealedTree MhlProps.C03e2e.exEnv "root" MhlProps.C03e2e.exKids
      MhlProps.C03e2e.exOpts) ["sub", "x"] =
    .ok [(1, "md5", "md5:1", "original"), (1, "xxh64", "xxh64:1", "original")] := by
  have h := (info_sf_after_seal MhlProps.C03e2e.exSetting ["sub", "x"] (by decide +kernel)).1
  rw [h]
  decide +kernel

/-- an ignored file has no line -/
example : infoSingleFile (MhlProps.C03e2e.sealedTree MhlProps.C03e2e.exEnv "root" MhlProps.C03e2e.exKids
      MhlProps.C03e2e.exOpts) ["skip.tmp"] = .ok [] :=
  info_sf_after_seal_unseen MhlProps.C03e2e.exSetting ["skip.tmp"] (by decide) (by decide) (by decide +kernel)

/-! #### nested histories (C04nested): `big3` = root history with 2 generations, nested history `A` with 3;
`c3` = three levels; `big1` = ONLY the nested history `A` -/

/-- what is evaluated of `big3`, once -/
theorem big3_facts :
    info big3 = .ok [([], 1), ([], 2), (["A"], 1), (["A"], 2), (["A"], 3)] ∧
    (namesDistinctB big3 = true ∧ NumbersDistinct (loadD big3) ∧ (allDescendants (loadD big3)).length = 1) ∧
    infoSingleFile big3 ["A", "x.mov"] =
      .ok [(1, "md5", "md5:3", "original"),
           (2, "md5", "md5:3", "verified"), (2, "xxh64", "xxh64:3", "verified"),
           (3, "md5", "md5:3", "verified"), (3, "sha1", "sha1:3", "verified")] ∧
    infoSingleFile big3 ["B", "z"] =
      .ok [(1, "md5", "md5:0", "original"), (1, "xxh64", "xxh64:0", "original"),
           (2, "md5", "md5:0", "verified"), (2, "sha1", "sha1:0", "verified")] := by
  unfold NumbersDistinct
  decide +kernel

example : info big3 = .ok [([], 1), ([], 2), (["A"], 1), (["A"], 2), (["A"], 3)] := big3_facts.1

/-- what is evaluated of `c3`, once -/
theorem c3_facts :
    info c3 = .ok [([], 1), ([], 2), (["A"], 1), (["A"], 2), (["A"], 3),
      (["A", "sub"], 1), (["A", "sub"], 2), (["A", "sub"], 3), (["A", "sub"], 4)] ∧
    infoSingleFile c3 ["A", "sub", "s"] =
      .ok [(1, "sha1", "sha1:2", "original"),
           (2, "md5", "md5:2", "verified"), (2, "sha1", "sha1:2", "verified"),
           (3, "md5", "md5:2", "verified"), (3, "xxh64", "xxh64:2", "verified"),
           (4, "sha1", "sha1:2", "verified")] ∧
    (ownerHist (loadD c3) ["A", "sub", "s"]).root = ["A", "sub"] ∧
    (ownerHist (loadD c3) ["A", "x.mov"]).root = ["A"] := by decide +kernel

example : info c3 = .ok [([], 1), ([], 2), (["A"], 1), (["A"], 2), (["A"], 3),
    (["A", "sub"], 1), (["A", "sub"], 2), (["A", "sub"], 3), (["A", "sub"], 4)] := c3_facts.1

/-- the hypotheses of `info_lists_exactly_existing` (including the ones of the conditional clauses) hold on `big3` -/
example : loadHistory big3 = .ok (loadD big3) ∧ (loadD big3).gens ≠ [] ∧ big3.NamesDistinct ∧
    NumbersDistinct (loadD big3) ∧ (allDescendants (loadD big3)).length = 1 :=
  ⟨load3, hyps3.1, namesDistinctB_sound _ big3_facts.2.1.1, big3_facts.2.1.2⟩

/-- only a nested history: `info` and `info -sf` at the outer root give 30 -/
example : big1.hist = none ∧ loadHistory big1 = .ok (loadD big1) ∧
    (∃ x ∈ allDescendants (loadD big1), x.gens ≠ []) ∧
    info big1 = .error (.exit 30) ∧ infoSingleFile big1 ["A", "x.mov"] = .error (.exit 30) :=
  have hn : ∃ x ∈ allDescendants (loadD big1), x.gens ≠ [] := by decide +kernel
  ⟨rfl, load1, hn, (info_only_nested big1 _ [] rfl load1 hn).1,
    (info_only_nested big1 _ ["A", "x.mov"] rfl load1 hn).2⟩

/-- asked at the nested folder `A` itself (what the tool's upward search from the file would pick) the file has its
line -/
example : infoSingleFile sealedA ["x.mov"] = .ok [(1, "md5", "md5:3", "original")] := by decide +kernel

/-- with a root history too (`big3`), a file of the nested history is routed to the NESTED history (DESIGN.md §8,
D18): `A/x.mov` is recorded in the nested history `A` as `x.mov`, in all three generations of `A`; the root
history has no record for it -/
example : infoSingleFile big3 ["A", "x.mov"] =
    .ok [(1, "md5", "md5:3", "original"),
         (2, "md5", "md5:3", "verified"), (2, "xxh64", "xxh64:3", "verified"),
         (3, "md5", "md5:3", "verified"), (3, "sha1", "sha1:3", "verified")] := big3_facts.2.2.1

/-- a file of the outer folder is still looked up in the root history (two generations) -/
example : infoSingleFile big3 ["B", "z"] =
    .ok [(1, "md5", "md5:0", "original"), (1, "xxh64", "xxh64:0", "original"),
         (2, "md5", "md5:0", "verified"), (2, "sha1", "sha1:0", "verified")] := big3_facts.2.2.2

/-- three levels (`c3`): a file below `A/sub` gets the four generations of the DEEPEST history `A/sub`, a file of `A`
the three generations of `A` -/
example : infoSingleFile c3 ["A", "sub", "s"] =
    .ok [(1, "sha1", "sha1:2", "original"),
         (2, "md5", "md5:2", "verified"), (2, "sha1", "sha1:2", "verified"),
         (3, "md5", "md5:2", "verified"), (3, "xxh64", "xxh64:2", "verified"),
         (4, "sha1", "sha1:2", "verified")] ∧
    (ownerHist (loadD c3) ["A", "sub", "s"]).root = ["A", "sub"] ∧
    (ownerHist (loadD c3) ["A", "x.mov"]).root = ["A"] := c3_facts.2

/-- `infoSingleFile_sfLines` applied on `big3`: the lines are `sfLines` of the owner's generations -/
example : infoSingleFile big3 ["A", "x.mov"] =
    .ok (sfLines (ownerHist (loadD big3) ["A", "x.mov"]).gens
      (posix ((["A", "x.mov"] : RelPath).drop (ownerHist (loadD big3) ["A", "x.mov"]).root.length))) :=
  infoSingleFile_sfLines big3 (loadD big3) ["A", "x.mov"] load3 hyps3.1

/-- no history at the root and a nested history whose chain file is gone: the nested fault wins over 30 -/
example : info (.dir "root" [.dir "A" [] (some { chainPresent := false })] none) = .error errNoChain ∧
    errNoChain ≠ errNoHistory := by decide +kernel

end Examples

end MhlProps.C19seq

#print axioms MhlProps.C19seq.writes_eq
#print axioms MhlProps.C19seq.runInv_info
#print axioms MhlProps.C19seq.runInv_sf
#print axioms MhlProps.C19seq.info_after_run
#print axioms MhlProps.C19seq.info_lists_exactly_existing
#print axioms MhlProps.C19seq.info_nodup_needs_numbers
#print axioms MhlProps.C19seq.info_sf_after_seal
#print axioms MhlProps.C19seq.info_sf_after_seal_count
#print axioms MhlProps.C19seq.info_sf_after_seal_unseen
#print axioms MhlProps.C19seq.written_find
#print axioms MhlProps.C19seq.run_pinv
#print axioms MhlProps.C19seq.run_finv
#print axioms MhlProps.C19seq.info_sf_after_run
#print axioms MhlProps.C19seq.infoSingleFile_sfLines
#print axioms MhlProps.C19.infoSingleFile_lines_flat
#print axioms MhlProps.C19seq.runInv_children
#print axioms MhlProps.C19.infoSingleFile_spec
#print axioms MhlProps.C19.infoSingleFile_nearest_spec
#print axioms MhlProps.C19.ownerHist_deepest
#print axioms MhlProps.C19.ownerHist_root_prefix
#print axioms MhlProps.C19.ownerHist_mem
#print axioms MhlProps.C19.loadHistory_WF
#print axioms MhlProps.C19.loadHistory_WF_needs_names
#print axioms MhlProps.C19seq.info_sf_unaltered_step
#print axioms MhlProps.C19seq.info_sf_edited_step
#print axioms MhlProps.C19seq.info_sf_needs_noRename
#print axioms MhlProps.C19seq.info_no_history_everywhere
#print axioms MhlProps.C19seq.info_no_history_tree
#print axioms MhlProps.C19seq.info_only_nested
#print axioms MhlProps.C19seq.exSteps3_keeps
#print axioms MhlProps.C19seq.ex_finv1
#print axioms MhlModel.loaded_all_sorted
#print axioms MhlModel.loaded_all_on_disk
#print axioms MhlModel.infoLines_infix
#print axioms MhlModel.infoLines_parent_first
#print axioms MhlModel.filter_root_block
#print axioms MhlModel.flatMap_ownLines_nodup
#print axioms MhlModel.fmtList_sorted
#print axioms MhlModel.origEntries_eq_map
#print axioms MhlModel.Records.find_file
#print axioms MhlModel.Records.find_none
#print axioms MhlModel.writtenEntries_unaltered
#print axioms MhlModel.writtenEntries_altered
#print axioms MhlModel.writtenEntries_all_failed
#print axioms MhlModel.PInv.append
#print axioms MhlModel.sfLines_unaltered
#print axioms MhlModel.loadGens_eq_nil_iff
