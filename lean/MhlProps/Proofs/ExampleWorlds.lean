/-
Example data that SEVERAL property files evaluate: the toy environment of C03e2e and the trees with nested
histories that C04nested builds by running the model (`big0` … `big3`, `c0` … `c3`), with `loadD` / `histShape`
to look at what a tree loads as.  Definitions only (and `loadD_spec`, `shape_of_loaded`, `loadD_of_histShape`, which say what these two
are for a tree that loads); every fact about the trees is proved in the property file that states it; the definitions are
in the namespaces of those files.
-/
import MhlProps.Proofs.TreeEditLemmas

namespace MhlProps.C03e2e
open MhlModel

/-- toy parameters: the "digest" is the format name and the content length; a path is ignored when one of its
components is literally in the pattern list -/
def exEnv : Env :=
  { H := fun f c => f ++ ":" ++ toString c.length, D := fun _ _ => some [],
    hit := fun pats p => p.any fun s => pats.contains s, rootName := "root", stamp := "2020-01-16_091500Z" }

end MhlProps.C03e2e

namespace MhlProps.C04nested
open MhlModel

def wEnv : Env := MhlProps.C03e2e.exEnv

def wIgnore : List String := [".DS_Store", "ascmhl", "ascmhl/"]

/-- the loaded history of a tree (the empty history if it does not load) -/
def loadD (t : Node) : Hist :=
  match loadHistory t with
  | .ok h => h
  | .error _ => .mk [] [] [] false []

theorem loadD_spec (t : Node) (h : (match loadHistory t with | .ok _ => true | .error _ => false) = true) :
    loadHistory t = .ok (loadD t) := by
  unfold loadD
  cases hl : loadHistory t with
  | ok x => rfl
  | error e => rw [hl] at h; cases h

def envR : Env := MhlProps.C03e2e.exEnv

/-- the same with the command run on the folder `A` -/
def envA : Env := { MhlProps.C03e2e.exEnv with rootName := "A" }

/-- the sub-tree `A`, sealed first on its own (as its own command root) with md5 -/
def treeA : Node := .dir "A" [.file "x.mov" [1, 2, 3], .file "y.mov" [4], .dir "sub" [.file "s" [6, 6]] none] none

def oA : CreateOpts := { formats := ["md5"] }

def sealedA : Node := applyWritten treeA (createFolder envA treeA oA).written

/-- the big tree, without any history, and with the sealed `A` grafted in (its `ascmhl` store comes along) -/
def big0 : Node :=
  .dir "root" [.file "top.txt" [9], treeA, .dir "B" [.file "z" []] none, .file ".DS_Store" [0]] none

def big1 : Node := Node.updateAt (fun _ => sealedA) big0 ["A"]

/-- sealed from the outer root with two formats … -/
def o1 : CreateOpts := { formats := ["xxh64", "md5"] }

def big2 : Node := applyWritten big1 (createFolder envR big1 o1).written

/-- … and resealed with a format recorded nowhere, without directory hashes -/
def o2 : CreateOpts := { formats := ["sha1"], noDirHashes := true }

def big3 : Node := applyWritten big2 (createFolder envR big2 o2).written

/-- what a tree loads as: per history (root first, then the nested ones) its root and generation numbers -/
def histShape (t : Node) : Option (List (RelPath × List Nat)) :=
  match loadHistory t with
  | .ok h => some ((h :: allDescendants h).map fun x => (x.root, x.gens.map (·.number)))
  | .error _ => none

theorem shape_of_loaded {t : Node} {h : Hist} (hl : loadHistory t = .ok h) {l : List (RelPath × List Nat)}
    (hs : histShape t = some l) : ((h :: allDescendants h).map fun x => (x.root, x.gens.map (·.number))) = l := by
  unfold histShape at hs
  rw [hl] at hs
  exact Option.some.inj hs

theorem loadD_of_histShape {t : Node} {l : List (RelPath × List Nat)} (h : histShape t = some l) :
    loadHistory t = .ok (loadD t) := by
  unfold histShape at h
  unfold loadD
  cases hl : loadHistory t with
  | ok x => rfl
  | error e => rw [hl] at h; cases h

/-- the sealed tree with a file below `A/`, owned by the NESTED history, altered (C04nested `big_tests`: what `create`
from the outer root makes of it) -/
def big2Altered : Node := Node.updateAt (setContent [1, 2, 3, 4]) big2 ["A", "x.mov"]

def envS : Env := { MhlProps.C03e2e.exEnv with rootName := "sub" }

def treeS : Node := .dir "sub" [.file "s" [6, 6], .file "r" []] none

def oS : CreateOpts := { formats := ["sha1"] }

def sealedS : Node := applyWritten treeS (createFolder envS treeS oS).written

def treeA3 : Node := .dir "A" [.file "x.mov" [1, 2, 3], treeS] none

def a1 : Node := Node.updateAt (fun _ => sealedS) treeA3 ["sub"]

def a2 : Node := applyWritten a1 (createFolder envA a1 oA).written

def c0 : Node := .dir "root" [.file "top.txt" [9], treeA3, .dir "B" [.file "z" []] none] none

def c1 : Node := Node.updateAt (fun _ => a2) c0 ["A"]

def c2 : Node := applyWritten c1 (createFolder envR c1 o1).written

def c3 : Node := applyWritten c2 (createFolder envR c2 o2).written

end MhlProps.C04nested
