/-
For C20: the inductive invariant `Inv` of the updater transition system `MhlModel.Updater` and its preservation
(`inv_step`, `inv_reach`).  A step of the checker rebuilds the checker's clauses from `ChkAt` (what `latest` and
`stderr` are at each of its program counters) through `Inv.checker` / `Inv.chkBusy`; a step of the main thread keeps
them and rewrites the clause of the new program counter.  `Inv.beforeExit` reads the main thread's clauses uniformly.
-/
import MhlModel.Updater

namespace MhlProps.UpdaterLemmas
open MhlModel.Updater

@[simp] theorem isReply_reply (n p d : Bool) : (ServerBehaviour.reply n p d).isReply = true := rfl

@[simp] theorem needsUpdate_none : needsUpdate none = false := rfl

theorem needsUpdate_some (l : Latest) :
    needsUpdate (some l) = true ↔ l.newer = true ∧ l.prerelease = false ∧ l.dev = false := by
  cases l with | mk n p d => cases n <;> cases p <;> cases d <;> simp [needsUpdate]

/-- The inductive invariant: per value of the main thread's program counter what stdout / exitCode / joinStart / now /
seenNeedsUpdate can be, plus the facts about the shared variable `latest`, the checker and stderr. -/
structure Inv (cmd : Cmd) (srv : ServerBehaviour) (s : State) : Prop where
  start : s.mainPc = .start →
    s.stdout = [] ∧ s.exitCode = none ∧ s.seenNeedsUpdate = false ∧ s.chkPc = .notStarted ∧ s.latest = none ∧ s.stderr = []
  running : s.mainPc = .running → s.stdout = [] ∧ s.exitCode = none ∧ s.seenNeedsUpdate = false
  joining : s.mainPc = .joining →
    cmd.normalReturn = true ∧ s.stdout = cmd.stdout ∧ s.exitCode = none ∧ s.seenNeedsUpdate = false ∧ s.now = s.joinStart
  reading : s.mainPc = .reading →
    cmd.normalReturn = true ∧ s.stdout = cmd.stdout ∧ s.exitCode = none ∧ s.seenNeedsUpdate = false ∧
      s.now ≤ s.joinStart + joinTimeoutMs
  printing : s.mainPc = .printing →
    cmd.normalReturn = true ∧ s.stdout = cmd.stdout ∧ s.exitCode = none ∧ s.now ≤ s.joinStart + joinTimeoutMs
  exited : s.mainPc = .exited →
    s.exitCode = some cmd.exitCode ∧ s.now = s.exitTime ∧ s.exitTime ≤ s.joinStart + joinTimeoutMs ∧
      ((cmd.normalReturn = false ∧ s.stdout = cmd.stdout ∧ s.seenNeedsUpdate = false ∧ s.exitTime = s.joinStart) ∨
       (cmd.normalReturn = true ∧ s.stdout = if s.seenNeedsUpdate then cmd.stdout ++ [notice] else cmd.stdout))
  /-- the flag the main thread read is only ever set from a stored version that needs an update -/
  seen : s.seenNeedsUpdate = true → needsUpdate s.latest = true
  /-- `latest` is only ever the server's reply, and is stored by the step that ends the checker -/
  latest : ∀ l, s.latest = some l → srv = .reply l.newer l.prerelease l.dev
  latestDone : s.chkPc ≠ .done → s.latest = none
  gotReply : s.chkPc = .gotReply → srv.isReply = true
  dead : s.chkPc = .dead → srv = .garbage ∨ srv = .otherException
  stderrOnly : ∀ x ∈ s.stderr, x = traceback
  stderrDead : s.stderr ≠ [] → s.chkPc = .dead
  clock : s.joinStart ≤ s.now

theorem inv_init (cmd : Cmd) (srv : ServerBehaviour) : Inv cmd srv {} := by
  constructor <;> simp

/-- What the checker's variables `latest` and `stderr` look like at each of its program counters; the six clauses of
`Inv` about the checker follow from it. -/
def ChkAt (srv : ServerBehaviour) (l : Option Latest) (e : List String) : CheckerPc → Prop
  | .notStarted | .requesting => l = none ∧ e = []
  | .gotReply => l = none ∧ e = [] ∧ srv.isReply = true
  | .done => (∀ x, l = some x → srv = .reply x.newer x.prerelease x.dev) ∧ e = []
  | .dead => l = none ∧ e = [traceback] ∧ (srv = .garbage ∨ srv = .otherException)

variable {cmd : Cmd} {srv : ServerBehaviour} {s : State}

theorem ChkAt.clauses {l : Option Latest} {e : List String} {c : CheckerPc} (hc : ChkAt srv l e c) :
    (∀ x, l = some x → srv = .reply x.newer x.prerelease x.dev) ∧ (c ≠ .done → l = none) ∧
    (c = .gotReply → srv.isReply = true) ∧ (c = .dead → srv = .garbage ∨ srv = .otherException) ∧
    (∀ x ∈ e, x = traceback) ∧ (e ≠ [] → c = .dead) := by
  cases c <;> simp_all [ChkAt]

/-- A step of the checker writes only `chkPc`, `latest`, `stderr`, and the main thread has left `start` by then: the
main thread's clauses carry over. -/
theorem Inv.checker (h : Inv cmd srv s) (hpc : s.mainPc ≠ .start) {c : CheckerPc} {l : Option Latest}
    {e : List String} (hc : ChkAt srv l e c) (seen : s.seenNeedsUpdate = true → needsUpdate l = true) :
    Inv cmd srv { s with chkPc := c, latest := l, stderr := e } :=
  { h with
    start := fun e => absurd e hpc
    seen := seen
    latest := hc.clauses.1
    latestDone := hc.clauses.2.1
    gotReply := hc.clauses.2.2.1
    dead := hc.clauses.2.2.2.1
    stderrOnly := hc.clauses.2.2.2.2.1
    stderrDead := hc.clauses.2.2.2.2.2 }

theorem Inv.chkBusy (h : Inv cmd srv s) (hc : s.chkPc = .requesting ∨ s.chkPc = .gotReply) :
    s.mainPc ≠ .start ∧ s.latest = none ∧ s.stderr = [] := by
  refine ⟨fun hpc => ?_, h.latestDone ?_, Decidable.by_contra fun hne => ?_⟩
  · rw [(h.start hpc).2.2.2.1] at hc; simp at hc
  · rcases hc with hc | hc <;> simp [hc]
  · rw [h.stderrDead hne] at hc; simp at hc

/-- A step of the main thread writes none of `chkPc`, `latest`, `stderr` (`mainStart` apart), so the checker's
clauses carry over as they are; of the main thread's clauses only the one at the new program counter says anything. -/
theorem inv_step {s' : State} (h : Inv cmd srv s) (st : Step cmd srv s s') : Inv cmd srv s' := by
  cases st with
  | mainStart hpc =>
    obtain ⟨ho, hx, hb, _, hl, he⟩ := h.start hpc
    exact { h with
      start := nofun, joining := nofun, reading := nofun, printing := nofun, exited := nofun
      running := fun _ => ⟨ho, hx, hb⟩
      latestDone := fun _ => hl, gotReply := nofun, dead := nofun, stderrDead := fun hne => absurd he hne }
  | mainCommandNormal dt hpc hn =>
    obtain ⟨ho, hx, hb⟩ := h.running hpc
    exact { h with
      start := nofun, running := nofun, reading := nofun, printing := nofun, exited := nofun
      joining := fun _ => ⟨hn, by simp [ho], hx, hb, rfl⟩
      clock := Nat.le_refl _ }
  | mainCommandRaises dt hpc hn =>
    obtain ⟨ho, _, hb⟩ := h.running hpc
    exact { h with
      start := nofun, running := nofun, joining := nofun, reading := nofun, printing := nofun
      exited := fun _ => ⟨rfl, rfl, Nat.le_add_right _ _, .inl ⟨hn, by simp [ho], hb, rfl⟩⟩
      clock := Nat.le_refl _ }
  | mainJoinThreadDone dt hpc _ hd =>
    obtain ⟨hn, ho, hx, hb, _⟩ := h.joining hpc
    exact { h with
      start := nofun, running := nofun, joining := nofun, printing := nofun, exited := nofun
      reading := fun _ => ⟨hn, ho, hx, hb, hd⟩
      clock := Nat.le_trans h.clock (Nat.le_add_right _ _) }
  | mainJoinTimeout hpc =>
    obtain ⟨hn, ho, hx, hb, hj⟩ := h.joining hpc
    exact { h with
      start := nofun, running := nofun, joining := nofun, printing := nofun, exited := nofun
      reading := fun _ => ⟨hn, ho, hx, hb, Nat.max_le.2 ⟨hj ▸ Nat.le_add_right _ _, Nat.le_refl _⟩⟩
      clock := Nat.le_trans h.clock (Nat.le_max_left _ _) }
  | mainRead hpc =>
    obtain ⟨hn, ho, hx, _, hj⟩ := h.reading hpc
    exact { h with
      start := nofun, running := nofun, joining := nofun, reading := nofun, exited := nofun
      printing := fun _ => ⟨hn, ho, hx, hj⟩
      seen := id }
  | mainFinish hpc =>
    obtain ⟨hn, ho, _, hj⟩ := h.printing hpc
    exact { h with
      start := nofun, running := nofun, joining := nofun, reading := nofun, printing := nofun
      exited := fun _ => ⟨rfl, rfl, hj, .inr ⟨hn, by simp [ho]⟩⟩ }
  | chkReply n p d hc hs =>
    obtain ⟨hpc, hl, he⟩ := h.chkBusy (.inl hc)
    exact h.checker hpc (c := .gotReply) ⟨hl, he, by simp [hs]⟩ h.seen
  | chkStore n p d hc hs =>
    obtain ⟨hpc, hl, he⟩ := h.chkBusy (.inr hc)
    exact h.checker hpc (c := .done) ⟨by rintro _ ⟨⟩; exact hs, he⟩ fun hb => by simpa [hl] using h.seen hb
  | chkGarbage hc hs =>
    obtain ⟨hpc, hl, he⟩ := h.chkBusy (.inl hc)
    exact h.checker hpc (c := .dead) ⟨hl, by simp [he], .inl hs⟩ h.seen
  | chkRequestException hc hs =>
    obtain ⟨hpc, _, he⟩ := h.chkBusy (.inl hc)
    exact h.checker hpc (c := .done) ⟨h.latest, he⟩ h.seen
  | chkOtherException hc hs =>
    obtain ⟨hpc, hl, he⟩ := h.chkBusy (.inl hc)
    exact h.checker hpc (c := .dead) ⟨hl, by simp [he], .inr hs⟩ h.seen
  | tick dt hpc =>
    exact { h with
      joining := fun (e : s.mainPc = .joining) => by simp [e] at hpc
      reading := fun (e : s.mainPc = .reading) => by simp [e] at hpc
      printing := fun (e : s.mainPc = .printing) => by simp [e] at hpc
      exited := fun (e : s.mainPc = .exited) => by simp [e] at hpc
      clock := Nat.le_trans h.clock (Nat.le_add_right _ _) }

theorem inv_reach (h : Reach cmd srv s) : Inv cmd srv s := by
  induction h with
  | init => exact inv_init cmd srv
  | step s s' _ st ih => exact inv_step ih st

/-- the main thread's clauses before the exit, in one form for the five program counters -/
theorem Inv.beforeExit (h : Inv cmd srv s) (hne : s.mainPc ≠ .exited) :
    s.exitCode = none ∧ (s.stdout = [] ∨ s.stdout = cmd.stdout) ∧
      (s.mainPc ≠ .printing → s.seenNeedsUpdate = false) := by
  cases hpc : s.mainPc with
  | start => obtain ⟨ho, hx, hb, _⟩ := h.start hpc; exact ⟨hx, .inl ho, fun _ => hb⟩
  | running => obtain ⟨ho, hx, hb⟩ := h.running hpc; exact ⟨hx, .inl ho, fun _ => hb⟩
  | joining => obtain ⟨_, ho, hx, hb, _⟩ := h.joining hpc; exact ⟨hx, .inr ho, fun _ => hb⟩
  | reading => obtain ⟨_, ho, hx, hb, _⟩ := h.reading hpc; exact ⟨hx, .inr ho, fun _ => hb⟩
  | printing => obtain ⟨_, ho, hx, _⟩ := h.printing hpc; exact ⟨hx, .inr ho, fun hp => absurd rfl hp⟩
  | exited => exact absurd hpc hne

end MhlProps.UpdaterLemmas
