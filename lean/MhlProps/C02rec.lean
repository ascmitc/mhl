/-
C02rec — C02 lifted from "visited" to "recorded", for a tree with ONE history (no nested histories).

The generation folder-mode `create` writes for the root history has exactly one record for every visible entry and
no record for anything else; every file record carries the digests of the file's current content, in every
requested format unless a check against the history failed.

Setting: `rootHist.children = []` (no nested histories) and `rootHist.root = []`; sibling names distinct
(`Node.NamesDistinct`); every name in the tree free of '/' and different from "." (`Node.NamesOk`, needed for the
POSIX text of a path to identify the path); at least one requested format.

`Records vis c ents g` says it of a generation `g`, and the look-ups over such a generation are proved on it;
`writeOne_flat_gen`: the generation `writeOne` makes of the session, on ANY history without nested histories, is
`Records` of the visible paths with the entries `writtenEntries`.  `create_records_exact` states the property for
`createFolder`, `create_records_exact_tree` for the command `create` with the flatness read off the tree.

The helper lemmas are in MhlProps/Proofs/CreateLemmas.lean; the session of the traversal is read off its closed form
(MhlProps/Proofs/SessionLemmas.lean).
-/
import MhlProps.Proofs.WrittenEntriesLemmas
import MhlProps.Proofs.SessionLemmas

namespace MhlProps.C02rec
open MhlModel

/-! ### what the setting rests on, under the names the property is claimed by -/

/-- the statement of `MhlModel.allDescendants_flat` (Proofs/CreateLemmas.lean) -/
theorem allDescendants_flat (rootHist : Hist) (hc : rootHist.children = []) : allDescendants rootHist = [] :=
  MhlModel.allDescendants_flat rootHist hc

/-- the statement of `MhlModel.route_flat` (Proofs/CreateLemmas.lean), which the proofs use -/
theorem route_flat (rootHist : Hist) (hc : rootHist.children = []) (p : RelPath) :
    route rootHist p = (rootHist, p) :=
  MhlModel.route_flat rootHist hc p

/-- `posix` is injective on lists of well-formed names (no '/', not "."): the statement of `posix_inj`
(Proofs/CreateLemmas.lean), which the proofs use -/
theorem posix_injective {p q : RelPath} (hp : ∀ s ∈ p, NameOk s) (hq : ∀ s ∈ q, NameOk s)
    (h : posix p = posix q) : p = q :=
  posix_inj hp hq h

/-- both conditions on names are needed -/
example : posix ["a/b"] = posix ["a", "b"] ∧ posix ["."] = posix [] := by decide +kernel

/-! ### the session after the traversal -/

theorem nonRoot_recItems_perm (hit : RelPath → Bool) (t : Node) :
    (nonRoot (recItems (traverse hit [] t))).Perm (visiblePaths hit t) := by
  have hperm := recItems_perm hit t []
  rw [← visiblePaths_eq] at hperm
  have h1 := hperm.filter fun x => !x.1.isEmpty
  have h2 : (visiblePaths hit t ++ if t.isDir = true then [(([] : RelPath), true)] else []).filter
      (fun x => !x.1.isEmpty) = visiblePaths hit t := by
    rw [List.filter_append]
    have ha : (visiblePaths hit t).filter (fun x => !x.1.isEmpty) = visiblePaths hit t := by
      rw [List.filter_eq_self]
      intro x hx
      obtain ⟨p, d⟩ := x
      have := (C02.visible_relative hit t p d hx).2.1
      cases p with
      | nil => exact absurd rfl this
      | cons a as => rfl
    rw [ha]
    split <;> simp
  rw [h2] at h1
  exact h1

/-- The session after folding `createVisit` over `traverse hit [] t` from the empty session with the given
patterns.

* it keeps the patterns and has at most one list, rooted at `[]` (exactly one when `t` is a folder);
* the records of that list are, in the order `recItems` (per yielded folder: its files in listing order, then the
  folder itself), the records `RecFor` describes: path = POSIX text, `isDir` = the visited is_dir flag, no previous
  path; a file record has the content length as size and exactly the entries `sealEntries` returns; a folder
  record has no size and entries without action;
* as (path, is_dir) pairs the records are a permutation of the visible paths, and the paths are duplicate-free;
* the root folder is recorded as the root record ".". -/
theorem createVisit_records (env : Env) (t : Node) (rootHist : Hist) (hc : rootHist.children = [])
    (hr : rootHist.root = []) (hd : t.NamesDistinct) (hn : t.NamesOk) (fmts : List String) (hf : fmts ≠ [])
    (noDir : Bool) (pats : List String) (hit : RelPath → Bool) :
    let s := ((traverse hit [] t).foldl (createVisit env t rootHist fmts noDir)
      { session := { patterns := pats } }).session
    let nl := s.get []
    s.patterns = pats ∧ (s.lists = [] ∨ s.lists = [nl]) ∧ nl.root = [] ∧
    List.Forall₂ (RecFor env t rootHist fmts) (nonRoot (recItems (traverse hit [] t))) nl.records ∧
    (nl.records.map fun r => (r.path, r.isDir)).Perm ((visiblePaths hit t).map fun x => (posix x.1, x.2)) ∧
    (nl.records.map (·.path)).Nodup ∧
    (∀ p, (p, false) ∈ visiblePaths hit t → ∃ r ∈ nl.records, r.path = posix p ∧ r.isDir = false ∧
        r.prev = none ∧ r.size = some (fileContent t p).length ∧
        r.entries = (sealEntries rootHist.gens (posix p) (fun f => env.H f (fileContent t p)) fmts).1) ∧
    (t.isDir = true → s.lists = [nl] ∧ ∃ r, nl.rootRec = some r ∧ r.path = "." ∧ r.isDir = true) := by
  intro s nl
  have hg := histOK_flat hc hr t
  have hok := recItems_itemsOk hg hit hd hn
  -- the session in closed form: the writes of the recorded items, each to the list of the root history
  have hs : s = ({ patterns := pats } : Session).addAll
      ((recItems (traverse hit [] t)).flatMap (itemWrites env t rootHist fmts hit noDir)) :=
    MhlModel.createFold_session env t rootHist fmts hit noDir hd _
  have hinv : SInv env t rootHist fmts _ pats s _ := hs ▸ sinv_addAll hg hit noDir hok pats
  have hget : nl = listOf ((recItems (traverse hit [] t)).flatMap (itemWrites env t rootHist fmts hit noDir)) [] := by
    show s.get [] = _
    rw [hs]; exact Session.get_addAll pats _ (itemWrites_ok hg hit noDir hok) []
  have hroots : ∀ R ∈ s.roots, R = [] := fun R hR => by
    rw [hs, Session.mem_addAll_roots] at hR
    obtain h | ⟨w, hw, rfl⟩ := hR
    · cases h
    · obtain ⟨x, -, hwx⟩ := List.mem_flatMap.1 hw
      obtain ⟨w', hw', hR', -⟩ := itemWrites_flat (env := env) (t := t) hc hr hf hit noDir x
      rw [hw', List.mem_singleton] at hwx
      rw [hwx, hR']
  have hlists := s.lists_flat hinv.core.nodup hroots
  have hall : List.Forall₂ (RecFor env t rootHist fmts) (nonRoot (recItems (traverse hit [] t))) nl.records :=
    hget ▸ records_flat hc hr hf hit noDir _ hok.names
  have hpairs : (nl.records.map fun r => (r.path, r.isDir)) =
      (nonRoot (recItems (traverse hit [] t))).map fun x => (posix x.1, x.2) := by
    have := hall
    generalize nonRoot (recItems (traverse hit [] t)) = M at this
    generalize nl.records = rs at this
    induction this with
    | nil => rfl
    | cons hrf _ ih => simp [hrf.1, hrf.2.1, ih]
  refine ⟨hinv.core.pats, hlists, Session.get_root _ _, hall,
    by rw [hpairs]; exact (nonRoot_recItems_perm hit t).map _, hinv.core.paths [], ?_, ?_⟩
  · intro p hp
    obtain ⟨-, r, hr1, hr2⟩ := hinv.file_done hf ((mem_recItems hit t _).2 (Or.inl hp))
    simp only [ownerOf, relOf, MhlModel.route_flat rootHist hc, hr] at hr1 hr2
    exact ⟨r, hr1, hr2⟩
  · intro hdir
    obtain ⟨h1, -, h3⟩ := hinv.dirs [] ((mem_recItems hit t _).2 (Or.inr ⟨rfl, hdir⟩))
    obtain ⟨rr, hrr, h4, h5, -⟩ := h3 (owner_nil hg.root).2
    refine ⟨hlists.resolve_left fun h0 => ?_, rr, hrr, h5, h4⟩
    rw [Session.roots, h0] at h1
    cases h1

end MhlProps.C02rec

namespace MhlModel
open MhlProps.C02rec

/-! ### the generation `create` writes -/

theorem forall₂_mem_right {α β : Type} {R : α → β → Prop} {l₁ : List α} {l₂ : List β}
    (h : List.Forall₂ R l₁ l₂) : ∀ b ∈ l₂, ∃ a ∈ l₁, R a b := by
  induction h with
  | nil => intro b hb; cases hb
  | cons hr _ ih =>
    intro b hb
    rcases List.mem_cons.1 hb with rfl | hb
    · exact ⟨_, List.mem_cons_self, hr⟩
    · obtain ⟨a, ha, hab⟩ := ih b hb
      exact ⟨a, List.mem_cons_of_mem _ ha, hab⟩

/-- the records of `createVisit_records` for the session of folder-mode `create` (its pattern list and the root of
its list need none of the hypotheses: `cSession_patterns`, `Session.get_root`) -/
theorem cSession_records (env : Env) (t : Node) (o : CreateOpts) (rootHist : Hist) (hc : rootHist.children = [])
    (hr : rootHist.root = []) (hd : t.NamesDistinct) (hn : t.NamesOk) (hf : o.formats ≠ []) :
    List.Forall₂ (RecFor env t rootHist (isort strLe o.formats))
      (nonRoot (recItems (traverse (cHit env rootHist o) [] t))) ((cSession env t rootHist o).get []).records ∧
    (((cSession env t rootHist o).get []).records.map fun r => (r.path, r.isDir)).Perm
      ((visiblePaths (cHit env rootHist o) t).map fun x => (posix x.1, x.2)) ∧
    (((cSession env t rootHist o).get []).records.map (·.path)).Nodup ∧
    (∀ p, (p, false) ∈ visiblePaths (cHit env rootHist o) t →
      ∃ r ∈ ((cSession env t rootHist o).get []).records, r.path = posix p ∧ r.isDir = false ∧ r.prev = none ∧
        r.size = some (fileContent t p).length ∧
        r.entries = (sealEntries rootHist.gens (posix p) (fun f => env.H f (fileContent t p))
          (isort strLe o.formats)).1) ∧
    (t.isDir = true → (cSession env t rootHist o).lists = [(cSession env t rootHist o).get []]) := by
  obtain ⟨-, -, -, h4, h5, h6, h7, h8⟩ :=
    createVisit_records env t rootHist hc hr hd hn (isort strLe o.formats) (isort_ne_nil_of_ne_nil strLe hf)
      o.noDirHashes (setPatterns (latestIgnore rootHist.gens) o.ignoreCli o.ignoreFile) (cHit env rootHist o)
  exact ⟨h4, h5, h6, h7, fun h => (h8 h).1⟩

/-- the generation `g` records the entries `vis` (paths with their is_dir flag): one record per entry, under its POSIX
text and with its kind, none with a previous path; the record of a listed file `p` carries the length of `c p` and
the entries `ents p`.  What `writeOne_flat_gen` concludes, with `vis` the visible paths; over a list and a content
function, so that it speaks as well of a tree with the same visible files and of the file records alone
(`Records.filter_files`). -/
structure Records (vis : List (RelPath × Bool)) (c : RelPath → Bytes) (ents : RelPath → List Entry)
    (g : Generation) : Prop where
  nodup : (g.records.map (·.path)).Nodup
  prev : ∀ r ∈ g.records, r.prev = none
  pairs : (g.records.map fun r => (r.path, r.isDir)).Perm (vis.map fun x => (posix x.1, x.2))
  file : ∀ p, (p, false) ∈ vis → ∃ r ∈ g.records, r.path = posix p ∧ r.isDir = false ∧
    r.size = some (c p).length ∧ r.entries = ents p

section records
variable {vis : List (RelPath × Bool)} {c : RelPath → Bytes} {ents : RelPath → List Entry} {g : Generation}

theorem Records.paths (F : Records vis c ents g) (s : String) :
    s ∈ g.records.map (·.path) ↔ ∃ x ∈ vis, posix x.1 = s := by
  have h : ∀ l : List Record, l.map (·.path) = (l.map fun r => (r.path, r.isDir)).map (·.1) := fun l => by
    simp [List.map_map, Function.comp_def]
  rw [h, (F.pairs.map (·.1)).mem_iff]
  simp only [List.map_map, List.mem_map, Function.comp]

theorem Records.of_path (F : Records vis c ents g) {p : RelPath} (hp : (p, false) ∈ vis) {r : Record}
    (hr : r ∈ g.records) (hpath : r.path = posix p) :
    r.isDir = false ∧ r.size = some (c p).length ∧ r.entries = ents p := by
  obtain ⟨r', hr', hpath', h⟩ := F.file p hp
  rw [eq_of_nodup_map F.nodup hr hr' (hpath.trans hpath'.symm)]
  exact h

theorem Records.of_file (F : Records vis c ents g) {r : Record} (hr : r ∈ g.records) (hd : r.isDir = false) :
    ∃ p, (p, false) ∈ vis ∧ r.path = posix p ∧ r.size = some (c p).length ∧ r.entries = ents p := by
  obtain ⟨⟨p, d⟩, hx, hxe⟩ := List.mem_map.1 (F.pairs.mem_iff.1 (List.mem_map.2 ⟨r, hr, rfl⟩))
  obtain ⟨hxp, rfl⟩ := Prod.mk.inj hxe
  exact ⟨p, hd ▸ hx, hxp.symm, (F.of_path (hd ▸ hx) hr hxp.symm).2⟩

theorem Records.find_mem (F : Records vis c ents g) {r : Record} (hr : r ∈ g.records) : g.find r.path = some r :=
  Generation.find_of_mem F.nodup F.prev hr

/-- the record of a listed file, as `find_media_hash_for_path` finds it -/
theorem Records.find_file (F : Records vis c ents g) {p : RelPath} (hp : (p, false) ∈ vis) :
    ∃ r, g.find (posix p) = some r ∧ r.isDir = false ∧ r.size = some (c p).length ∧ r.entries = ents p := by
  obtain ⟨r, hr, hpath, h⟩ := F.file p hp
  exact ⟨r, hpath ▸ F.find_mem hr, h⟩

theorem Records.find_none (F : Records vis c ents g) (hvis : ∀ x ∈ vis, ∀ s ∈ x.1, NameOk s) {p : RelPath}
    (hpn : p ≠ []) (hpok : ∀ s ∈ p, NameOk s) (hp : ∀ d, (p, d) ∉ vis) : g.find (posix p) = none := by
  refine Generation.find_none_of_noPrev F.prev (fun h => absurd ((posix_eq_dot hpok).1 h) hpn) fun r hr hin => ?_
  obtain ⟨⟨q, d⟩, hy, hyp⟩ := (F.paths (posix p)).1 (List.mem_map.2 ⟨r, hr, hin⟩)
  obtain rfl : q = p := posix_inj (hvis _ hy) hpok hyp
  exact hp d hy

theorem Records.congr (F : Records vis c ents g) {ents' : RelPath → List Entry}
    (h : ∀ p, (p, false) ∈ vis → ents p = ents' p) : Records vis c ents' g :=
  ⟨F.nodup, F.prev, F.pairs, fun p hp => h p hp ▸ F.file p hp⟩

theorem Records.filter_files (F : Records vis c ents g) {g' : Generation}
    (h : g'.records = g.records.filter fun r => !r.isDir) : Records (vis.filter fun x => !x.2) c ents g' := by
  refine ⟨h ▸ F.nodup.sublist (List.filter_sublist.map _), fun r hr => F.prev r (List.mem_filter.1 (h ▸ hr)).1, ?_,
    fun p hp => ?_⟩
  · have := F.pairs.filter fun x => !x.2
    rw [List.filter_map, List.filter_map] at this
    rw [h]
    exact this
  · obtain ⟨r, hr, hpath, hd, hrest⟩ := F.file p (List.mem_filter.1 hp).1
    exact ⟨r, h ▸ List.mem_filter.2 ⟨hr, by simp [hd]⟩, hpath, hd, hrest⟩

end records

theorem createFolder_writeOne (env : Env) (t : Node) (o : CreateOpts) (rootHist : Hist)
    (hl : loadHistory t = .ok rootHist) (hc : rootHist.children = []) (hdr : o.detectRenaming = false) (w : Written)
    (hw : (createFolder env t o).written = [w]) :
    writeOne rootHist (cSession env t rootHist o) env.rootName env.stamp "in-place" none rootHist [] = .ok w := by
  have hcm := createFolder_written_commit env t o rootHist hl (w := w) (by rw [hw]; exact List.mem_singleton_self _)
  rw [cRen_noDr env t rootHist o hdr, hw] at hcm
  rcases commit_flat rootHist hc _ _ _ _ _ _ hcm with ⟨h0, -⟩ | ⟨w', hw', hone⟩
  · cases h0
  · cases hw'
    exact hone

/-- the generation `writeOne` makes of the session of a folder-mode `create`, for ANY history without nested
histories (the first seal is `rootHist = emptyHist`, where `writtenEntries` is `origEntries`): it records the visible
paths, every file with its exact entries -/
theorem writeOne_flat_gen (env : Env) (t : Node) (o : CreateOpts) (rootHist : Hist) (hc : rootHist.children = [])
    (hr : rootHist.root = []) (hd : t.NamesDistinct) (hn : t.NamesOk) (hf : o.formats ≠ []) (w : Written)
    (hw : writeOne rootHist (cSession env t rootHist o) env.rootName env.stamp "in-place" none rootHist [] = .ok w) :
    Records (visiblePaths (cHit env rootHist o) t) (fileContent t)
      (fun p => writtenEntries env rootHist.gens (posix p) (fileContent t p) o.formats) w.gen := by
  obtain ⟨-, hrecs, -⟩ := writeOne_records _ _ _ _ _ _ _ _ _ hw
  rw [hr] at hrecs
  obtain ⟨hfor, hperm, hnodup, hfiles, -⟩ := cSession_records env t o rootHist hc hr hd hn hf
  refine ⟨?_, fun r hrm => ?_, ?_, fun p hp => ?_⟩
  · rw [hrecs, List.map_map, show ((·.path) ∘ finalRec) = fun r : Record => r.path from funext finalRec_path]
    exact hnodup
  · rw [hrecs] at hrm
    obtain ⟨r0, hr0, rfl⟩ := List.mem_map.1 hrm
    obtain ⟨x, -, hrf⟩ := forall₂_mem_right hfor r0 hr0
    rw [finalRec_prev]
    exact hrf.2.2.1
  · have hpairs : (w.gen.records.map fun r => (r.path, r.isDir)) =
        ((cSession env t rootHist o).get []).records.map fun r => (r.path, r.isDir) := by
      rw [hrecs, List.map_map]
      exact List.map_congr_left fun r _ => by simp [finalRec_path, finalRec_isDir]
    rw [hpairs]
    exact hperm
  · obtain ⟨r0, hr0, hpath, hdir, -, hsize, hents⟩ := hfiles p hp
    refine ⟨finalRec r0, by rw [hrecs]; exact List.mem_map_of_mem hr0, by rw [finalRec_path, hpath],
      by rw [finalRec_isDir, hdir], by rw [finalRec_size, hsize], ?_⟩
    unfold finalRec writtenEntries
    rw [hdir]
    simp only [Bool.false_eq_true, if_false, hents]

end MhlModel

namespace MhlProps.C02rec
open MhlModel

/-- the generation written by a folder-mode `create` on a tree whose only history is the one at the root.

If `createFolder` (no `-dr`) writes `[w]`, then
* `w` is the generation of the root history;
* the record paths are duplicate-free;
* as (path, is_dir) pairs the records are a permutation of the visible paths (POSIX text, visited is_dir flag); in
  particular a text is a record path iff it is the text of a visible path;
* no record for an ignored path (one of whose non-empty prefixes the patterns match), from `C02.ignored_nowhere`;
* the record of a visible file `p` is a file record with the content length as size whose entries are (a reordering,
  the entries are sorted by format, of) what `sealEntries` returned with `new` turned into `verified`; each entry's
  digest is `env.H e.fmt (fileContent t p)`; and if no entry is `failed`, every requested format occurs. -/
theorem create_records_exact (env : Env) (t : Node) (o : CreateOpts) (rootHist : Hist)
    (hl : loadHistory t = .ok rootHist) (hc : rootHist.children = []) (hd : t.NamesDistinct) (hn : t.NamesOk)
    (hf : o.formats ≠ []) (hdr : o.detectRenaming = false) (w : Written)
    (hw : (createFolder env t o).written = [w]) :
    w.histRoot = [] ∧
    (w.gen.records.map (·.path)).Nodup ∧
    (w.gen.records.map fun r => (r.path, r.isDir)).Perm
      ((visiblePaths (cHit env rootHist o) t).map fun x => (posix x.1, x.2)) ∧
    (∀ s, s ∈ w.gen.records.map (·.path) ↔ ∃ x ∈ visiblePaths (cHit env rootHist o) t, posix x.1 = s) ∧
    (∀ (p : RelPath) (k : Nat), (∀ s ∈ p, NameOk s) → 0 < k → k ≤ p.length →
        cHit env rootHist o (p.take k) = true → posix p ∉ w.gen.records.map (·.path)) ∧
    (∀ p, (p, false) ∈ visiblePaths (cHit env rootHist o) t →
      ∃ r ∈ w.gen.records, r.path = posix p ∧ r.isDir = false ∧ r.prev = none ∧
        r.size = some (fileContent t p).length ∧
        r.entries.Perm ((sealEntries rootHist.gens (posix p) (fun f => env.H f (fileContent t p))
          (isort strLe o.formats)).1.map relabel) ∧
        (∀ e ∈ r.entries, e.digest = env.H e.fmt (fileContent t p)) ∧
        ((∀ e ∈ r.entries, e.action ≠ "failed") → ∀ f ∈ o.formats, ∃ e ∈ r.entries, e.fmt = f)) := by
  have hr := loadHistory_root t rootHist hl
  have hw' := createFolder_writeOne env t o rootHist hl hc hdr w hw
  have F := writeOne_flat_gen env t o rootHist hc hr hd hn hf w hw'
  refine ⟨(writeOne_records _ _ _ _ _ _ _ _ _ hw').1.trans hr, F.nodup, F.pairs, F.paths, ?_, ?_⟩
  · intro p k hpok hk0 hk hhit hin
    obtain ⟨x, hx, hxp⟩ := (F.paths _).1 hin
    have hxe : x.1 = p := posix_inj (visible_names_ok _ t hn x hx).2 hpok hxp
    obtain ⟨q, d⟩ := x
    simp only at hxe
    subst hxe
    exact C02.ignored_nowhere _ t q d k hk0 hk hhit hx
  · intro p hp
    obtain ⟨r, hrm, hpath, hdir, hsize, hents⟩ := F.file p hp
    have hperm' : r.entries.Perm
        ((sealEntries rootHist.gens (posix p) (fun f => env.H f (fileContent t p))
          (isort strLe o.formats)).1.map relabel) := by
      rw [hents]; exact writtenEntries_perm env rootHist.gens (posix p) (fileContent t p) o.formats
    obtain ⟨hdig, -, hreq, -⟩ := writtenEntries_spec _ _ _ _ _ hperm'
    exact ⟨r, hrm, hpath, hdir, F.prev r hrm, hsize, hperm', hdig,
      fun hnf f hf => hreq hnf f ((mem_isort strLe o.formats f).2 hf)⟩

/-- the same for the command `create` without `-sf`, with the flatness hypothesis stated on the tree: no `ascmhl`
folder below the root (`noNested`), and the history loads -/
theorem create_records_exact_tree (env : Env) (t : Node) (o : CreateOpts) (rootHist : Hist)
    (hsf : o.singleFiles = []) (hl : loadHistory t = .ok rootHist) (hflat : noNested t = true)
    (hd : t.NamesDistinct) (hn : t.NamesOk) (hf : o.formats ≠ []) (hdr : o.detectRenaming = false) (w : Written)
    (hw : (create env t o).written = [w]) :
    w.histRoot = [] ∧
    (w.gen.records.map (·.path)).Nodup ∧
    (w.gen.records.map fun r => (r.path, r.isDir)).Perm
      ((visiblePaths (cHit env rootHist o) t).map fun x => (posix x.1, x.2)) ∧
    (∀ s, s ∈ w.gen.records.map (·.path) ↔ ∃ x ∈ visiblePaths (cHit env rootHist o) t, posix x.1 = s) ∧
    (∀ (p : RelPath) (k : Nat), (∀ s ∈ p, NameOk s) → 0 < k → k ≤ p.length →
        cHit env rootHist o (p.take k) = true → posix p ∉ w.gen.records.map (·.path)) ∧
    (∀ p, (p, false) ∈ visiblePaths (cHit env rootHist o) t →
      ∃ r ∈ w.gen.records, r.path = posix p ∧ r.isDir = false ∧ r.prev = none ∧
        r.size = some (fileContent t p).length ∧
        r.entries.Perm ((sealEntries rootHist.gens (posix p) (fun f => env.H f (fileContent t p))
          (isort strLe o.formats)).1.map relabel) ∧
        (∀ e ∈ r.entries, e.digest = env.H e.fmt (fileContent t p)) ∧
        ((∀ e ∈ r.entries, e.action ≠ "failed") → ∀ f ∈ o.formats, ∃ e ∈ r.entries, e.fmt = f)) := by
  rw [create_eq_createFolder env t o hsf] at hw
  exact create_records_exact env t o rootHist hl (loadHistory_flat t hflat rootHist hl).1 hd hn hf hdr w hw

/-! ### the facts about `sealEntries` behind the last clause, under the names the property is claimed by

Each is the statement of a lemma of Proofs/SealLemmas.lean or Proofs/CreateLemmas.lean, which the proofs use. -/

/-- the requested formats are among the formats digests are computed for (`mem_formatsToGenerate`) -/
theorem requested_subset_formatsToGenerate (existing requested : List String) :
    ∀ f ∈ requested, f ∈ formatsToGenerate existing requested :=
  mem_formatsToGenerate existing requested

/-- every entry `seal_file_path` appends carries the digest of the current content in its format (`sealEntries_digest`) -/
theorem sealEntries_digest_correct (gens : List LGen) (p : String) (dig : String → String) (req : List String) :
    ∀ e ∈ (sealEntries gens p dig req).1, e.digest = dig e.fmt :=
  sealEntries_digest gens p dig req

/-- when nothing failed, every requested format is recorded (`sealEntries_requested`) -/
theorem sealEntries_all_requested (gens : List LGen) (p : String) (dig : String → String) (req : List String)
    (hnf : ∀ e ∈ (sealEntries gens p dig req).1, e.action ≠ "failed") :
    ∀ f ∈ req, ∃ e ∈ (sealEntries gens p dig req).1, e.fmt = f :=
  sealEntries_requested gens p dig req hnf

/-- with at least one requested format a file always gets entries, hence a record (`sealEntries_ne_nil`) -/
theorem sealEntries_nonempty (gens : List LGen) (p : String) (dig : String → String) (req : List String)
    (hreq : req ≠ []) : (sealEntries gens p dig req).1 ≠ [] :=
  sealEntries_ne_nil gens p dig req hreq

/-- "unless a check failed" cannot be dropped: after a failed check the new format is not recorded -/
example : ((sealEntries [⟨1, { fileName := "", records := [{ path := "a", entries :=
      [{ fmt := "md5", digest := "old", action := "original" }] }] }⟩]
      "a" (fun _ => "new") ["md5", "sha1"]).1.map fun e => (e.fmt, e.action)) = [("md5", "failed")] := by
  decide

/-! ### non-vacuity -/

/-- a tree with an ignored file, a sub-folder with a file and an ignored folder with content; no history yet -/
def exTree : Node :=
  .dir "root"
    [ .file "b.txt" [1],
      .dir "sub" [.file "x" [], .dir ".git" [.file "cfg" []] none] none,
      .file ".DS_Store" [] ] none

/-- toy parameters: the "digest" is the format name and the content length -/
def exEnv : Env :=
  { H := fun f c => f ++ ":" ++ toString c.length, D := fun _ _ => some [],
    hit := fun _ p => p.getLast? == some ".DS_Store" || p.getLast? == some ".git", rootName := "root" }

def exOpts : CreateOpts := { formats := ["xxh64", "md5"] }

/-- the `ascmhl` folder after the first `create` -/
def exStore : HistStore := (createFolder exEnv exTree exOpts).written.foldl HistStore.add {}

/-- the tree after the first `create`, with `b.txt` altered and a file `new` added -/
def exTree2 : Node :=
  .dir "root"
    [ .file "b.txt" [1, 2],
      .file "new" [],
      .dir "sub" [.file "x" [], .dir ".git" [.file "cfg" []] none] none,
      .file ".DS_Store" [] ] (some exStore)

def exHist2 : Hist :=
  match loadHistory exTree2 with
  | .ok h => h
  | .error _ => .mk [] [] [] false []

def exOpts2 : CreateOpts := { formats := ["sha1", "md5"] }

/-- the hypotheses of `create_records_exact_tree` hold for the first run -/
example : exOpts.singleFiles = [] ∧ loadHistory exTree = .ok (.mk [] [] [] false []) ∧ noNested exTree = true ∧
    exTree.NamesOk ∧ exOpts.formats ≠ [] ∧ exOpts.detectRenaming = false ∧
    (create exEnv exTree exOpts).written.length = 1 :=
  ⟨rfl, rfl, by decide +kernel⟩

example : exTree.NamesDistinct := by
  simp [exTree, Node.NamesDistinct, Node.NamesDistinctKids, Node.name]

/-- what the first run writes: a folder's record is made before its parent's files are recorded -/
example : ((create exEnv exTree exOpts).written.map fun w =>
      w.gen.records.map fun r => (r.path, r.isDir, r.entries.map fun e => (e.fmt, e.action))) =
    [[("sub/x", false, [("md5", "original"), ("xxh64", "original")]),
      ("sub", true, [("md5", ""), ("xxh64", "")]),
      ("b.txt", false, [("md5", "original"), ("xxh64", "original")])]] := by
  decide +kernel

example : (visiblePaths (cHit exEnv (.mk [] [] [] false []) exOpts) exTree).map (fun x => (posix x.1, x.2)) =
    [("sub/x", false), ("b.txt", false), ("sub", true)] := by
  decide +kernel

/-- one evaluation of the second run: the history loads and has one generation, the tree is as the theorems ask,
one generation is written, and what it records -/
theorem exTree2_eval :
    (match loadHistory exTree2 with | .ok _ => true | .error _ => false) = true ∧ exHist2.gens.length = 1 ∧
    noNested exTree2 = true ∧ exTree2.NamesOk ∧ (create exEnv exTree2 exOpts2).written.length = 1 ∧
    ((create exEnv exTree2 exOpts2).written.map fun w =>
        w.gen.records.map fun r => (r.path, r.entries.map fun e => (e.fmt, e.action))) =
      [[("sub/x", [("md5", "verified"), ("sha1", "verified")]), ("sub", [("md5", ""), ("sha1", "")]),
        ("b.txt", [("md5", "failed")]), ("new", [("md5", "original"), ("sha1", "original")])]] := by
  decide +kernel

/-- the second tree (one generation on record, `b.txt` altered, `new` added) loads as `exHist2` -/
theorem exHist2_loaded : loadHistory exTree2 = .ok exHist2 := by
  have h := exTree2_eval.1
  unfold exHist2
  cases hl : loadHistory exTree2 with
  | ok x => rfl
  | error e => rw [hl] at h; cases h

example : loadHistory exTree2 = .ok exHist2 ∧ exHist2.children = [] ∧ exHist2.gens.length = 1 ∧
    noNested exTree2 = true ∧ exTree2.NamesOk ∧ (create exEnv exTree2 exOpts2).written.length = 1 :=
  ⟨exHist2_loaded, (loadHistory_flat exTree2 exTree2_eval.2.2.1 exHist2 exHist2_loaded).1, exTree2_eval.2.1,
    exTree2_eval.2.2.1, exTree2_eval.2.2.2.1, exTree2_eval.2.2.2.2.1⟩

theorem exTree2_distinct : exTree2.NamesDistinct := by
  simp [exTree2, Node.NamesDistinct, Node.NamesDistinctKids, Node.name]

/-- `create_records_exact_tree` applied to the second run -/
example : ∃ w, (create exEnv exTree2 exOpts2).written = [w] ∧ w.histRoot = [] ∧
    (w.gen.records.map (·.path)).Nodup ∧
    ∀ s, s ∈ w.gen.records.map (·.path) ↔ ∃ x ∈ visiblePaths (cHit exEnv exHist2 exOpts2) exTree2, posix x.1 = s := by
  obtain ⟨hnn, hok, hlen, -⟩ := exTree2_eval.2.2
  obtain ⟨w, hw⟩ := List.length_eq_one_iff.1 hlen
  have h := create_records_exact_tree exEnv exTree2 exOpts2 exHist2 rfl exHist2_loaded hnn exTree2_distinct
    hok (by decide) rfl w hw
  exact ⟨w, hw, h.1, h.2.1, h.2.2.2.1⟩

/-- in the second run the altered file keeps its failed entry and does NOT get the requested new format, the unaltered file
gets the new format (as `verified`), and the new file gets both as `original` -/
example : ((create exEnv exTree2 exOpts2).written.map fun w =>
      w.gen.records.map fun r => (r.path, r.entries.map fun e => (e.fmt, e.action))) =
    [[("sub/x", [("md5", "verified"), ("sha1", "verified")]), ("sub", [("md5", ""), ("sha1", "")]),
      ("b.txt", [("md5", "failed")]), ("new", [("md5", "original"), ("sha1", "original")])]] :=
  exTree2_eval.2.2.2.2.2

end MhlProps.C02rec
