/-
C16 — Recorded size and timestamps describe the real file in any time zone.

Zones: constant zones and zones with one transition `oneTransition T a b` (offset `a` before instant `T`, `b` from `T`
on).  Spring-forward is `a < b`, fall-back is `a > b`.  The round trip itself (`mktime_fromTimestamp_near`) holds in ANY
zone at every instant around which, as far as CPython's probes reach, there is at most one transition.

EXACT CONDITION for the round trip in a one-transition zone: `a - b ≤ 86400`, i.e. the offset must not DROP by more
than CPython's probe window `max_fold_seconds` = 24 h.  A rise of the offset (spring-forward) may be arbitrarily large.
`|a - b| ≤ 86400` is therefore sufficient but not necessary; `a - b ≤ 86400` is necessary and sufficient
(`mktime_fromTimestamp_oneTransition_iff`), and at `a - b = 86401` the round trip fails (`roundtrip_fails_beyond_window`).
-/
import MhlProps.Proofs.TimeLemmas

namespace MhlProps.C16
open MhlModel.Time

/-! ### 1. constant zone -/

theorem mktime_fromTimestamp_const (c t : Int) :
    mktime (fun _ => c) (fromTimestamp (fun _ => c) t) = t := by
  rw [fromTimestamp_eta, mktime_const]; omega

/-! ### 2. one transition -/

/-- ANY zone that around `t` has at most one transition, with the offset dropping by at most 24 h (any spring-forward,
fall-back up to 24 h): the round trip is exact at `t`, whether before, inside or after the gap / the repeated
interval -/
theorem mktime_fromTimestamp_near (z : Zone) (T a b t M : Int) (hz : OneTransitionNear z T a b t M)
    (h : a - b ≤ 86400) : mktime z (fromTimestamp z t) = t := by
  rw [fromTimestamp_eta]
  exact mktime_near z T a b t M _ hz h (fromTimestamp_fold_near z T a b t M hz h)

theorem mktime_fromTimestamp_oneTransition (T a b t : Int) (h : a - b ≤ 86400) :
    mktime (oneTransition T a b) (fromTimestamp (oneTransition T a b) t) = t :=
  mktime_fromTimestamp_near _ T a b t _ (oneTransition_near T a b t) h

/-- with the symmetric bound `|a - b| ≤ 86400`, which is sufficient and not necessary -/
theorem mktime_fromTimestamp_oneTransition_abs (T a b t : Int) (h : (a - b).natAbs ≤ 86400) :
    mktime (oneTransition T a b) (fromTimestamp (oneTransition T a b) t) = t :=
  mktime_fromTimestamp_oneTransition T a b t (by omega)

/-- if the offset drops by MORE than 24 h the round trip fails at `T - 1` (when `a ≥ 1`: first pass of the repeated
interval, CPython's probe `u1 - 24 h` does not reach back before the transition) or at `T` (when `b < 0`: fold is
detected, but the probe `u1 + 24 h` does not reach the transition); one of the two always applies.  In both cases
`mktime` returns the instant of the OTHER pass, `a - b` seconds away, by `mktime_first`. -/
theorem roundtrip_fails_of_large_drop (T a b : Int) (h : 86400 < a - b) :
    ∃ t, mktime (oneTransition T a b) (fromTimestamp (oneTransition T a b) t) ≠ t := by
  by_cases ha : 1 ≤ a
  · refine ⟨T - 1, ?_⟩
    have hfold : (fromTimestamp (oneTransition T a b) (T - 1)).fold = false := by
      rw [← Bool.not_eq_true, fromTimestamp_fold, oneTransition_lt a b (by omega : T - 1 < T),
        oneTransition_lt a b (by omega : T - 1 - 86400 < T)]
      omega
    have e : T - 1 + oneTransition T a b (T - 1) = T - 1 + (a - b) + oneTransition T a b (T - 1 + (a - b)) := by
      rw [oneTransition_lt a b (by omega), oneTransition_ge a b (by omega)]; omega
    rw [fromTimestamp_eta, hfold, e, mktime_first]
    · omega
    · rw [← e, oneTransition_lt a b (by omega : T - 1 < T), oneTransition_ge a b (by omega),
        oneTransition_ge a b (by omega)]
    · left
      simp only [Bool.false_eq_true, if_false]
      rw [oneTransition_ge a b (by omega), oneTransition_ge a b (by omega)]
  · refine ⟨T, ?_⟩
    have hfold : (fromTimestamp (oneTransition T a b) T).fold = true := by
      rw [fromTimestamp_fold, oneTransition_ge a b (Int.le_refl T), oneTransition_lt a b (by omega : T - 86400 < T),
        oneTransition_lt a b (by omega)]
      omega
    have e : T + oneTransition T a b T = T - (a - b) + oneTransition T a b (T - (a - b)) := by
      rw [oneTransition_ge a b (Int.le_refl T), oneTransition_lt a b (by omega)]; omega
    rw [fromTimestamp_eta, hfold, e, mktime_first]
    · omega
    · rw [← e, oneTransition_ge a b (Int.le_refl T), oneTransition_lt a b (by omega),
        oneTransition_lt a b (by omega)]
    · left
      simp only [if_true]
      rw [oneTransition_lt a b (by omega), oneTransition_lt a b (by omega)]

/-- the exact condition CPython's algorithm needs in a one-transition zone -/
theorem mktime_fromTimestamp_oneTransition_iff (T a b : Int) :
    (∀ t, mktime (oneTransition T a b) (fromTimestamp (oneTransition T a b) t) = t) ↔ a - b ≤ 86400 := by
  constructor
  · intro hall
    by_cases h : a - b ≤ 86400
    · exact h
    · obtain ⟨t, ht⟩ := roundtrip_fails_of_large_drop T a b (by omega)
      exact absurd (hall t) ht
  · intro h t; exact mktime_fromTimestamp_oneTransition T a b t h

/-- boundary witnesses: a drop of exactly 24 h is still fine at the critical instants (`T - 1` and the last second of
the repeated interval) -/
example : mktime (oneTransition 1000000 90000 3600) (fromTimestamp (oneTransition 1000000 90000 3600) 999999) = 999999 := by
  decide +kernel
example : mktime (oneTransition 1000000 90000 3600) (fromTimestamp (oneTransition 1000000 90000 3600) 1086399) = 1086399 := by
  decide +kernel

/-- one second more is not: the two instants of `roundtrip_fails_of_large_drop` (`T - 1` for `a ≥ 1`, `T` for `b < 0`)
at a drop of 86401 -/
theorem roundtrip_fails_beyond_window :
    mktime (oneTransition 1000000 90001 3600) (fromTimestamp (oneTransition 1000000 90001 3600) 999999) ≠ 999999 ∧
    mktime (oneTransition 1000000 0 (-86401)) (fromTimestamp (oneTransition 1000000 0 (-86401)) 1000000) ≠ 1000000 := by
  decide +kernel

/-! ### 3. the printed value denotes the instant, with the offset in force at that instant -/

/-- in ANY zone: wherever the round trip is exact, the printed value denotes the instant and carries the offset in force
at that instant; no notion of "now" enters -/
theorem iso_denotes_of_roundtrip (z : Zone) (t : Int) (h : mktime z (fromTimestamp z t) = t) :
    denote (isoParts z (fromTimestamp z t)) = t ∧ (isoParts z (fromTimestamp z t)).2 = z t := by
  simp only [isoParts, denote, localSecs, h, and_true]; omega

theorem iso_denotes (T a b t : Int) (h : a - b ≤ 86400) :
    denote (isoParts (oneTransition T a b) (fromTimestamp (oneTransition T a b) t)) = t ∧
    (isoParts (oneTransition T a b) (fromTimestamp (oneTransition T a b) t)).2 = oneTransition T a b t :=
  iso_denotes_of_roundtrip _ t (mktime_fromTimestamp_oneTransition T a b t h)

theorem iso_denotes_const (c t : Int) :
    denote (isoParts (fun _ => c) (fromTimestamp (fun _ => c) t)) = t ∧
    (isoParts (fun _ => c) (fromTimestamp (fun _ => c) t)).2 = c :=
  iso_denotes_of_roundtrip _ t (mktime_fromTimestamp_const c t)

/-- the rendered local second count is the one `fromtimestamp` produced (the civil fields are not altered) -/
theorem iso_local_fields (T a b t : Int) (h : a - b ≤ 86400) :
    (isoParts (oneTransition T a b) (fromTimestamp (oneTransition T a b) t)).1 =
      (fromTimestamp (oneTransition T a b) t).secs := by
  simp only [isoParts, mktime_fromTimestamp_oneTransition T a b t h, fromTimestamp_secs, localSecs]

/-- file time and current time on whichever sides of the switch: each printed date carries its own offset -/
theorem iso_file_and_now (T a b t now : Int) (h : a - b ≤ 86400) :
    let z := oneTransition T a b
    denote (isoParts z (fromTimestamp z t)) = t ∧ (isoParts z (fromTimestamp z t)).2 = z t ∧
    denote (isoParts z (fromTimestamp z now)) = now ∧ (isoParts z (fromTimestamp z now)).2 = z now := by
  intro z
  exact ⟨(iso_denotes T a b t h).1, (iso_denotes T a b t h).2, (iso_denotes T a b now h).1, (iso_denotes T a b now h).2⟩

/-! ### 4. a formatter that prints every date with the offset of NOW (`isoPartsOld`; DESIGN.md §8, D7) -/

/-- file written before the switch, hashed after it: the value printed with the offset of NOW denotes an instant one
hour (the DST difference) before the file's real modification time -/
theorem old_formatter_wrong :
    denote (isoPartsOld (oneTransition 1000000 3600 7200) 1000001
      (fromTimestamp (oneTransition 1000000 3600 7200) 999999)) ≠ 999999 ∧
    denote (isoPartsOld (oneTransition 1000000 3600 7200) 1000001
      (fromTimestamp (oneTransition 1000000 3600 7200) 999999)) = 999999 - 3600 := by
  decide +kernel

theorem old_formatter_error (z : Zone) (now t : Int) :
    denote (isoPartsOld z now (fromTimestamp z t)) = t + (z t - z now) := by
  simp only [isoPartsOld, denote, fromTimestamp_secs]; omega

theorem old_formatter_right_iff (z : Zone) (now t : Int) :
    denote (isoPartsOld z now (fromTimestamp z t)) = t ↔ z now = z t := by
  rw [old_formatter_error]; omega

theorem old_formatter_right_iff_sides (T a b now t : Int) (h : a - b ≤ 86400) (hab : a ≠ b) :
    denote (isoPartsOld (oneTransition T a b) now (fromTimestamp (oneTransition T a b) t)) =
        mktime (oneTransition T a b) (fromTimestamp (oneTransition T a b) t) ↔ (now < T ↔ t < T) := by
  rw [mktime_fromTimestamp_oneTransition T a b t h, old_formatter_right_iff]
  simp only [oneTransition]
  repeat' split
  all_goals omega

/-- `isoParts` on the same witness -/
example : denote (isoParts (oneTransition 1000000 3600 7200)
      (fromTimestamp (oneTransition 1000000 3600 7200) 999999)) = 999999 := by decide +kernel

/-! ### 5. the fold bit -/

/-- fall-back 7200 → 3600 at T = 1000000: instant 1000600 is in the second pass; without the fold bit `mktime`
resolves to the first pass, one hour earlier -/
theorem fold_is_needed :
    (fromTimestamp (oneTransition 1000000 7200 3600) 1000600).fold = true ∧
    mktime (oneTransition 1000000 7200 3600) ⟨(fromTimestamp (oneTransition 1000000 7200 3600) 1000600).secs, false⟩
      ≠ 1000600 ∧
    mktime (oneTransition 1000000 7200 3600) ⟨(fromTimestamp (oneTransition 1000000 7200 3600) 1000600).secs, false⟩
      = 1000600 - 3600 := by
  decide +kernel

/-- `T ≤ t < T + (a - b)` is the second pass of the repeated interval (empty unless the offset drops at `T`) -/
theorem fold_iff_second_pass (T a b t : Int) (h : a - b ≤ 86400) :
    (fromTimestamp (oneTransition T a b) t).fold = true ↔ (T ≤ t ∧ t < T + (a - b)) :=
  fromTimestamp_fold_near _ T a b t _ (oneTransition_near T a b t) h

theorem fold_set_in_second_pass (T a b t : Int) (h : a - b ≤ 86400) (h1 : T ≤ t) (h2 : t < T + (a - b)) :
    (fromTimestamp (oneTransition T a b) t).fold = true :=
  (fold_iff_second_pass T a b t h).mpr ⟨h1, h2⟩

/-- in general: dropping the fold bit in the second pass resolves to the FIRST pass, `a - b` seconds earlier -/
theorem fold_dropped_gives_first_pass (T a b t : Int) (h : a - b ≤ 86400) (h1 : T ≤ t) (h2 : t < T + (a - b)) :
    mktime (oneTransition T a b) ⟨(fromTimestamp (oneTransition T a b) t).secs, false⟩ = t - (a - b) := by
  -- the instant `t - (a - b)` of the first pass has the same local time, and fold = 0 is its fold bit
  have e : (fromTimestamp (oneTransition T a b) t).secs = t - (a - b) + oneTransition T a b (t - (a - b)) := by
    rw [fromTimestamp_secs, oneTransition_ge a b h1, oneTransition_lt a b (by omega)]; omega
  rw [e]
  exact mktime_near _ T a b _ _ false (oneTransition_near T a b _) h
    (by simp only [Bool.false_eq_true, false_iff]; omega)

theorem fold_is_needed_general (T a b t : Int) (h : a - b ≤ 86400) (h1 : T ≤ t) (h2 : t < T + (a - b)) :
    mktime (oneTransition T a b) ⟨(fromTimestamp (oneTransition T a b) t).secs, false⟩ ≠ t := by
  rw [fold_dropped_gives_first_pass T a b t h h1 h2]; omega

/-- both passes of the repeated interval have the same local second count: only the fold bit tells them apart -/
theorem passes_share_local_time (T a b t : Int) (h1 : T ≤ t) (h2 : t < T + (a - b)) :
    (fromTimestamp (oneTransition T a b) t).secs = (fromTimestamp (oneTransition T a b) (t - (a - b))).secs := by
  simp only [fromTimestamp_secs, oneTransition]
  repeat' split
  all_goals omega

/-! ### 6. the offset text -/

/-- whole-minute offset below 24 h: sign, two digits, ':', two digits -/
theorem offsetText_shape (off : Int) (h : off.natAbs < 86400) (hm : off.natAbs % 60 = 0) :
    (offsetText off).toList =
      [if off < 0 then '-' else '+',
       Nat.digitChar (off.natAbs / 3600 / 10), Nat.digitChar (off.natAbs / 3600 % 10), ':',
       Nat.digitChar (off.natAbs % 3600 / 60 / 10), Nat.digitChar (off.natAbs % 3600 / 60 % 10)] ∧
    off.natAbs / 3600 / 10 < 3 ∧ off.natAbs / 3600 % 10 < 10 ∧
    off.natAbs % 3600 / 60 / 10 < 6 ∧ off.natAbs % 3600 / 60 % 10 < 10 := by
  refine ⟨?_, by omega, by omega, by omega, by omega⟩
  rw [offsetText_toList off (by omega)]
  simp [offsetChars, pad2Chars, hm]

theorem offsetText_length (off : Int) (h : off.natAbs < 86400) (hm : off.natAbs % 60 = 0) :
    (offsetText off).length = 6 := by
  rw [← String.length_toList, (offsetText_shape off h hm).1]; rfl

theorem offsetText_digits (off : Int) (h : off.natAbs < 86400) (hm : off.natAbs % 60 = 0) :
    ∃ s d1 d2 d3 d4 : Char, (offsetText off).toList = [s, d1, d2, ':', d3, d4] ∧ (s = '-' ∨ s = '+') ∧
      d1.isDigit = true ∧ d2.isDigit = true ∧ d3.isDigit = true ∧ d4.isDigit = true := by
  obtain ⟨e, b1, b2, b3, b4⟩ := offsetText_shape off h hm
  refine ⟨_, _, _, _, _, e, ?_, digitChar_isDigit _ (by omega), digitChar_isDigit _ b2,
    digitChar_isDigit _ (by omega), digitChar_isDigit _ b4⟩
  split <;> simp

/-- offsets with seconds (historical zones): ±HH:MM:SS, nine characters -/
theorem offsetText_length_seconds (off : Int) (h : off.natAbs < 86400) (hm : off.natAbs % 60 ≠ 0) :
    (offsetText off).length = 9 := by
  rw [← String.length_toList, offsetText_toList off (by omega)]
  simp [offsetChars, pad2Chars, hm]

theorem offsetText_injective (x y : Int) (hx : x.natAbs < 360000) (hy : y.natAbs < 360000)
    (e : offsetText x = offsetText y) : x = y := by
  have e' : offsetChars x = offsetChars y := by
    rw [← offsetText_toList x hx, ← offsetText_toList y hy, e]
  simp only [offsetChars, List.cons.injEq] at e'
  obtain ⟨es, e1⟩ := e'
  have hsign : x < 0 ↔ y < 0 := by
    by_cases h1 : x < 0 <;> by_cases h2 : y < 0 <;> simp [h1, h2] at es ⊢
  -- the digits give the absolute value, the first character the sign
  suffices h : x.natAbs = y.natAbs by omega
  generalize x.natAbs = A at *
  generalize y.natAbs = B at *
  obtain ⟨qh, e2⟩ := pad2Chars_append_inj _ _ (by omega) (by omega) _ _ e1
  obtain ⟨qm, e3⟩ := pad2Chars_append_inj _ _ (by omega) (by omega) _ _ (List.cons.inj e2).2
  have qs : A % 60 = B % 60 := by
    by_cases h1 : A % 60 = 0 <;> by_cases h2 : B % 60 = 0 <;> simp only [h1, h2, if_true, if_false] at e3
    · omega
    · exact absurd e3 (by simp)
    · exact absurd e3 (by simp)
    · exact pad2Chars_inj _ _ (by omega) (by omega) (List.cons.inj e3).2
  omega

/-- the character-level restatement agrees with the model's `offsetText` on a table of real-world offsets
(UTC, CET, India, Nepal, Newfoundland-like, Chatham, ±14 h, an offset with seconds) -/
example : ∀ off ∈ [(0 : Int), 3600, -3600, 19800, -19800, 20700, -12600, 45900, 50400, -50400, 5*3600+45*60+8],
    offsetText off = String.ofList (offsetChars off) := by
  intro off h
  apply offsetText_eq_ofList
  simp only [List.mem_cons, List.not_mem_nil, or_false] at h
  omega

example : offsetText 0 = "+00:00" ∧ offsetText 3600 = "+01:00" ∧ offsetText (-3600) = "-01:00" ∧
    offsetText 19800 = "+05:30" ∧ offsetText (-19800) = "-05:30" ∧ offsetText 20700 = "+05:45" ∧
    offsetText (-12600) = "-03:30" ∧ offsetText 45900 = "+12:45" ∧ offsetText 50400 = "+14:00" ∧
    offsetText (-50400) = "-14:00" ∧ offsetText (5*3600+45*60+8) = "+05:45:08" := by decide +kernel

/-! ### 7. the size attribute -/

/-- the size attribute is present for every length — also 0 (DESIGN.md §8, D3) — and distinct sizes give
distinct texts -/
theorem size_present :
    (∀ n, sizeAttr n ≠ none) ∧ sizeAttr 0 = some "0" ∧ (∀ n m, sizeAttr n = sizeAttr m → n = m) := by
  refine ⟨fun n => by simp [sizeAttr], by decide, ?_⟩
  intro n m e
  simp only [sizeAttr, Option.some.injEq] at e
  exact toString_nat_inj n m e

/-- the text is the decimal numeral of the size: reading the digits back gives the size -/
theorem size_decodes (n : Nat) : ∃ s, sizeAttr n = some s ∧ Nat.ofDigitChars 10 s.toList 0 = n := by
  refine ⟨toString n, rfl, ?_⟩
  simp [Nat.ofDigitChars_ten_toDigits]

/-! ### non-vacuity -/

/-- CET/CEST-like spring-forward (3600 → 7200) and fall-back (7200 → 3600) satisfy the hypothesis; instants before,
inside and after the critical window -/
example : (3600 : Int) - 7200 ≤ 86400 ∧ (7200 : Int) - 3600 ≤ 86400 := by decide +kernel

example : let z := oneTransition 1000000 7200 3600
    [999000, 999999, 1000000, 1003599, 1003600, 1090000].map (fun t => mktime z (fromTimestamp z t)) =
      [999000, 999999, 1000000, 1003599, 1003600, 1090000] ∧
    [999000, 999999, 1000000, 1003599, 1003600, 1090000].map (fun t => (fromTimestamp z t).fold) =
      [false, false, true, true, false, false] ∧
    [999000, 999999, 1000000, 1003599, 1003600].map (fun t => isoParts z (fromTimestamp z t)) =
      [(1006200, 7200), (1007199, 7200), (1003600, 3600), (1007199, 3600), (1007200, 3600)] := by decide +kernel

example : let z := oneTransition 1000000 3600 7200
    [999999, 1000000, 1086400].map (fun t => isoParts z (fromTimestamp z t)) =
      [(1003599, 3600), (1007200, 7200), (1093600, 7200)] := by decide +kernel

example : sizeAttr 0 = some "0" ∧ sizeAttr 1234567 = some "1234567" := by decide +kernel

end MhlProps.C16
