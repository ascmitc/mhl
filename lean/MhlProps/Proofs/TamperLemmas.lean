/-
Damage to `ascmhl` folders and the faults it causes (for C05e2e).

The three kinds of damage (a manifest altered, a manifest deleted, the chain file deleted) are tree operations: a
change `g` of the store of the folder at a path (`damageAt`).  What loading says afterwards is a question about one
store, the fault of `g s`: `storeFault_listed` for a store in the shape a run leaves, whatever the states of its
manifests; `storeFault_mark` for one manifest of any store that passes its checks.  `allFaults_damageAt` carries it to
the tree by the induction along the path (`Node.updateAt_relAt`); damage that leaves `storeView` as it is cannot be
seen.  Last, how a command can end when the history loads (`OwnEnd`): never with 31 / 32 / 33; for that, a commit
fails only with the `AssertionError` of the validation (`commit_error`, NestedLemmas).
-/
import MhlProps.Proofs.NestedLemmas
import MhlProps.C06
import MhlProps.C09

namespace MhlModel
open MhlProps

/-! ## damage as tree operations -/

/-- set the state of the `k`-th stored manifest (0-based, in stored order) to `st`; nothing else changes, in
particular neither the file names nor the chain -/
def markGens (st : FileState) : Nat → List Generation → List Generation
  | _, [] => []
  | 0, g :: gs => { g with state := st } :: gs
  | k + 1, g :: gs => g :: markGens st k gs

/-- the `k`-th stored manifest of the store gets state `st` -/
def HistStore.mark (s : HistStore) (k : Nat) (st : FileState) : HistStore :=
  { s with gens := markGens st k s.gens }

/-- the chain file is deleted (the manifests stay) -/
def HistStore.dropChain (s : HistStore) : HistStore := { s with chainPresent := false }

/-- apply `g` to the content of the node's `ascmhl` folder, if it has one -/
def Node.mapStore (g : HistStore → HistStore) : Node → Node
  | .dir nm cs (some s) => .dir nm cs (some (g s))
  | x => x

/-- damage of the `ascmhl` folder of the folder at path `r` (`r = []`: the root history) -/
def damageAt (g : HistStore → HistStore) (t : Node) (r : RelPath) : Node := Node.updateAt (Node.mapStore g) t r

/-- the bytes of the `k`-th stored manifest of the history at `r` no longer are what the chain says -/
def tamperGen (t : Node) (r : RelPath) (k : Nat) : Node := damageAt (·.mark k .modified) t r

/-- the `k`-th stored manifest of the history at `r` is deleted from disk: as the driver's `tamper` operation does
it, the chain entry stays and the file is marked missing -/
def removeGen (t : Node) (r : RelPath) (k : Nat) : Node := damageAt (·.mark k .missing) t r

/-- the chain file of the history at `r` is deleted -/
def removeChain (t : Node) (r : RelPath) : Node := damageAt HistStore.dropChain t r

/-- the driver's `tamper` operation: by file name -/
def markByName (st : FileState) (file : String) (gs : List Generation) : List Generation :=
  gs.map fun g => if g.fileName == file then { g with state := st } else g

theorem markGens_names (st : FileState) : ∀ (k : Nat) (gs : List Generation),
    (markGens st k gs).map (·.fileName) = gs.map (·.fileName)
  | k, [] => by cases k <;> rfl
  | 0, _ :: _ => rfl
  | k + 1, _ :: gs => by simp [markGens, markGens_names st k gs]

theorem markGens_eq_modify (st : FileState) : ∀ (k : Nat) (gs : List Generation),
    markGens st k gs = gs.modify k (fun g => { g with state := st })
  | _, [] => by simp [markGens]
  | 0, _ :: _ => by simp [markGens]
  | k + 1, _ :: gs => by simp [markGens, markGens_eq_modify st k gs]

theorem markGens_getElem? (st : FileState) (k : Nat) (gs : List Generation) (i : Nat) :
    (markGens st k gs)[i]? = if i = k then gs[i]?.map (fun g => { g with state := st }) else gs[i]? := by
  rw [markGens_eq_modify, List.getElem?_modify]
  split <;> split <;> simp_all

theorem markGens_comm (s1 s2 : FileState) (k1 k2 : Nat) (h : k1 ≠ k2) (l : List Generation) :
    markGens s2 k2 (markGens s1 k1 l) = markGens s1 k1 (markGens s2 k2 l) := by
  apply List.ext_getElem?
  intro i
  simp only [markGens_getElem?]
  by_cases h1 : i = k1 <;> by_cases h2 : i = k2
  · exact absurd (h1.symm.trans h2) h
  · subst h1; simp [h]
  · subst h2; simp [Ne.symm h]
  · simp [h1, h2]

theorem markGens_of_le (st : FileState) : ∀ (k : Nat) (gs : List Generation), gs.length ≤ k →
    markGens st k gs = gs
  | k, [], _ => by cases k <;> rfl
  | 0, _ :: _, h => by simp at h
  | k + 1, _ :: gs, h => by
    simp only [markGens, List.cons.injEq, true_and]
    exact markGens_of_le st k gs (by simpa using h)

theorem markGens_split (st : FileState) : ∀ (k : Nat) (gs : List Generation) (g : Generation), gs[k]? = some g →
    ∃ pre post, gs = pre ++ g :: post ∧ pre.length = k ∧ markGens st k gs = pre ++ { g with state := st } :: post
  | _, [], _, h => by simp at h
  | 0, x :: gs, g, h => by
    obtain rfl : x = g := by simpa using h
    exact ⟨[], gs, rfl, rfl, rfl⟩
  | k + 1, x :: gs, g, h => by
    obtain ⟨pre, post, rfl, hl, hm⟩ := markGens_split st k gs g (by simpa using h)
    exact ⟨x :: pre, post, rfl, by simp [hl], by simp [markGens, hm]⟩

/-- with pairwise different file names (as in a folder on disk) marking the `k`-th manifest is the driver's
`tamper` operation on its file name -/
theorem markGens_eq_markByName (st : FileState) : ∀ (k : Nat) (gs : List Generation) (g : Generation),
    (gs.map (·.fileName)).Nodup → gs[k]? = some g → markGens st k gs = markByName st g.fileName gs := by
  intro k gs g hnd hk
  obtain ⟨pre, post, rfl, -, hm⟩ := markGens_split st k gs g hk
  have hid : ∀ l : List Generation, (∀ y ∈ l, y.fileName ≠ g.fileName) →
      l.map (fun y => if y.fileName == g.fileName then { y with state := st } else y) = l := fun l hl =>
    (List.map_congr_left fun y hy => if_neg (by simpa using hl y hy)).trans (List.map_id _)
  simp only [List.map_append, List.map_cons, List.nodup_append, List.nodup_cons, List.mem_map, List.mem_cons,
    not_exists, not_and] at hnd
  rw [hm, markByName, List.map_append, List.map_cons, if_pos (beq_self_eq_true _),
    hid pre fun y hy he => hnd.2.2 _ ⟨y, hy, rfl⟩ _ (Or.inl rfl) he, hid post fun y hy he => hnd.2.1.1 y hy he]

theorem find?_name_of_nodup (gs : List Generation) (g : Generation) (hnd : (gs.map (·.fileName)).Nodup) (h : g ∈ gs) :
    gs.find? (fun x => x.fileName == g.fileName) = some g :=
  find?_of_nodup_map hnd h (by simp) fun _ _ hx => by simpa using hx

theorem first_of_name (gs : List Generation) (hnd : (gs.map (·.fileName)).Nodup) (k : Nat) (g : Generation)
    (hk : gs[k]? = some g) : ∀ j < k, ∀ g', gs[j]? = some g' → g'.fileName ≠ g.fileName := by
  intro j hj g' hg' he
  obtain ⟨hk', rfl⟩ := List.getElem?_eq_some_iff.1 hk
  obtain ⟨hj', rfl⟩ := List.getElem?_eq_some_iff.1 hg'
  have := (List.Nodup.getElem_inj_iff hnd (i := j) (j := k) (hi := by simpa using hj') (hj := by simpa using hk')).1
    (by simpa using he)
  omega

/-! ## the fault of a store -/

/-- the fault a manifest in this state causes: altered 31, deleted 33 -/
def stateFault : FileState → Option Err
  | .ok => none
  | .modified => some errModified
  | .missing => some errMissingManifest

def genFault (g : Generation) : Option Err := stateFault g.state

theorem entryFault_of_resolve (s : HistStore) (e : ChainEntry) (g : Generation) (h : resolve s e = some g) :
    entryFault s e = genFault g := by
  unfold entryFault genFault
  rw [h]
  cases hs : g.state <;> simp [stateFault, hs]

theorem chainFrom_findSome (s : HistStore) (hnd : (s.gens.map (·.fileName)).Nodup) :
    ∀ (l : List Generation) (k0 : Nat), (∀ g ∈ l, g ∈ s.gens) →
      (chainFrom k0 l).findSome? (entryFault s) = l.findSome? genFault
  | [], _, _ => rfl
  | g :: l, k0, h => by
    rw [chainFrom, List.findSome?_cons, List.findSome?_cons, 
      entryFault_of_resolve s ⟨k0, g.fileName⟩ g (find?_name_of_nodup s.gens g hnd (h g (by simp))),
      chainFrom_findSome s hnd l (k0 + 1) (fun x hx => h x (by simp [hx]))]

theorem chainFrom_congr : ∀ (a b : List Generation) (k0 : Nat), a.map (·.fileName) = b.map (·.fileName) →
    chainFrom k0 a = chainFrom k0 b
  | [], [], _, _ => rfl
  | [], _ :: _, _, h => by simp at h
  | _ :: _, [], _, h => by simp at h
  | x :: a, y :: b, k0, h => by
    simp only [List.map_cons, List.cons.injEq] at h
    simp only [chainFrom, h.1, chainFrom_congr a b (k0 + 1) h.2]

/-- a store in the shape a run leaves (the chain lists the stored manifests one by one, names pairwise different):
stored order is chain order is the order of the generation numbers, so the first manifest that is not intact decides -/
theorem storeFault_listed (gs' : List Generation) (k0 : Nat) (b : Bool) (hnd : (gs'.map (·.fileName)).Nodup) :
    storeFault (some { gens := gs', chain := chainFrom k0 gs', chainPresent := b }) =
      if b then gs'.findSome? genFault else some errNoChain := by
  cases b with
  | false => rfl
  | true =>
    simp only [storeFault, Bool.not_true, Bool.false_eq_true, if_false, if_true]
    exact chainFrom_findSome _ hnd gs' k0 (fun g hg => hg)

theorem resolve_mark (s : HistStore) (k : Nat) (g : Generation) (hk : s.gens[k]? = some g)
    (hfirst : ∀ j < k, ∀ g', s.gens[j]? = some g' → g'.fileName ≠ g.fileName) (st : FileState) (e : ChainEntry) :
    resolve (s.mark k st) e = if e.fileName = g.fileName then some { g with state := st } else resolve s e := by
  obtain ⟨pre, post, hgs, hl, hm⟩ := markGens_split st k s.gens g hk
  have hpre : ∀ x ∈ pre, x.fileName ≠ g.fileName := by
    intro x hx
    obtain ⟨j, hj, rfl⟩ := List.getElem_of_mem hx
    exact hfirst j (hl ▸ hj) _ (by rw [hgs, List.getElem?_append_left hj, List.getElem?_eq_getElem hj])
  show (markGens st k s.gens).find? _ = if _ then _ else s.gens.find? _
  rw [hm, hgs, List.find?_append, List.find?_append, List.find?_cons, List.find?_cons]
  by_cases he : e.fileName = g.fileName
  · rw [if_pos he, List.find?_eq_none.2 (fun x hx => by simpa [he] using hpre x hx)]
    simp [he]
  · rw [if_neg he, show (g.fileName == e.fileName) = false from beq_false_of_ne (Ne.symm he)]

/-- `hchained` and `hfirst` say that a chain entry means THIS file: it resolves to the first stored manifest of its
name -/
theorem storeFault_mark (s : HistStore) (hs : storeFault (some s) = none) (k : Nat) (g : Generation)
    (hk : s.gens[k]? = some g) (hchained : ∃ e ∈ s.chain, e.fileName = g.fileName)
    (hfirst : ∀ j < k, ∀ g', s.gens[j]? = some g' → g'.fileName ≠ g.fileName) (st : FileState) (hst : st ≠ .ok) :
    storeFault (some (s.mark k st)) = stateFault st := by
  obtain ⟨hcp, hclean⟩ := (storeFault_eq_none s).1 hs
  obtain ⟨x, hx⟩ : ∃ x, stateFault st = some x := by
    cases st
    exacts [absurd rfl hst, ⟨_, rfl⟩, ⟨_, rfl⟩]
  have hent : ∀ e, entryFault (s.mark k st) e = if e.fileName = g.fileName then stateFault st else entryFault s e := by
    intro e
    unfold entryFault
    rw [resolve_mark s k g hk hfirst st e]
    by_cases he : e.fileName = g.fileName
    · rw [if_pos he, if_pos he]; cases st <;> rfl
    · rw [if_neg he, if_neg he]
  show (if !s.chainPresent then some errNoChain else s.chain.findSome? (entryFault (s.mark k st))) = _
  rw [hcp, hx]
  obtain ⟨e, he, hen⟩ := hchained
  exact findSome?_eq_some_of ⟨e, he, by rw [hent, if_pos hen, hx]⟩ fun p hp => by
    rw [hent]
    split
    · exact Or.inr hx
    · exact Or.inl (hclean p hp)

theorem storeFault_dropChain (s : HistStore) : storeFault (some s.dropChain) = some errNoChain := rfl

/-! ## the faults of a tree after damage at one folder -/

theorem mapStore_name (g : HistStore → HistStore) (x : Node) : (Node.mapStore g x).name = x.name := by
  unfold Node.mapStore; split <;> rfl

theorem mapStore_hist (g : HistStore → HistStore) (x : Node) : (Node.mapStore g x).hist = x.hist.map g := by
  unfold Node.mapStore; split
  · rfl
  · next hne =>
    cases x with
    | file _ _ => rfl
    | dir nm cs h =>
      cases h with
      | none => rfl
      | some s => exact absurd rfl (hne nm cs s)

theorem mapStore_nestedFaults (g : HistStore → HistStore) (x : Node) :
    nestedFaults (Node.mapStore g x) = nestedFaults x := by
  unfold Node.mapStore; split
  · rw [nestedFaults, nestedFaults]
  · rfl

theorem damageAt_nil (g : HistStore → HistStore) (t : Node) : damageAt g t [] = Node.mapStore g t :=
  updateAt_nil _ t

theorem damageAt_nil_hist (g : HistStore → HistStore) (t : Node) : (damageAt g t []).hist = t.hist.map g := by
  rw [damageAt_nil, mapStore_hist]

theorem damageAt_mark_of_le (st : FileState) (nm : String) (cs : List Node) (s : HistStore) (k : Nat)
    (h : s.gens.length ≤ k) : damageAt (·.mark k st) (.dir nm cs (some s)) [] = .dir nm cs (some s) := by
  rw [damageAt_nil]
  show Node.dir nm cs (some { s with gens := markGens st k s.gens }) = _
  rw [markGens_of_le st k s.gens h]

/-- sibling names distinct along `r`: `Node.updateAt` changes every child of a name, `Node.at?` finds the first -/
theorem allFaults_damageAt (g : HistStore → HistStore) (r : RelPath) (t d : Node) (s : HistStore)
    (hd : t.DistinctAlong r) (hnil : allFaults t = []) (hat : t.at? r = some d) (hs : d.hist = some s) :
    allFaults (damageAt g t r) = (storeFault (some (g s))).toList := by
  refine Node.updateAt_relAt (fun _ c c' => allFaults c = [] → allFaults c' = (storeFault (some (g s))).toList) _ ?_
    r [] t d hd hat ?_ hnil
  · intro _ n pre c c' post h _ ih hnil
    obtain ⟨hroot, hkids⟩ := allFaults_nil_kids n _ h hnil
    rw [allFaults_eq, Node.hist, hroot, nestedFaults_only_child n pre post c' h fun y hy =>
      hkids y (List.mem_append.2 ((List.mem_append.1 hy).imp_right (List.mem_cons_of_mem c)))]
    exact ih (hkids c (by simp))
  · intro hnil
    rw [allFaults_eq, mapStore_hist, mapStore_nestedFaults, hs, Option.map_some,
      (List.append_eq_nil_iff.1 hnil).2, List.append_nil]

/-! ## damage that loading cannot see -/

theorem loadSame_mapStore (g : HistStore → HistStore) (d : Node) (s : HistStore) (hs : d.hist = some s)
    (he : storeView (some (g s)) = storeView (some s)) : LoadSame d (Node.mapStore g d) := by
  refine ⟨mapStore_name g d, ?_, fun here => ?_⟩
  · rw [mapStore_hist, hs]
    exact he
  · cases d with
    | file _ _ => cases hs
    | dir nm cs h => cases hs; show findChildren here (.dir nm cs _) = _; rw [findChildren_dir, findChildren_dir]

theorem loadHistory_damageAt_sameView (g : HistStore → HistStore) (r : RelPath) (t : Node) (s : HistStore)
    (hd : t.DistinctAlong r) (hs : storeAt t r = some s) (he : storeView (some (g s)) = storeView (some s)) :
    loadHistory (damageAt g t r) = loadHistory t := by
  obtain ⟨d, hat, hds⟩ := (storeAt_eq_some t r s).1 hs
  exact (LoadSame.updateAt _ r t d hd hat (loadSame_mapStore g d s hds he)).loadHistory

theorem filter_markGens_of_false (p : String → Bool) (st : FileState) (k : Nat) (gs : List Generation)
    (g : Generation) (hk : gs[k]? = some g) (hp : p g.fileName = false) :
    (markGens st k gs).filter (fun x => p x.fileName) = gs.filter (fun x => p x.fileName) := by
  obtain ⟨pre, post, rfl, -, hm⟩ := markGens_split st k gs g hk
  rw [hm, List.filter_append, List.filter_append, List.filter_cons_of_neg (by simp [hp]),
    List.filter_cons_of_neg (by simp [hp])]

theorem storeView_mark_unlisted (s : HistStore) (k : Nat) (g : Generation) (hk : s.gens[k]? = some g)
    (hun : s.lists g.fileName = false) (st : FileState) :
    storeView (some (s.mark k st)) = storeView (some s) := by
  apply MhlProps.C06.load_congr_dropUnlisted
  show HistStore.mk ((markGens st k s.gens).filter fun x => s.lists x.fileName) s.chain s.chainPresent = _
  rw [filter_markGens_of_false s.lists st k s.gens g hk hun]
  rfl

/-! ## how a command can end when the history loads -/

/-- the three errors of a damaged history -/
def ChainErr (e : Err) : Prop := e = errModified ∨ e = errMissingManifest ∨ e = errNoChain

/-- how a command can end when the history loads: normally, with an uncaught `AssertionError` of the commit, or with
one of the command's own exit codes (10, 11, 12, 20, 21, 30) -/
def OwnEnd (x : Option Err) : Prop :=
  x ∈ [none, some (.internal "AssertionError"), some errVerifyFailed, some errMissingFiles, some errNoHistory,
    some errNewFiles, some errSingleFileNotFound, some errDirVerifyFailed]

theorem ownEnd_not_chain (x : Option Err) (h : OwnEnd x) (e : Err) (he : ChainErr e) : x ≠ some e := by
  obtain ⟨h10, h11, h12, h20, h21, h30, h31, h32, h33⟩ := exit_codes_table
  unfold OwnEnd at h
  unfold ChainErr at he
  rw [h10, h11, h12, h20, h21, h30] at h
  rw [h31, h32, h33] at he
  rintro rfl
  rcases he with rfl | rfl | rfl <;> simp at h

theorem createExit_ownEnd (failed : Nat) (m mh : List RelPath) : OwnEnd (createExit failed m mh) := by
  unfold createExit OwnEnd
  repeat' split
  all_goals simp

theorem verifyExit_ownEnd (mism news : List String) (a b : Bool) (missing : List RelPath) :
    OwnEnd (verifyExit mism news a b missing) := by
  unfold verifyExit OwnEnd
  repeat' split
  all_goals simp

theorem diffExit_ownEnd (news : List String) (missing : List RelPath) : OwnEnd (diffExit news missing) := by
  unfold diffExit OwnEnd
  repeat' split
  all_goals simp

theorem ownEnd_assertion : OwnEnd (some (.internal "AssertionError")) := by simp [OwnEnd]

theorem ownEnd_noHistory : OwnEnd (some errNoHistory) := by simp [OwnEnd]

theorem ownEnd_none : OwnEnd none := List.mem_cons_self

theorem createFolder_ownEnd (env : Env) (t : Node) (o : CreateOpts) (h : Hist) (hl : loadHistory t = .ok h) :
    OwnEnd (createFolder env t o).err := by
  rcases createFolder_cases env t o h hl with ⟨e, hcm, heq⟩ | ⟨-, heq⟩
  · cases commit_error _ _ _ _ _ _ _ hcm
    rw [heq]; exact ownEnd_assertion
  · rw [heq]; exact createExit_ownEnd _ _ _

theorem createSingleFiles_ownEnd (env : Env) (t : Node) (o : CreateOpts) (h : Hist) (hl : loadHistory t = .ok h) :
    OwnEnd (createSingleFiles env t o).err := by
  unfold createSingleFiles
  simp only [hl]
  split
  · next e hcm =>
    cases commit_error _ _ _ _ _ _ _ hcm
    exact ownEnd_assertion
  · dsimp only
    split <;> simp [OwnEnd]

theorem create_ownEnd (env : Env) (t : Node) (o : CreateOpts) (h : Hist) (hl : loadHistory t = .ok h) :
    OwnEnd (create env t o).err := by
  unfold create
  split
  · exact createFolder_ownEnd env t o h hl
  · exact createSingleFiles_ownEnd env t o h hl

theorem verifyOrDiff_ownEnd (env : Env) (t : Node) (o : VerifyOpts) (hashing : Bool) (h : Hist)
    (hl : loadHistory t = .ok h) : OwnEnd (verifyOrDiff env t o hashing).err := by
  by_cases hg : h.gens = []
  · rw [verifyOrDiff_no_gens env t o hashing h hl hg]
    exact ownEnd_noHistory
  · rw [verifyOrDiff_loaded env t o hashing none h hl hg]
    cases hashing
    · exact diffExit_ownEnd _ _
    · exact verifyExit_ownEnd _ _ _ _ _

theorem verifyDh_ownEnd (env : Env) (t : Node) (o : DhOpts) (h : Hist) (hl : loadHistory t = .ok h) :
    OwnEnd (verifyDh env t o).err := by
  rw [verifyDh_ok env t o h hl]
  rcases MhlProps.C09.dhExit_cases (dhFormats h o.format) (dhFinal env t h o).failedFormats with h | h <;>
    simp [h, OwnEnd]

theorem flatten_ownEnd (env : Env) (t : Node) (a b : List String) (h : Hist) (hl : loadHistory t = .ok h) :
    OwnEnd (flatten env t a b).err := by
  unfold flatten
  simp only [hl]
  split <;> simp [OwnEnd]

theorem info_ownEnd (t : Node) (h : Hist) (hl : loadHistory t = .ok h) : OwnEnd (exceptErr (info t)) := by
  unfold info
  simp only [hl, bind, Except.bind]
  split
  · exact ownEnd_noHistory
  · exact ownEnd_none

theorem infoSingleFile_ownEnd (t : Node) (f : RelPath) (h : Hist) (hl : loadHistory t = .ok h) :
    OwnEnd (exceptErr (infoSingleFile t f)) := by
  unfold infoSingleFile
  simp only [hl, bind, Except.bind]
  split
  · exact ownEnd_noHistory
  · exact ownEnd_none

end MhlModel
