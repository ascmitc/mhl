/-
What C12nested carries through whole commands on nested trees.  A property of the roots of all lists of a session
(`RootsAll`) survives rename detection (for all records: `detectRenames_allRecs` of DetectLemmas and
`Session.AllRecs.written` of NestedLemmas).  The traversal is a function of the SET of visible entries
(`traverse_eq_of_visFrom_mem`: the visible children of a folder are sorted by pairwise different names), hence so is
every fold of visits that reads the tree for the content of visible files only (`foldl_traverse_eq_of_visible`); rename
detection reads the tree only for the content of the new files (`detectRenames_congr`).  Last, texts of paths
(`posix_not_mem_map`) and ignored paths (`ignored_not_missing`) for the reports of verify / diff /
create.
-/
import MhlProps.Proofs.DetectLemmas
import MhlProps.Proofs.SessionLemmas
import MhlProps.Proofs.VerifyLemmas

namespace MhlModel
open MhlProps.C02rec

/-! ## a property of the roots of all lists of a session, through rename detection -/

def RootsAll (PR : RelPath → Prop) (s : Session) : Prop := ∀ l ∈ s.lists, PR l.root

theorem put_rootsAll {PR : RelPath → Prop} {s : Session} {nl : NewList}
    (hs : RootsAll PR s) (hnl : PR nl.root) : RootsAll PR (s.put nl) := fun l hl =>
  (Session.mem_put_lists hl).elim (hs l) fun e => e ▸ hnl

/-- rename detection only adds (empty) lists for PARENT histories of histories that have one -/
theorem detectRenames_rootsAll {PR : RelPath → Prop} (env : Env) (t : Node) (h : Hist)
    (hclosed : ∀ R pr, PR R → parentRoot h R = some pr → PR pr)
    (s : Session) (newPaths notFound : List RelPath) (hs : RootsAll PR s) :
    RootsAll PR (detectRenames env t h s newPaths notFound).1 :=
  detectRenames_session_inv env t h
    (fun _ l _ _ hP hl => put_rootsAll hP (hP l hl))
    (fun s' l pr _ _ hP hl hpr => put_rootsAll hP (by
      show PR (s'.get pr).root
      rw [Session.get_root]
      exact hclosed _ _ (hP l hl) hpr))
    s newPaths notFound hs

/-! ## the traversal is determined by the set of visible paths -/

/-- the visible children are determined by their set: they are sorted by name, and the names are pairwise different -/
theorem visKids_ext (hit : RelPath → Bool) (here : RelPath) {cs₁ cs₂ : List Node}
    (hnd₁ : (cs₁.map Node.name).Nodup) (hnd₂ : (cs₂.map Node.name).Nodup)
    (h : ∀ k, k ∈ visKids hit here cs₁ ↔ k ∈ visKids hit here cs₂) :
    visKids hit here cs₁ = visKids hit here cs₂ := by
  have hn : ∀ cs : List Node, (cs.map Node.name).Nodup → ((visKids hit here cs).map Kid.name).Nodup := fun cs hnd => by
    rw [List.Nodup, List.pairwise_map]; exact visKids_names_pairwise hit here cs hnd
  have hs : ∀ cs : List Node, (visKids hit here cs).Pairwise (fun x y => strLe x.name y.name = true) := fun cs => by
    unfold visKids
    exact (isort_key_sorted Kid.name _).filter _
  -- a `have`: passed inline, `List.Perm.eq_of_pairwise` leaves the order relation to unification, which is slow to find it
  have anti : ∀ a b : Kid, a ∈ visKids hit here cs₁ → b ∈ visKids hit here cs₂ →
      strLe a.name b.name = true → strLe b.name a.name = true → a = b :=
    fun a b ha hb hab hba =>
      eq_of_nodup_map (hn cs₁ hnd₁) ha ((h b).2 hb) (strLe_antisymm _ _ hab hba)
  exact List.Perm.eq_of_pairwise anti (hs cs₁) (hs cs₂)
    ((List.perm_ext_iff_of_nodup (hn cs₁ hnd₁).of_map (hn cs₂ hnd₂).of_map).2 h)

/-- Every visible path below a child starts with `here ++ [name of the child]`, so a visible child of the one folder
has a child of the same name and kind in the other whose subtree shows its paths; `key` is this for one path. -/
theorem kid_counterpart (hit : RelPath → Bool) (here : RelPath) {n₁ n₂ : String} {cs₁ cs₂ : List Node}
    {h₁ h₂ : Option HistStore} (hnd₂ : (cs₂.map Node.name).Nodup)
    (hsub : ∀ x, x ∈ visFrom hit here (.dir n₁ cs₁ h₁) → x ∈ visFrom hit here (.dir n₂ cs₂ h₂))
    {c₁ : Node} (hc₁ : c₁ ∈ cs₁) (hv₁ : hit (here ++ [c₁.name]) = false) :
    ∃ c₂ ∈ cs₂, hit (here ++ [c₂.name]) = false ∧ c₂.name = c₁.name ∧ c₂.isDir = c₁.isDir ∧
      ∀ x, x ∈ visFrom hit (here ++ [c₁.name]) c₁ → x ∈ visFrom hit (here ++ [c₁.name]) c₂ := by
  have key : ∀ x : RelPath × Bool, x ∈ visFrom hit here (.dir n₂ cs₂ h₂) → x.1.take (here.length + 1) = here ++ [c₁.name] →
      ∃ c₂ ∈ cs₂, hit (here ++ [c₂.name]) = false ∧ c₂.name = c₁.name ∧
        (x = (here ++ [c₂.name], c₂.isDir) ∨ x ∈ visFrom hit (here ++ [c₂.name]) c₂) := by
    intro x hx htake
    obtain ⟨c₂, hc₂, hv₂, hx₂⟩ := (mem_visFrom_dir hit here n₂ cs₂ h₂ x).1 hx
    refine ⟨c₂, hc₂, hv₂, ?_, hx₂⟩
    have : x.1.take (here.length + 1) = here ++ [c₂.name] := by
      rcases hx₂ with rfl | hx₂
      · exact take_append_succ here c₂.name []
      · exact (visitPaths_kid_prefix ((mem_visKids _ _ _ _).2 ⟨c₂, hc₂, hv₂, rfl⟩) hx₂).2
    simpa using this.symm.trans htake
  obtain ⟨c₂, hc₂, hv₂, hname, hx₂⟩ := key (here ++ [c₁.name], c₁.isDir)
    (hsub _ ((mem_visFrom_dir _ _ _ _ _ _).2 ⟨c₁, hc₁, hv₁, Or.inl rfl⟩)) (take_append_succ here c₁.name [])
  refine ⟨c₂, hc₂, hv₂, hname, ?_, fun x hx => ?_⟩
  · rcases hx₂ with h | h
    · exact (Prod.mk.inj h).2.symm
    · have := (visitPaths_kid_prefix ((mem_visKids _ _ _ _).2 ⟨c₂, hc₂, hv₂, rfl⟩) h).1
      simp at this
  · have hpre := visitPaths_kid_prefix ((mem_visKids _ _ _ _).2 ⟨c₁, hc₁, hv₁, rfl⟩) hx
    obtain ⟨c₂', hc₂', hv₂', hname', hx₂'⟩ := key x
      (hsub _ ((mem_visFrom_dir _ _ _ _ _ _).2 ⟨c₁, hc₁, hv₁, Or.inr hx⟩)) hpre.2
    obtain rfl : c₂' = c₂ := eq_of_nodup_map hnd₂ hc₂' hc₂ (hname'.trans hname.symm)
    rcases hx₂' with h | h
    · have := hpre.1; rw [h] at this; simp at this
    · rwa [hname] at h

/-- the traversal is a function of the set of visible entries -/
theorem traverse_eq_of_visFrom_mem (hit : RelPath → Bool) (t₁ : Node) :
    ∀ (t₂ : Node) (here : RelPath), t₁.NamesDistinct → t₂.NamesDistinct → t₁.isDir = t₂.isDir →
      (∀ x, x ∈ visFrom hit here t₁ ↔ x ∈ visFrom hit here t₂) → traverse hit here t₁ = traverse hit here t₂ := by
  induction t₁ using Node.induct with
  | file n c =>
    intro t₂ here _ _ hk _
    cases t₂ with
    | file n₂ c₂ => simp [traverse]
    | dir n₂ cs₂ h₂ => simp [Node.isDir] at hk
  | dir n cs h ih =>
    intro t₂ here hd₁ hd₂ hk hV
    cases t₂ with
    | file n₂ c₂ => simp [Node.isDir] at hk
    | dir n₂ cs₂ h₂ =>
      rw [Node.namesDistinct_dir] at hd₁ hd₂
      have hkid : ∀ c₁ ∈ cs, ∀ c₂ ∈ cs₂, hit (here ++ [c₁.name]) = false → hit (here ++ [c₂.name]) = false →
          c₂.name = c₁.name → kidOf hit here c₁ = kidOf hit here c₂ := by
        intro c₁ hc₁ c₂ hc₂ hv₁ hv₂ hname
        obtain ⟨a, ha, -, han, hak, hsub₁⟩ := kid_counterpart hit here hd₂.1 (fun x => (hV x).1) hc₁ hv₁
        rw [eq_of_nodup_map hd₂.1 ha hc₂ (han.trans hname.symm)] at hak hsub₁
        obtain ⟨b, hb, -, hbn, -, hsub₂⟩ := kid_counterpart hit here hd₁.1 (fun x => (hV x).2) hc₂ hv₂
        rw [eq_of_nodup_map hd₁.1 hb hc₁ (hbn.trans hname), hname] at hsub₂
        simp only [kidOf, hname, hak, ih c₁ hc₁ c₂ (here ++ [c₁.name]) (hd₁.2 c₁ hc₁) (hd₂.2 c₂ hc₂) hak.symm
          (fun x => ⟨hsub₁ x, hsub₂ x⟩)]
      rw [traverse_dir, traverse_dir, visKids_ext hit here hd₁.1 hd₂.1]
      intro k
      constructor
      · intro hk'
        obtain ⟨c₁, hc₁, hv₁, rfl⟩ := (mem_visKids _ _ _ _).1 hk'
        obtain ⟨c₂, hc₂, hv₂, hname, -, -⟩ := kid_counterpart hit here hd₂.1 (fun x => (hV x).1) hc₁ hv₁
        exact (mem_visKids _ _ _ _).2 ⟨c₂, hc₂, hv₂, hkid c₁ hc₁ c₂ hc₂ hv₁ hv₂ hname⟩
      · intro hk'
        obtain ⟨c₂, hc₂, hv₂, rfl⟩ := (mem_visKids _ _ _ _).1 hk'
        obtain ⟨c₁, hc₁, hv₁, hname, -, -⟩ := kid_counterpart hit here hd₁.1 (fun x => (hV x).2) hc₂ hv₂
        exact (mem_visKids _ _ _ _).2 ⟨c₁, hc₁, hv₁, (hkid c₁ hc₁ c₂ hc₂ hv₁ hv₂ hname.symm).symm⟩

/-- a fold of visits over the traversal depends on the visible entries only, for step functions that read the trees
only for the content of the files of the visit (`createVisit_congr`, `dhVisit_congr`) -/
theorem foldl_traverse_eq_of_visible {σ : Type} {f₁ f₂ : σ → Visit → σ} (hit : RelPath → Bool) (t₁ t₂ : Node)
    (hd₁ : t₁.NamesDistinct) (hd₂ : t₂.NamesDistinct) (hk : t₁.isDir = t₂.isDir)
    (hvis : visiblePaths hit t₁ = visiblePaths hit t₂)
    (hcont : ∀ p, (p, false) ∈ visiblePaths hit t₁ → fileContent t₁ p = fileContent t₂ p)
    (hf : ∀ st v, (∀ c ∈ v.children, c.2 = false →
      fileContent t₁ (v.folder ++ [c.1]) = fileContent t₂ (v.folder ++ [c.1])) → f₁ st v = f₂ st v) (st : σ) :
    (traverse hit [] t₁).foldl f₁ st = (traverse hit [] t₂).foldl f₂ st := by
  rw [← traverse_eq_of_visFrom_mem hit t₁ t₂ [] hd₁ hd₂ hk fun x => by
    rw [show visFrom hit [] t₁ = visFrom hit [] t₂ from hvis]]
  refine foldl_congr_mem _ (fun st v hv => hf st v fun c hc hcf => hcont _ ?_) st
  exact List.mem_flatMap.2 ⟨v, hv, List.mem_map.2 ⟨c, hc, by rw [hcf]⟩⟩

/-! ## rename detection depends on the tree only through the content of the new files -/

/-- what rename detection reads of the tree at `p`: the content of the file there, if there is one -/
def fileAt? (t : Node) (p : RelPath) : Option Bytes :=
  match t.at? p with
  | some (.file _ c) => some c
  | _ => none

theorem digestFor_fileAt (env : Env) (t : Node) (np : RelPath) (es : List Entry) (fmt : String) :
    digestFor env t np es fmt =
      match es.find? (fun e => e.fmt == fmt) with
      | some e => some e.digest
      | none => (fileAt? t np).map (env.H fmt) := by
  unfold digestFor fileAt?
  cases es.find? _ with
  | some e => rfl
  | none =>
    cases t.at? np with
    | none => rfl
    | some x => cases x <;> rfl

theorem detectRenames_congr (env : Env) (t₁ t₂ : Node) (h : Hist) (s : Session) (newPaths notFound : List RelPath)
    (hsame : ∀ np ∈ newPaths, fileAt? t₁ np = fileAt? t₂ np) :
    detectRenames env t₁ h s newPaths notFound = detectRenames env t₂ h s newPaths notFound := by
  rw [detectRenames_eq_G, detectRenames_eq_G]
  apply foldl_congr_mem
  intro acc np hnp
  congr 1
  funext acc nf
  simp only [drStepG, matchesG, matchesB, newDigest, digestFor_fileAt, hsame np hnp]

theorem fileAt?_eq_of_visible (hit : RelPath → Bool) (t₁ t₂ : Node) (hd₁ : t₁.NamesDistinct) (hd₂ : t₂.NamesDistinct)
    (p : RelPath) (d : Bool) (hv₁ : (p, d) ∈ visiblePaths hit t₁) (hv₂ : (p, d) ∈ visiblePaths hit t₂)
    (hc : d = false → fileContent t₁ p = fileContent t₂ p) : fileAt? t₁ p = fileAt? t₂ p := by
  obtain ⟨c₁, hc₁, hk₁⟩ := MhlProps.C02.visible_on_disk hit t₁ hd₁ p d hv₁
  obtain ⟨c₂, hc₂, hk₂⟩ := MhlProps.C02.visible_on_disk hit t₂ hd₂ p d hv₂
  unfold fileAt?
  unfold fileContent at hc
  rw [hc₁, hc₂] at hc ⊢
  cases c₁ <;> cases c₂ <;> simp_all [Node.isDir]

theorem cState_newPaths_visible (env : Env) (t : Node) (rootHist : Hist) (o : CreateOpts) (np : RelPath)
    (hnp : np ∈ (cState env t rootHist o).newPaths) : ∃ d, (np, d) ∈ visiblePaths (cHit env rootHist o) t := by
  unfold cState at hnp
  rw [createFold_newPaths, ← visiblePaths_map_fst] at hnp
  rcases (mem_foldl_appendNew' _ _ _).1 hnp with h | h
  · cases h
  · obtain ⟨x, hx, rfl⟩ := List.mem_map.1 (List.mem_filter.1 h).1
    exact ⟨x.2, hx⟩

/-! ## texts of paths, ignored paths -/

theorem posix_not_mem_map {L : List RelPath} {p : RelPath} (hp : ∀ s ∈ p, NameOk s) (hpne : p ≠ [])
    (hL : ∀ q ∈ L, ∀ s ∈ q, '/' ∉ s.toList) (hnot : p ∉ L) : posix p ∉ L.map posix := by
  intro hm
  obtain ⟨q, hq, hqp⟩ := List.mem_map.1 hm
  exact hnot (posix_inj_left hp hpne (hL q hq) hqp.symm ▸ hq)

theorem ignored_not_missing {hit : RelPath → Bool} {l : List RelPath} {p : RelPath} {k : Nat} (hk0 : 0 < k)
    (hk : k ≤ p.length) (hh : hit (p.take k) = true) :
    p ∉ missingAfter hit l ∧
      ((∀ s ∈ p, NameOk s) → (∀ q ∈ l, ∀ s ∈ q, '/' ∉ s.toList) → posix p ∉ (missingAfter hit l).map posix) := by
  have hnot : p ∉ missingAfter hit l := fun hm => by
    have := ((mem_missingAfter _ _ _).1 hm).2
    rw [(hitAbove_true_iff hit p).2 ⟨k, hk0, hk, hh⟩] at this
    cases this
  refine ⟨hnot, fun hp hl => posix_not_mem_map hp ?_ (fun q hq => hl q ((mem_missingAfter _ _ _).1 hq).1) hnot⟩
  rintro rfl
  simp at hk
  omega

end MhlModel
