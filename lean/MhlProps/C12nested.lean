/-
C12nested — the remaining clauses of C12 as theorems about whole commands, for trees WITH nested histories.

 "A path matched by the effective ignore patterns (those of the latest generation plus those given on the command
  line or in a pattern file) is never hashed or recorded, does not contribute to any directory hash, and is reported
  neither as new nor as missing; the ascmhl folders themselves and .DS_Store are always excluded.  The pattern list
  written into each new generation contains every pattern of the previous generation in the same order plus the new
  ones without duplicates, and generations written into nested histories during a parent run also contain the
  parent's patterns."

Setting: `t` any tree whose history loads, `loadHistory t = .ok rootHist`; `rootHist` may have children and
grandchildren; `env` (hash function, decoder, MATCHER) arbitrary.  `effective rootHist cli file` is the command's
effective pattern list.  No hypothesis on the options: any formats (also none), with or without `-dr`, with or
without directory hashes.  `t.NamesDistinct` / `t.NamesOk` (sibling names distinct; no "/" in a name, no name ".")
where records are tied to paths.

The five sections follow the clauses: the list written into EVERY generation of a run (root or nested, folder mode or
`-sf`); no record for an ignored path, in any history (FALSE for `-sf`: `sf_records_named_ignored`); what is written,
directory hashes included, depends on the visible entries only (also for `verify -dh`); an ignored path is never
reported new / altered / missing; `.DS_Store` and `ascmhl` are always excluded (FALSE without `DefaultsIn`:
`defaults_may_be_absent`).
-/
import MhlProps.C03
import MhlProps.Proofs.DhLemmas
import MhlProps.Proofs.EvalLemmas
import MhlProps.Proofs.IgnoreNestedLemmas
import MhlProps.Proofs.NestedLemmas
import MhlProps.Proofs.SeqLemmas

namespace MhlProps.C12nested
open MhlModel MhlProps.C12 MhlProps.C02rec

/-- the effective pattern list of a command run on a tree whose history loaded as `rootHist`: the patterns of the
root history's latest generation (the defaults if there is none), then the command line's, then the pattern file's -/
def effective (rootHist : Hist) (cli file : List String) : List String :=
  setPatterns (latestIgnore rootHist.gens) cli file

/-! ### 1. the pattern list written into every generation of a run -/

/-- **nested_written_ignore.**  Whatever `create` is asked to do (folder mode or `-sf`, any options): EVERY generation
`w` it writes — into the root history or into a nested one, at any depth — belongs to a history `h` of the walk and
its pattern list is `setPatterns (latestIgnore h.gens) P []`, where `P` is the command's effective list: the previous
list of THAT history (the defaults if it has none), then the patterns of the run. -/
theorem nested_written_ignore (env : Env) (t : Node) (o : CreateOpts) (rootHist : Hist)
    (hl : loadHistory t = .ok rootHist) :
    ∀ w ∈ (create env t o).written, ∃ h ∈ walkPost rootHist, w.histRoot = h.root ∧
      w.gen.ignore = setPatterns (latestIgnore h.gens) (effective rootHist o.ignoreCli o.ignoreFile) [] := by
  -- both modes end with the commit of a session that carries the effective list, or write nothing
  rcases create_written_cases env t o rootHist hl with h0 | ⟨s, hs, hcm⟩
  · rw [h0]; exact fun w hw => nomatch hw
  · intro w hw
    have := commit_ignore hcm hw
    rwa [hs] at this

/-- the same in the form "the commit returned `ws`": for any session carrying the effective list -/
theorem nested_written_ignore_commit (rootHist : Hist) (s : Session) (rn stamp process : String)
    (cb : Option String) (ws : List Written) (hcm : commit rootHist s rn stamp process cb = .ok ws) :
    ∀ w ∈ ws, ∃ h ∈ walkPost rootHist, w.histRoot = h.root ∧
      w.gen.ignore = setPatterns (latestIgnore h.gens) s.patterns [] :=
  fun _ hw => commit_ignore hcm hw

/-- for trees a file system can hold the history is determined by its root folder: the list written into the
generation of the history rooted at `w.histRoot` is computed from THAT history's generations -/
theorem nested_written_ignore_at (env : Env) (t : Node) (o : CreateOpts) (rootHist : Hist)
    (hl : loadHistory t = .ok rootHist) (hd : t.NamesDistinct) :
    ∀ w ∈ (create env t o).written, ∀ h ∈ walkPost rootHist, h.root = w.histRoot →
      w.gen.ignore = setPatterns (latestIgnore h.gens) (effective rootHist o.ignoreCli o.ignoreFile) [] := by
  intro w hw h hh hr
  obtain ⟨h', hh', hr', hig⟩ := nested_written_ignore env t o rootHist hl w hw
  have hg := loadHistory_histOK t rootHist hl hd
  have : h = h' := mem_all_root_inj hg.nodup ((mem_walkPost _ _).1 hh) ((mem_walkPost _ _).1 hh') (hr.trans hr')
  rw [this]; exact hig

/-- The prefix clause on the command: for a tree a file system can hold, the generation written into the history `h` (root or
nested) starts with the default list when `h` had no generation, and with `h`'s latest list — same patterns, same
order — when that list is non-empty and duplicate-free -/
theorem nested_written_prefix (env : Env) (t : Node) (o : CreateOpts) (rootHist : Hist)
    (hl : loadHistory t = .ok rootHist) (hd : t.NamesDistinct) :
    ∀ w ∈ (create env t o).written, ∀ h ∈ walkPost rootHist, h.root = w.histRoot →
      (h.gens = [] → Gen.defaultIgnore <+: w.gen.ignore) ∧
      (∀ l, latestIgnore h.gens = some l → l ≠ [] → l.Nodup → l <+: w.gen.ignore) := by
  intro w hw h hh hr
  rw [nested_written_ignore_at env t o rootHist hl hd w hw h hh hr]
  exact ⟨fun h0 => h0 ▸ setPatterns_fresh _ _, fun l hl' hne hnd => hl' ▸ setPatterns_keeps_previous l _ _ hne hnd⟩

/-- the hypothesis on duplicates in `nested_written_prefix` is needed (list level; on a whole run: `MhlProps.C06seq.step_prefix_needs_nodup`):
a recorded list that repeats a pattern is not a prefix of the next list, which drops the repetition -/
theorem prefix_needs_nodup :
    setPatterns (some ["x", "x"]) ["y"] [] = ["x", "y"] ∧ ¬ ["x", "x"] <+: setPatterns (some ["x", "x"]) ["y"] [] := by
  decide

/-- **generations written into nested histories during a parent run also contain the parent's patterns** — and the
new ones: every generation of the run lists every pattern of the ROOT history's starting list, every `-i` pattern and
every pattern of the pattern file, whichever history it is written into; it also lists the patterns that history
had before (as a prefix), and no pattern twice. -/
theorem nested_contains_parent (env : Env) (t : Node) (o : CreateOpts) (rootHist : Hist)
    (hl : loadHistory t = .ok rootHist) :
    ∀ w ∈ (create env t o).written,
      (∀ x ∈ basePatterns (latestIgnore rootHist.gens), x ∈ w.gen.ignore) ∧
      (∀ x ∈ o.ignoreCli, x ∈ w.gen.ignore) ∧ (∀ x ∈ o.ignoreFile, x ∈ w.gen.ignore) ∧
      w.gen.ignore.Nodup ∧
      ∃ h ∈ walkPost rootHist, w.histRoot = h.root ∧ basePatterns (latestIgnore h.gens) <+: w.gen.ignore := by
  intro w hw
  obtain ⟨h, hh, hr, hig⟩ := nested_written_ignore env t o rootHist hl w hw
  have hP : ∀ x ∈ effective rootHist o.ignoreCli o.ignoreFile, x ∈ w.gen.ignore :=
    fun x hx => hig ▸ (mem_setPatterns _ _ _ x).2 (Or.inr (Or.inl hx))
  exact ⟨fun x hx => hP x ((mem_setPatterns _ _ _ x).2 (Or.inl hx)),
    fun x hx => hP x ((mem_setPatterns _ _ _ x).2 (Or.inr (Or.inl hx))),
    fun x hx => hP x ((mem_setPatterns _ _ _ x).2 (Or.inr (Or.inr hx))),
    hig ▸ setPatterns_nodup _ _ _, h, hh, hr, hig ▸ basePatterns_prefix_setPatterns _ _ _⟩

/-- the duplicate-freeness needed for the prefix statement is re-established by every run: once the generation `w` is
the latest one of its history, that history's latest list is duplicate-free, whatever was recorded before -/
theorem nested_written_nodup_preserved (env : Env) (t : Node) (o : CreateOpts) (rootHist : Hist)
    (hl : loadHistory t = .ok rootHist) :
    ∀ w ∈ (create env t o).written, ∀ (gens : List LGen) (n : Nat),
      ∃ l, latestIgnore (gens ++ [⟨n, w.gen⟩]) = some l ∧ l ≠ [] ∧ l.Nodup := by
  intro w hw gens n
  obtain ⟨h, -, -, hig⟩ := nested_written_ignore env t o rootHist hl w hw
  exact ⟨w.gen.ignore, latestIgnore_append _ _, hig ▸ setPatterns_ne_nil _ _ _, hig ▸ setPatterns_nodup _ _ _⟩

/-! ### 2. no record for an ignored path, in any history -/

theorem ignored_not_visible {hit : RelPath → Bool} {t : Node} {p : RelPath} {k : Nat} (hk0 : 0 < k) (hk : k ≤ p.length)
    (hh : hit (p.take k) = true) : ∀ x ∈ visiblePaths hit t, ¬ p <+: x.1 := by
  rintro ⟨_, d⟩ hx ⟨q, rfl⟩
  refine MhlProps.C02.ignored_nowhere hit t (p ++ q) d k hk0 (by rw [List.length_append]; omega) ?_ hx
  rw [List.take_append_of_le_length hk]
  exact hh

section recorded
variable (env : Env) (t : Node) (o : CreateOpts) (rootHist : Hist) (hl : loadHistory t = .ok rootHist)
  (hd : t.NamesDistinct) (hn : t.NamesOk)
include hl hd hn

omit hl hd hn in
theorem cHit_eq : cHit env rootHist o = env.hit (effective rootHist o.ignoreCli o.ignoreFile) := rfl

/-- the session after the traversal fold (ANY requested formats, the empty list included) only has records that
denote visible paths, and only has lists for histories at or above a visited folder -/
theorem fold_session_sound :
    Session.AllRecs (fun R r => ∃ x ∈ visiblePaths (cHit env rootHist o) t, R ++ splitPath r.path = x.1 ∧ r.isDir = x.2)
        (cState env t rootHist o).session ∧
      RootsAll (fun R => ∃ x ∈ recItems (traverse (cHit env rootHist o) [] t), R <+: x.1)
        (cState env t rootHist o).session := by
  have hg := loadHistory_histOK t rootHist hl hd
  have hok := recItems_itemsOk hg (cHit env rootHist o) hd hn
  have hs : SCore rootHist (setPatterns (latestIgnore rootHist.gens) o.ignoreCli o.ignoreFile)
      (cState env t rootHist o).session (recItems (traverse (cHit env rootHist o) [] t)) :=
    (createFold_sinv (env := env) hg hd hn (isort strLe o.formats) o.noDirHashes _ (cHit env rootHist o)).core
  constructor
  · intro l hlm r hr
    rw [← Session.get_of_mem _ hs.nodup hlm] at hr
    obtain ⟨x, hx, hq0, hqx, hdir, -⟩ := SCore.item_of hg.root hok hs hr
    rcases (mem_recItems _ t x).1 hx with h | ⟨rfl, -⟩
    · exact ⟨x, h, hqx, hdir⟩
    · exact absurd (List.append_eq_nil_iff.1 hqx).2 hq0
  · intro l hlm
    exact hs.rootsJ l.root (List.mem_map_of_mem hlm)

/-- … and so does the session that folder-mode `create` commits, after the optional rename detection -/
theorem final_session_sound :
    Session.AllRecs (fun R r => ∃ x ∈ visiblePaths (cHit env rootHist o) t, R ++ splitPath r.path = x.1 ∧ r.isDir = x.2)
        (cRen env t rootHist o).1 ∧
      RootsAll (fun R => ∃ x ∈ recItems (traverse (cHit env rootHist o) [] t), R <+: x.1) (cRen env t rootHist o).1 := by
  have hg := loadHistory_histOK t rootHist hl hd
  obtain ⟨h1, h2⟩ := fold_session_sound env t o rootHist hl hd hn
  refine ⟨cRen_session_inv h1 fun s np nf h => detectRenames_allRecs (fun _ _ _ hr => hr) _ _ _ h np nf,
    cRen_session_inv h2 fun s np nf h => detectRenames_rootsAll _ _ _ ?_ _ _ _ h⟩
  rintro R pr ⟨x, hx, hpre⟩ hpr
  exact ⟨x, hx, (parentRoot_prefix hg hpr).1.trans hpre⟩

/-- **nothing else is recorded, whatever the options** (with or without `-dr`, with or without directory hashes):
every record of every generation folder-mode `create` writes — into the root history or a nested one — denotes a
VISIBLE path and has that entry's kind -/
theorem written_visible :
    ∀ w ∈ (createFolder env t o).written, ∀ r ∈ w.gen.records,
      ∃ x ∈ visiblePaths (cHit env rootHist o) t, w.histRoot ++ splitPath r.path = x.1 ∧ r.isDir = x.2 := by
  intro w hw r hr
  exact (final_session_sound env t o rootHist hl hd hn).1.written
    (fun R r h => by rw [finalRec_path, finalRec_isDir]; exact h) (createFolder_written_commit env t o rootHist hl hw) w hw r hr

/-- **ignored_never_recorded.**  If some non-empty initial segment of `p` (`p` itself included) is matched by the
effective patterns, then no generation written by the run — into whichever history — has a record denoting `p`
(`w.histRoot ++ splitPath r.path = p`), be it a file record or a directory record. -/
theorem ignored_never_recorded (p : RelPath) (k : Nat) (hk0 : 0 < k) (hk : k ≤ p.length)
    (hh : env.hit (effective rootHist o.ignoreCli o.ignoreFile) (p.take k) = true) :
    ∀ w ∈ (createFolder env t o).written, ∀ r ∈ w.gen.records, w.histRoot ++ splitPath r.path ≠ p := by
  intro w hw r hr hden
  obtain ⟨x, hx, hx1, -⟩ := written_visible env t o rootHist hl hd hn w hw r hr
  exact ignored_not_visible hk0 hk hh x hx (hx1.symm.trans hden ▸ List.prefix_rfl)

/-- the same for the generations `ws` a successful commit of the run's session (without `-dr`) returned -/
theorem ignored_never_recorded_commit (ws : List Written)
    (hcm : commit rootHist (cSession env t rootHist o) env.rootName env.stamp "in-place" = .ok ws)
    (p : RelPath) (k : Nat) (hk0 : 0 < k) (hk : k ≤ p.length)
    (hh : env.hit (effective rootHist o.ignoreCli o.ignoreFile) (p.take k) = true) :
    ∀ w ∈ ws, ∀ r ∈ w.gen.records, w.histRoot ++ splitPath r.path ≠ p := by
  intro w hw r hr hden
  obtain ⟨x, hx, hx1, -⟩ := (fold_session_sound env t o rootHist hl hd hn).1.written
    (fun R r h => by rw [finalRec_path, finalRec_isDir]; exact h) hcm w hw r hr
  exact ignored_not_visible hk0 hk hh x hx (hx1.symm.trans hden ▸ List.prefix_rfl)

/-- **no generation is written into an ignored history**: if a non-empty initial segment of `p` is matched, then no
history rooted at `p` or below `p` gets a new generation (so the root record `"."` / root hash of such a history is
not written either) — although `loadHistory` finds nested histories regardless of the patterns. -/
theorem ignored_history_not_written (p : RelPath) (k : Nat) (hk0 : 0 < k) (hk : k ≤ p.length)
    (hh : env.hit (effective rootHist o.ignoreCli o.ignoreFile) (p.take k) = true) :
    ∀ w ∈ (createFolder env t o).written, ¬ p <+: w.histRoot := by
  intro w hw hpre
  have hg := loadHistory_histOK t rootHist hl hd
  obtain ⟨R, hR, hwR⟩ := commit_session_below hg _ _ _ _ _ (createFolder_written_commit env t o rootHist hl hw) w hw
  obtain ⟨l, hlm, rfl⟩ := List.mem_map.1 hR
  obtain ⟨x, hx, hRx⟩ := (final_session_sound env t o rootHist hl hd hn).2 l hlm
  have hpx : p <+: x.1 := (hpre.trans hwR).trans hRx
  rcases (mem_recItems _ t x).1 hx with hv | ⟨rfl, -⟩
  · exact ignored_not_visible hk0 hk hh x hv hpx
  · rw [List.prefix_nil.1 hpx, List.length_nil] at hk
    omega

end recorded

/-! ### 3. what is written — directory hashes included — depends on the visible entries only -/

section dirhash
variable (env : Env) (t₁ t₂ : Node) (o : CreateOpts) (rootHist : Hist)
  (hl₁ : loadHistory t₁ = .ok rootHist) (hl₂ : loadHistory t₂ = .ok rootHist)
  (hd₁ : t₁.NamesDistinct) (hd₂ : t₂.NamesDistinct) (hk : t₁.isDir = t₂.isDir)
  (hvis : visiblePaths (cHit env rootHist o) t₁ = visiblePaths (cHit env rootHist o) t₂)
  (hcont : ∀ p, (p, false) ∈ visiblePaths (cHit env rootHist o) t₁ → fileContent t₁ p = fileContent t₂ p)

include hd₁ hd₂ hk hvis hcont in
/-- the same visible paths (hence the same traversal: folders yielded, order, children) ⇒ the same state after the
traversal fold: session (all records, all directory hashes), failures, found and new paths -/
theorem same_state : cState env t₁ rootHist o = cState env t₂ rootHist o :=
  foldl_traverse_eq_of_visible _ t₁ t₂ hd₁ hd₂ hk hvis hcont
    (fun st v => createVisit_congr env rootHist _ t₁ t₂ _ st v) _

include hd₁ hd₂ hk hvis hcont in
/-- … ⇒ the same session, not-found paths and renames after the optional rename detection -/
theorem same_ren : cRen env t₁ rootHist o = cRen env t₂ rootHist o := by
  have hst := same_state env t₁ t₂ o rootHist hd₁ hd₂ hk hvis hcont
  unfold cRen cNotFound_u
  rw [hst]
  split
  · rw [detectRenames_congr env t₁ t₂]
    intro np hnp
    obtain ⟨d, hv₂⟩ := cState_newPaths_visible env t₂ rootHist o np hnp
    have hv₁ : (np, d) ∈ visiblePaths (cHit env rootHist o) t₁ := by rw [hvis]; exact hv₂
    exact fileAt?_eq_of_visible _ t₁ t₂ hd₁ hd₂ np d hv₁ hv₂ (fun hd => hcont np (hd ▸ hv₁))
  · rfl

include hl₁ hl₂ hd₁ hd₂ hk hvis hcont in
/-- **ignored_not_in_dirhash.**  Two trees with the same loaded histories that show the same visible entries
(`visiblePaths` under the effective patterns, as lists) with the same content at the visible files — they may differ
arbitrarily in ignored files and in whatever lies below ignored folders — make folder-mode `create` (any options)
write EQUAL generations: the same records, the same digests, the same directory hashes (content and structure, of
every folder, in every history) and root hashes; and the same report.  The whole outcome is equal if moreover the
same referenced nested histories are present. -/
theorem ignored_not_in_dirhash :
    (createFolder env t₁ o).written = (createFolder env t₂ o).written ∧
    (createFolder env t₁ o).report = (createFolder env t₂ o).report ∧
    (cMissingHist t₁ rootHist = cMissingHist t₂ rootHist → createFolder env t₁ o = createFolder env t₂ o) := by
  rw [createFolder_eq_gen env t₁ o rootHist hl₁, createFolder_eq_gen env t₂ o rootHist hl₂,
    same_state env t₁ t₂ o rootHist hd₁ hd₂ hk hvis hcont, same_ren env t₁ t₂ o rootHist hd₁ hd₂ hk hvis hcont]
  cases commit rootHist (cRen env t₂ rootHist o).1 env.rootName env.stamp "in-place" with
  | error e => exact ⟨rfl, rfl, fun _ => rfl⟩
  | ok ws => exact ⟨rfl, rfl, fun h => by rw [h]⟩

end dirhash

/-- the same for `verify -dh`: the directory hashes it computes and everything it reports depend on the visible
entries and the content of the visible files only -/
theorem ignored_not_in_dirhash_dh (env : Env) (t₁ t₂ : Node) (o : DhOpts) (rootHist : Hist)
    (hl₁ : loadHistory t₁ = .ok rootHist) (hl₂ : loadHistory t₂ = .ok rootHist)
    (hd₁ : t₁.NamesDistinct) (hd₂ : t₂.NamesDistinct) (hk : t₁.isDir = t₂.isDir)
    (hvis : visiblePaths (env.hit (effective rootHist o.ignoreCli o.ignoreFile)) t₁ =
      visiblePaths (env.hit (effective rootHist o.ignoreCli o.ignoreFile)) t₂)
    (hcont : ∀ p, (p, false) ∈ visiblePaths (env.hit (effective rootHist o.ignoreCli o.ignoreFile)) t₁ →
      fileContent t₁ p = fileContent t₂ p) :
    verifyDh env t₁ o = verifyDh env t₂ o := by
  have hfold : dhFold env t₁ rootHist o = dhFold env t₂ rootHist o :=
    foldl_traverse_eq_of_visible _ t₁ t₂ hd₁ hd₂ hk hvis hcont (fun st v => dhVisit_congr env rootHist _ t₁ t₂ o st v) _
  rw [verifyDh_ok env t₁ o rootHist hl₁, verifyDh_ok env t₂ o rootHist hl₂, dhFinal, dhFinal, dhRootHashes, dhRootHashes,
    hfold]

/-! ### 4. an ignored path is reported neither as new, nor as altered, nor as missing -/

section reported
variable (env : Env) (t : Node) (o : VerifyOpts) (hashing : Bool) (rootHist : Hist)

theorem vHit_eq : vHit env rootHist o = env.hit (effective rootHist o.ignoreCli o.ignoreFile) := rfl

/-- **ignored_not_reported** (on paths).  verify (`hashing = true`) and diff (`hashing = false`), any options: if some
non-empty initial segment of `p` is matched by the effective patterns, `p` is in none of the three lists of paths
whose texts make up the report (`MhlProps.C03.report_shape`). -/
theorem ignored_not_reported (p : RelPath) (k : Nat) (hk0 : 0 < k) (hk : k ≤ p.length)
    (hh : env.hit (effective rootHist o.ignoreCli o.ignoreFile) (p.take k) = true) :
    p ∉ vNews env t rootHist o hashing ∧ p ∉ vMism env t rootHist o hashing ∧ p ∉ vMissing env t rootHist o := by
  obtain ⟨h1, h2⟩ := MhlProps.C03.ignored_irrelevant env t o hashing rootHist p
  have h3 := h2 k hk0 hk hh
  exact ⟨h3.1, h3.2, h1 ((hitAbove_true_iff _ p).2 ⟨k, hk0, hk, hh⟩)⟩

/-- **ignored_not_reported** (on the texts of the report), for trees whose names are well formed (`NamesOk`: no "/"
inside a name, no name "."), so that `posix` is injective on the paths in question: the text of an ignored path
made of well-formed names is reported neither as new nor as altered; nor as missing, provided no component of a
recorded (expected) path contains a "/" — which holds for whatever `splitPath` produces from a record. -/
theorem ignored_not_reported_text (hn : t.NamesOk) (hl : loadHistory t = .ok rootHist)
    (p : RelPath) (hp : ∀ s ∈ p, NameOk s) (k : Nat) (hk0 : 0 < k) (hk : k ≤ p.length)
    (hh : env.hit (effective rootHist o.ignoreCli o.ignoreFile) (p.take k) = true) :
    posix p ∉ (verifyOrDiff env t o hashing none).report.new ∧
    posix p ∉ (verifyOrDiff env t o hashing none).report.mismatch ∧
    ((∀ q ∈ expectedPaths rootHist, ∀ s ∈ q, '/' ∉ s.toList) →
      posix p ∉ (verifyOrDiff env t o hashing none).report.missing) := by
  have hpne : p ≠ [] := by
    intro h0; subst h0; simp at hk; omega
  by_cases hg : rootHist.gens = []
  · rw [verifyOrDiff_no_gens env t o hashing rootHist hl hg]
    exact ⟨by simp, by simp, fun _ => by simp⟩
  · obtain ⟨hm, hnw, hms, -, -⟩ := MhlProps.C03.report_shape env t o hashing rootHist hl hg
    obtain ⟨h1, h2, -⟩ := ignored_not_reported env t o hashing rootHist p k hk0 hk hh
    rw [hm, hnw, hms]
    refine ⟨posix_not_mem_map hp hpne ?_ h1, posix_not_mem_map hp hpne ?_ h2,
      fun hexp => (ignored_not_missing hk0 hk hh).2 hp fun q hq => hexp q (List.mem_filter.1 hq).1⟩
    · intro q hq s hs
      have hv := ((MhlProps.C03.news_iff env t o hashing rootHist q).1 hq).1
      exact ((visible_names_ok _ t hn _ hv).2 s hs).1
    · intro q hq s hs
      have hv := ((MhlProps.C03.mism_iff env t o hashing rootHist q).1 hq).1
      exact ((visible_names_ok _ t hn _ hv).2 s hs).1

end reported

theorem ignored_not_reported_verify (env : Env) (t : Node) (o : VerifyOpts) (rootHist : Hist) (hn : t.NamesOk)
    (hl : loadHistory t = .ok rootHist) (p : RelPath) (hp : ∀ s ∈ p, NameOk s) (k : Nat) (hk0 : 0 < k)
    (hk : k ≤ p.length) (hh : env.hit (effective rootHist o.ignoreCli o.ignoreFile) (p.take k) = true) :
    posix p ∉ (verify env t o).report.new ∧ posix p ∉ (verify env t o).report.mismatch ∧
    ((∀ q ∈ expectedPaths rootHist, ∀ s ∈ q, '/' ∉ s.toList) → posix p ∉ (verify env t o).report.missing) :=
  ignored_not_reported_text env t o true rootHist hn hl p hp k hk0 hk hh

theorem ignored_not_reported_diff (env : Env) (t : Node) (o : VerifyOpts) (rootHist : Hist) (hn : t.NamesOk)
    (hl : loadHistory t = .ok rootHist) (p : RelPath) (hp : ∀ s ∈ p, NameOk s) (k : Nat) (hk0 : 0 < k)
    (hk : k ≤ p.length) (hh : env.hit (effective rootHist o.ignoreCli o.ignoreFile) (p.take k) = true) :
    posix p ∉ (diff env t o).report.new ∧ posix p ∉ (diff env t o).report.mismatch ∧
    ((∀ q ∈ expectedPaths rootHist, ∀ s ∈ q, '/' ∉ s.toList) → posix p ∉ (diff env t o).report.missing) :=
  ignored_not_reported_text env t { o with singleFile := none } false rootHist hn hl p hp k hk0 hk hh

/-- the missing paths of a folder-mode `create` run after the optional rename detection (`cMissing` of CreateLemmas is
the case without `-dr`) -/
def cMissing_w (env : Env) (t : Node) (o : CreateOpts) (rootHist : Hist) : List RelPath :=
  missingAfter (cHit env rootHist o) (cRen env t rootHist o).2.1

theorem createFolder_missing (env : Env) (t : Node) (o : CreateOpts) (rootHist : Hist)
    (hl : loadHistory t = .ok rootHist) :
    (createFolder env t o).report.missing = [] ∨
      (createFolder env t o).report.missing = (cMissing_w env t o rootHist).map posix := by
  rw [createFolder_eq_gen env t o rootHist hl]
  cases commit rootHist (cRen env t rootHist o).1 env.rootName env.stamp "in-place" with
  | error e => exact Or.inl rfl
  | ok ws => exact Or.inr rfl

/-- **ignored_not_reported** for folder-mode `create` (any options): an ignored path is not among the missing paths,
and (slash-free recorded components, well-formed `p`) its text is not in `report.missing` -/
theorem ignored_not_reported_create (env : Env) (t : Node) (o : CreateOpts) (rootHist : Hist)
    (hl : loadHistory t = .ok rootHist) (p : RelPath) (k : Nat) (hk0 : 0 < k) (hk : k ≤ p.length)
    (hh : env.hit (effective rootHist o.ignoreCli o.ignoreFile) (p.take k) = true) :
    p ∉ cMissing_w env t o rootHist ∧
    ((∀ s ∈ p, NameOk s) → (∀ q ∈ expectedPaths rootHist, ∀ s ∈ q, '/' ∉ s.toList) →
      posix p ∉ (createFolder env t o).report.missing) := by
  obtain ⟨hnot, htext⟩ := ignored_not_missing (l := (cRen env t rootHist o).2.1) hk0 hk hh
  refine ⟨hnot, fun hp hexp => ?_⟩
  rcases createFolder_missing env t o rootHist hl with h | h
  · rw [h]; simp
  · rw [h]
    exact htext hp fun q hq => hexp q (List.mem_filter.1 (mem_cRen_notFound hq)).1

/-! ### 5. `.DS_Store` and the `ascmhl` folders -/

/-- the default patterns are in the starting list of a history with these generations: it has no generation, or its
latest list is empty, or its latest list contains them -/
def DefaultsIn (gens : List LGen) : Prop := ∀ x ∈ Gen.defaultIgnore, x ∈ basePatterns (latestIgnore gens)

theorem defaultsIn_nil : DefaultsIn [] := by
  intro x hx
  exact hx

/-- **always_excluded** (list level).  The effective list of EVERY command (create, create -sf, verify, verify -sf,
verify -dh, diff, flatten all compute `setPatterns (latestIgnore rootHist.gens) cli file`) contains `.DS_Store`,
`ascmhl` and `ascmhl/` — provided the root history has no generation yet, or its latest list is empty, or its latest
list contains them (`DefaultsIn`); whatever is given on the command line or in the pattern file. -/
theorem always_excluded (rootHist : Hist) (cli file : List String) (h : DefaultsIn rootHist.gens) :
    ".DS_Store" ∈ effective rootHist cli file ∧ "ascmhl" ∈ effective rootHist cli file ∧
      "ascmhl/" ∈ effective rootHist cli file := by
  have key : ∀ x ∈ Gen.defaultIgnore, x ∈ effective rootHist cli file :=
    fun x hx => (mem_setPatterns _ _ _ x).2 (Or.inl (h x hx))
  exact ⟨key _ (by decide), key _ (by decide), key _ (by decide)⟩

theorem always_excluded_first_run (rootHist : Hist) (cli file : List String) (h : rootHist.gens = []) :
    ".DS_Store" ∈ effective rootHist cli file ∧ "ascmhl" ∈ effective rootHist cli file ∧
      "ascmhl/" ∈ effective rootHist cli file :=
  always_excluded rootHist cli file (h ▸ defaultsIn_nil)

/-- … and the lists WRITTEN: every generation of a run whose root history satisfies `DefaultsIn` lists the three
default patterns, in whichever (nested) history it is written — also one whose own previous list lacked them; and the
property is inherited: once that generation is the latest of its history, `DefaultsIn` holds for that history. -/
theorem always_excluded_written (env : Env) (t : Node) (o : CreateOpts) (rootHist : Hist)
    (hl : loadHistory t = .ok rootHist) (h : DefaultsIn rootHist.gens) :
    ∀ w ∈ (create env t o).written,
      (".DS_Store" ∈ w.gen.ignore ∧ "ascmhl" ∈ w.gen.ignore ∧ "ascmhl/" ∈ w.gen.ignore) ∧
      ∀ (gens : List LGen) (n : Nat), DefaultsIn (gens ++ [⟨n, w.gen⟩]) := by
  intro w hw
  have hpar := (nested_contains_parent env t o rootHist hl w hw).1
  refine ⟨⟨hpar _ (h _ (by decide)), hpar _ (h _ (by decide)), hpar _ (h _ (by decide))⟩, fun gens n x hx => ?_⟩
  -- the list written is its own starting list
  obtain ⟨h', -, -, hig⟩ := nested_written_ignore env t o rootHist hl w hw
  rw [latestIgnore_append, show (LGen.mk n w.gen).gen.ignore = w.gen.ignore from rfl, hig, basePatterns_setPatterns, ← hig]
  exact hpar x (h x hx)

/-- **the clause "always excluded" is FALSE without `DefaultsIn`**: `set_patterns` only falls back to the defaults
when there is no (or an empty) previous list.  A root history whose latest generation lists just `x` (a manifest
written by another tool, or edited): the effective list of every command is `["x"]`, and so is the list `create`
writes — `.DS_Store`, `ascmhl`, `ascmhl/` are in neither. -/
theorem defaults_may_be_absent :
    let g : Generation := { fileName := "0001_root_2020-01-01_000000Z.mhl", ignore := ["x"] }
    let t : Node := .dir "root" [.file "a" [1]] (some { gens := [g], chain := [⟨1, g.fileName⟩] })
    let rootHist : Hist := .mk [] [⟨1, g⟩] [⟨1, g.fileName⟩] true []
    let env : Env := { H := fun f _ => f, D := fun _ _ => some [], hit := fun _ _ => false, rootName := "root" }
    loadHistory t = .ok rootHist ∧ effective rootHist [] [] = ["x"] ∧
      ".DS_Store" ∉ effective rootHist [] [] ∧
      (create env t {}).written.map (fun w => (w.histRoot, w.number, w.gen.ignore)) = [([], 2, ["x"])] := by
  refine ⟨by rfl, by decide +kernel⟩

/-- what is assumed of the matcher (`pathspec` "gitwildmatch", a parameter of the model) for the name `n`: a pattern
list that contains the bare name `n` and no negated pattern matches every path whose LAST component is `n` -/
def HonorsName (hit : Matcher) (n : String) : Prop :=
  ∀ (pats : List String) (p : RelPath), n ∈ pats → (∀ q ∈ pats, q.toList.head? ≠ some '!') →
    p.getLast? = some n → hit pats p = true

/-- **always_excluded** (parametric in the matcher).  For a matcher that honours the bare names `.DS_Store` and
`ascmhl`, a root history satisfying `DefaultsIn`, and an effective list without negated patterns: every path with a
component `.DS_Store` or `ascmhl` has a matched initial segment — so (1–4) it is not visited, not hashed, not
recorded in any history, not part of any directory hash, not reported new / altered / missing. -/
theorem always_excluded_param (hit : Matcher) (hDS : HonorsName hit ".DS_Store") (hA : HonorsName hit "ascmhl")
    (rootHist : Hist) (cli file : List String) (hdef : DefaultsIn rootHist.gens)
    (hneg : ∀ q ∈ effective rootHist cli file, q.toList.head? ≠ some '!')
    (p : RelPath) (hp : ".DS_Store" ∈ p ∨ "ascmhl" ∈ p) :
    (∃ k, 0 < k ∧ k ≤ p.length ∧ hit (effective rootHist cli file) (p.take k) = true) ∧
    hitAbove (hit (effective rootHist cli file)) p = true ∧
    ∀ (t : Node) (d : Bool), (p, d) ∉ visiblePaths (hit (effective rootHist cli file)) t := by
  obtain ⟨h1, h2, -⟩ := always_excluded rootHist cli file hdef
  have key : ∀ n, n ∈ p → HonorsName hit n → n ∈ effective rootHist cli file →
      ∃ k, 0 < k ∧ k ≤ p.length ∧ hit (effective rootHist cli file) (p.take k) = true := by
    intro n hn hH hmem
    obtain ⟨a, b, rfl⟩ := List.append_of_mem hn
    refine ⟨a.length + 1, by omega, by simp, ?_⟩
    have : (a ++ n :: b).take (a.length + 1) = a ++ [n] := take_append_succ a n b
    rw [this]
    exact hH _ _ hmem hneg (by simp)
  have hk : ∃ k, 0 < k ∧ k ≤ p.length ∧ hit (effective rootHist cli file) (p.take k) = true := by
    rcases hp with hp | hp
    · exact key _ hp hDS h1
    · exact key _ hp hA h2
  refine ⟨hk, (hitAbove_true_iff _ p).2 hk, ?_⟩
  intro t d
  obtain ⟨k, hk0, hkl, hh⟩ := hk
  exact MhlProps.C02.ignored_nowhere _ t p d k hk0 hkl hh

/-! ### non-vacuity: a nested history at `A/` with its own previous list, root `create -i "*.tmp" -i "*.bak" -i "*.tmp"` -/

section Examples

/-- a toy matcher: the LAST component is compared with every pattern; `*suffix` matches by suffix, anything else
literally -/
def igMatch : Matcher := fun pats p =>
  match p.getLast? with
  | none => false
  | some n => pats.any fun pat =>
      if pat.toList.head? == some '*' then (pat.toList.drop 1).isSuffixOf n.toList else n == pat

def igEnv : Env :=
  { H := fun f c => f ++ ":" ++ toString c.length, D := fun _ _ => some [], hit := igMatch, rootName := "root" }

/-- the generation `A/` was sealed with on its own, with `-i "*.bak"` -/
def igGenA : Generation :=
  { fileName := "0001_A_2020-01-01_000000Z.mhl", ignore := [".DS_Store", "ascmhl", "ascmhl/", "*.bak"],
    records := [{ path := "a.txt", size := some 2,
                  entries := [{ fmt := "md5", digest := "md5:2", action := "original" }] }] }

def igStoreA : HistStore := { gens := [igGenA], chain := [⟨1, igGenA.fileName⟩] }

/-- no history at the root yet, one at `A/`; ignored files at both levels, an ignored folder with content -/
def igTree : Node :=
  .dir "root"
    [ .file "r.txt" [1], .file "x.tmp" [9],
      .dir "A" [ .file "a.txt" [1, 2], .file "old.bak" [3], .file "y.tmp" [4],
                 .dir "cache.tmp" [.file "deep.txt" [5]] none ] (some igStoreA) ] none

/-- the same visible entries; everything ignored is different (changed, gone, new, emptied), stored order differs -/
def igTree2 : Node :=
  .dir "root"
    [ .file "x.tmp" [9, 9, 9], .file "r.txt" [1], .file ".DS_Store" [],
      .dir "A" [ .file "a.txt" [1, 2], .file "old.bak" [], .dir "cache.tmp" [] none ] (some igStoreA) ] none

def igOpts : CreateOpts := { formats := ["md5"], ignoreCli := ["*.tmp", "*.bak", "*.tmp"] }

def igHist : Hist := .mk [] [] [] false [.mk ["A"] [⟨1, igGenA⟩] igStoreA.chain true []]

theorem igTree_loaded : loadHistory igTree = .ok igHist := by rfl
theorem igTree2_loaded : loadHistory igTree2 = .ok igHist := by rfl
theorem igTree_distinct : igTree.NamesDistinct := namesDistinctB_sound _ (by decide +kernel)
theorem igTree2_distinct : igTree2.NamesDistinct := namesDistinctB_sound _ (by decide +kernel)
theorem igTree_namesOk : igTree.NamesOk := by decide +kernel

/-- the tree after the run (on it `verify` without options finds nothing new, nothing missing, although the ignored
files are there and unrecorded, and `verify -dh` agrees with the recorded directory hashes: `ig_run`) -/
def igSealed : Node := applyWritten igTree (create igEnv igTree igOpts).written

/-- what is evaluated of this world, in one statement (the kernel shares the loading, the effective list and the run
inside one declaration only): the run and the three commands after it; `ig_same_visible`; `sf_records_named_ignored`;
the effective list -/
theorem ig_run :
    (((create igEnv igTree igOpts).written.map fun w =>
        (w.histRoot, w.number, w.gen.ignore, w.gen.records.map (·.path))) =
      [ (["A"], 2, [".DS_Store", "ascmhl", "ascmhl/", "*.bak", "*.tmp"], ["a.txt"]),
        ([], 1, [".DS_Store", "ascmhl", "ascmhl/", "*.tmp", "*.bak"], ["A", "r.txt"]) ]) ∧
    ((verify igEnv igSealed {}).err = none ∧ (verify igEnv igSealed {}).report.new = [] ∧
      (diff igEnv igSealed {}).err = none ∧ (verifyDh igEnv igSealed {}).err = none ∧
      (verifyDh igEnv igSealed {}).report.dirMismatch = []) ∧
    (visiblePaths (cHit igEnv igHist igOpts) igTree = visiblePaths (cHit igEnv igHist igOpts) igTree2 ∧
      visiblePaths (cHit igEnv igHist igOpts) igTree = [(["A", "a.txt"], false), (["A"], true), (["r.txt"], false)] ∧
      ∀ x ∈ visiblePaths (cHit igEnv igHist igOpts) igTree, fileContent igTree x.1 = fileContent igTree2 x.1) ∧
    (igEnv.hit (effective igHist igOpts.ignoreCli igOpts.ignoreFile) ["x.tmp"] = true ∧
      igEnv.hit (effective igHist igOpts.ignoreCli igOpts.ignoreFile) ["A", "cache.tmp"] = true ∧
      ((create igEnv igTree { igOpts with singleFiles := [["x.tmp"], ["A", "cache.tmp"]] }).written.map fun w =>
        (w.histRoot, w.gen.records.map (·.path))) = [(["A"], ["cache.tmp/deep.txt"]), ([], ["x.tmp"])]) ∧
    effective igHist igOpts.ignoreCli igOpts.ignoreFile = [".DS_Store", "ascmhl", "ascmhl/", "*.tmp", "*.bak"] := by
  rw [verify_eq_with, diff_eq_with]
  decide +kernel

/-- the effective list of the run: the defaults (no root generation), then the new patterns once each -/
example : effective igHist igOpts.ignoreCli igOpts.ignoreFile = [".DS_Store", "ascmhl", "ascmhl/", "*.tmp", "*.bak"] :=
  ig_run.2.2.2.2

/-- **`A`'s new generation lists `*.tmp`** (and keeps its own previous list as a prefix, in ITS order), evaluated
through the whole command; nothing ignored is recorded, neither the files nor what is below the ignored folder -/
example : ((create igEnv igTree igOpts).written.map fun w =>
      (w.histRoot, w.number, w.gen.ignore, w.gen.records.map (·.path))) =
    [ (["A"], 2, [".DS_Store", "ascmhl", "ascmhl/", "*.bak", "*.tmp"], ["a.txt"]),
      ([], 1, [".DS_Store", "ascmhl", "ascmhl/", "*.tmp", "*.bak"], ["A", "r.txt"]) ] :=
  ig_run.1

/-- `nested_written_ignore` / `nested_contains_parent` applied to that run -/
example : ∀ w ∈ (create igEnv igTree igOpts).written,
    "*.tmp" ∈ w.gen.ignore ∧ "*.bak" ∈ w.gen.ignore ∧ ".DS_Store" ∈ w.gen.ignore ∧ w.gen.ignore.Nodup ∧
    ∃ h ∈ walkPost igHist, w.histRoot = h.root ∧ basePatterns (latestIgnore h.gens) <+: w.gen.ignore := by
  intro w hw
  obtain ⟨h1, h2, -, h4, h5⟩ := nested_contains_parent igEnv igTree igOpts igHist igTree_loaded w hw
  exact ⟨h2 _ (by decide), h2 _ (by decide), h1 _ (by decide +kernel), h4, h5⟩

/-- the hypotheses of `ignored_never_recorded` hold for an ignored file in the nested history (`k = 2`) and for a file
below an ignored folder (`k = 2` of 3) -/
example : ∀ w ∈ (createFolder igEnv igTree igOpts).written, ∀ r ∈ w.gen.records,
    w.histRoot ++ splitPath r.path ≠ ["A", "y.tmp"] ∧ w.histRoot ++ splitPath r.path ≠ ["A", "cache.tmp", "deep.txt"] :=
  fun w hw r hr =>
    ⟨ignored_never_recorded igEnv igTree igOpts igHist igTree_loaded igTree_distinct igTree_namesOk
        ["A", "y.tmp"] 2 (by decide) (by decide) (by decide +kernel) w hw r hr,
     ignored_never_recorded igEnv igTree igOpts igHist igTree_loaded igTree_distinct igTree_namesOk
        ["A", "cache.tmp", "deep.txt"] 2 (by decide) (by decide) (by decide +kernel) w hw r hr⟩

/-- the hypotheses of `ignored_not_in_dirhash` hold for the two trees: same visible paths, same visible content -/
theorem ig_same_visible :
    visiblePaths (cHit igEnv igHist igOpts) igTree = visiblePaths (cHit igEnv igHist igOpts) igTree2 ∧
    visiblePaths (cHit igEnv igHist igOpts) igTree = [(["A", "a.txt"], false), (["A"], true), (["r.txt"], false)] ∧
    ∀ x ∈ visiblePaths (cHit igEnv igHist igOpts) igTree, fileContent igTree x.1 = fileContent igTree2 x.1 :=
  ig_run.2.2.1

example : (createFolder igEnv igTree igOpts).written = (createFolder igEnv igTree2 igOpts).written ∧
    (createFolder igEnv igTree igOpts).report = (createFolder igEnv igTree2 igOpts).report := by
  obtain ⟨h1, -, h3⟩ := ig_same_visible
  obtain ⟨ha, hb, -⟩ := ignored_not_in_dirhash igEnv igTree igTree2 igOpts igHist igTree_loaded igTree2_loaded
    igTree_distinct igTree2_distinct rfl h1 (fun p hp => h3 (p, false) hp)
  exact ⟨ha, hb⟩

example : (verify igEnv igSealed {}).err = none ∧ (verify igEnv igSealed {}).report.new = [] ∧
    (diff igEnv igSealed {}).err = none ∧ (verifyDh igEnv igSealed {}).err = none ∧
    (verifyDh igEnv igSealed {}).report.dirMismatch = [] :=
  ig_run.2.1

theorem igMatch_honors (n : String) (hn : n.toList.head? ≠ some '*') : HonorsName igMatch n := by
  intro pats p hmem _ hlast
  unfold igMatch
  rw [hlast]
  simp only [List.any_eq_true]
  refine ⟨n, hmem, ?_⟩
  have : (n.toList.head? == some '*') = false := by simpa using hn
  rw [this]
  simp

/-- `always_excluded_param` applies: a `.DS_Store` anywhere, or anything inside an `ascmhl` folder, is excluded -/
example (t : Node) (d : Bool) :
    (["A", "sub", ".DS_Store"], d) ∉ visiblePaths (igMatch (effective igHist igOpts.ignoreCli [])) t ∧
    (["A", "ascmhl", "0001.mhl"], d) ∉ visiblePaths (igMatch (effective igHist igOpts.ignoreCli [])) t :=
  have key := fun p hp => (always_excluded_param igMatch (igMatch_honors ".DS_Store" (by decide))
    (igMatch_honors "ascmhl" (by decide)) igHist igOpts.ignoreCli [] defaultsIn_nil (by decide +kernel) p hp).2.2 t d
  ⟨key _ (Or.inl (by decide)), key _ (Or.inr (by decide))⟩

/-- **`create -sf` is NOT covered by "never hashed or recorded"**: a file named explicitly is sealed whatever the
patterns say, and a folder named explicitly is traversed although it is itself ignored (only what is below it is
matched).  The effective list matches `x.tmp` and `A/cache.tmp`, yet both get records.  (The code does the same:
`create_for_single_files_subcommand` consults the ignore spec only inside named folders.) -/
theorem sf_records_named_ignored :
    igEnv.hit (effective igHist igOpts.ignoreCli igOpts.ignoreFile) ["x.tmp"] = true ∧
    igEnv.hit (effective igHist igOpts.ignoreCli igOpts.ignoreFile) ["A", "cache.tmp"] = true ∧
    ((create igEnv igTree { igOpts with singleFiles := [["x.tmp"], ["A", "cache.tmp"]] }).written.map fun w =>
      (w.histRoot, w.gen.records.map (·.path))) = [(["A"], ["cache.tmp/deep.txt"]), ([], ["x.tmp"])] :=
  ig_run.2.2.2.1

end Examples

end MhlProps.C12nested
