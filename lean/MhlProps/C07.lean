/-
C07 — Directory hashes follow the compositional definition.

About `MhlModel.nodeHashes` / `kidHashes` / `hashOfList` / `bindName` (the SPECIFICATION of the directory hashes):

  * the content hash and the structure hash of a directory do not depend on the order in which the OS lists it
    (`listing_order_invariant`, deep version `permEq_invariant`);
  * an empty directory, or one all of whose entries are ignored, hashes as the empty input (`empty_dir`,
    `all_ignored_dir`);
  * an entry renamed in place: the content hash of the directory does not change when the ignore test does not tell the
    old location from the new one, for the entry and for everything below it (`content_rename_invariant`; a file with
    both names visible: `content_rename_file_invariant`; any entry when nothing is ignored:
    `content_rename_dir_invariant`; the same for an entry anywhere below: `content_renamedAt_invariant`,
    `content_rename_deep_no_ignore`, `content_rename_file_deep`);
  * the content hash binds the contents and the structure hash binds the names (and the contents) — stated with exactly
    the digest inequalities the claim rests on: one visible file (`content_binds_contents_partial`,
    `structure_binds_names_partial`, as equivalences `content_binds_contents_iff`, `structure_binds_names_iff`), any
    number of siblings (`content_binds_contents_siblings`, `structure_binds_names_siblings`,
    `structure_binds_contents_siblings`), any two directories with different pre-images (`dir_hash_ne_of_preimage_ne`);
  * for a file both components are the digest of its bytes (`file_hashes`).

`H : HashFn` and `D : DecodeFn` are arbitrary functions: nothing (no injectivity, no collision freeness) is assumed
globally.  Where a conclusion needs two digests to differ, that inequality (or injectivity of `H fmt` on the two
pre-images that occur) is a hypothesis of the theorem.
-/
import MhlProps.Proofs.DirHashLemmas

namespace MhlModel

/-- Two trees that differ only by the order of the children lists, anywhere in the tree.  The relation is generated
by: permuting the children of the top directory (`perm`), replacing one child by a related one (`congr`), and
reflexivity / transitivity; `MhlProps.C07.PermEq.dir_congr` below shows that it contains the simultaneous replacement of all
children. -/
inductive Node.PermEq : Node → Node → Prop
  | refl (t : Node) : Node.PermEq t t
  | trans {a b c : Node} : Node.PermEq a b → Node.PermEq b c → Node.PermEq a c
  | perm (n : String) {cs₁ cs₂ : List Node} (h : Option HistStore) :
      cs₁.Perm cs₂ → Node.PermEq (.dir n cs₁ h) (.dir n cs₂ h)
  | congr (n : String) (pre post : List Node) (h : Option HistStore) {a b : Node} :
      Node.PermEq a b → Node.PermEq (.dir n (pre ++ a :: post) h) (.dir n (pre ++ b :: post) h)

theorem Node.PermEq.name_eq {a b : Node} (h : Node.PermEq a b) : a.name = b.name := by
  induction h with
  | refl => rfl
  | trans _ _ ih₁ ih₂ => exact ih₁.trans ih₂
  | perm => rfl
  | congr => rfl

theorem Node.PermEq.symm {a b : Node} (h : Node.PermEq a b) : Node.PermEq b a := by
  induction h with
  | refl t => exact .refl t
  | trans _ _ ih₁ ih₂ => exact .trans ih₂ ih₁
  | perm n h hp => exact .perm n h hp.symm
  | congr n pre post h _ ih => exact .congr n pre post h ih

end MhlModel

namespace MhlProps.C07
open MhlModel

/-- `RenamedAt old n' p a b`: `b` is `a` with the entry called `old` of the directory at path `p` below `a`
renamed to `n'` (everything else, including the order of all children lists, is untouched) -/
inductive RenamedAt (old n' : String) : RelPath → Node → Node → Prop
  | top (n : String) (pre post : List Node) (h : Option HistStore) (x : Node) : x.name = old →
      RenamedAt old n' [] (.dir n (pre ++ x :: post) h) (.dir n (pre ++ x.rename n' :: post) h)
  | inside (n : String) (pre post : List Node) (h : Option HistStore) {a b : Node} {p : RelPath} :
      RenamedAt old n' p a b →
      RenamedAt old n' (a.name :: p) (.dir n (pre ++ a :: post) h) (.dir n (pre ++ b :: post) h)

variable (H : HashFn) (D : DecodeFn) (fmt : String) (hit : RelPath → Bool) (here : RelPath)

/-- for a file node both components are the digest of its bytes; the name (and the position, and the ignore
patterns) play no role -/
theorem file_hashes (n : String) (c : Bytes) : nodeHashes H D fmt hit here (.file n c) = (H fmt c, H fmt c) :=
  nodeHashes_file H D fmt hit here n c

theorem file_hashes_name_independent (hit' : RelPath → Bool) (here' : RelPath) (n n' : String) (c : Bytes) :
    nodeHashes H D fmt hit here (.file n c) = nodeHashes H D fmt hit' here' (.file n' c) := by
  rw [file_hashes, file_hashes]

theorem empty_dir (n : String) (h : Option HistStore) :
    nodeHashes H D fmt hit here (.dir n [] h) = (H fmt [], H fmt []) := by
  rw [nodeHashes_dir]
  rfl

theorem all_ignored_dir (n : String) (cs : List Node) (h : Option HistStore)
    (hall : ∀ c ∈ cs, hit (here ++ [c.name]) = true) :
    nodeHashes H D fmt hit here (.dir n cs h) = (H fmt [], H fmt []) := by
  have : visKids_d H D fmt hit here cs = [] := by
    unfold visKids_d
    rw [List.filter_eq_nil_iff]
    intro k hk
    obtain ⟨c, hc, rfl⟩ := List.mem_map.1 hk
    simp [kidOf_d, hall c hc]
  rw [nodeHashes_dir, this]
  rfl

/-- any enumeration order of a directory gives the same content hash and the same structure hash -/
theorem listing_order_invariant (n : String) {cs₁ cs₂ : List Node} (h : Option HistStore) (hp : cs₁.Perm cs₂) :
    nodeHashes H D fmt hit here (.dir n cs₁ h) = nodeHashes H D fmt hit here (.dir n cs₂ h) := by
  have hv := visKids_d_perm H D fmt hit here hp
  rw [nodeHashes_dir, nodeHashes_dir, hashOfList_perm H D fmt (hv.map (·.content)),
    hashOfList_perm H D fmt (hv.map (bindName H D fmt))]

/-- replacing every child by a related one (position by position) is contained in `PermEq` -/
theorem PermEq.dir_congr (n : String) (h : Option HistStore) :
    ∀ (pre cs₁ cs₂ : List Node), cs₁.length = cs₂.length →
      (∀ i (h₁ : i < cs₁.length) (h₂ : i < cs₂.length), Node.PermEq cs₁[i] cs₂[i]) →
      Node.PermEq (.dir n (pre ++ cs₁) h) (.dir n (pre ++ cs₂) h) := by
  intro pre cs₁
  induction cs₁ generalizing pre with
  | nil =>
    intro cs₂ hl _
    rw [List.eq_nil_of_length_eq_zero hl.symm]
    exact .refl _
  | cons a as ih =>
    intro cs₂ hl hall
    cases cs₂ with
    | nil => exact absurd hl (Nat.succ_ne_zero _)
    | cons b bs =>
      -- replace the first child; then the others, with `b` counted to the untouched front part
      have step := ih (pre ++ [b]) bs (Nat.succ.inj hl)
        (fun i h₁ h₂ => hall (i + 1) (Nat.succ_lt_succ h₁) (Nat.succ_lt_succ h₂))
      rw [List.append_assoc, List.append_assoc] at step
      exact .trans (.congr n pre as h (hall 0 (Nat.zero_lt_succ _) (Nat.zero_lt_succ _))) step

/-- permuting the children lists anywhere in the tree leaves both hashes of every node unchanged -/
theorem permEq_invariant {a b : Node} (hab : Node.PermEq a b) :
    ∀ here, nodeHashes H D fmt hit here a = nodeHashes H D fmt hit here b := by
  induction hab with
  | refl => intro _; rfl
  | trans _ _ ih₁ ih₂ => intro here; exact (ih₁ here).trans (ih₂ here)
  | perm n h hp => intro here; exact listing_order_invariant H D fmt hit here n h hp
  | @congr n pre post h a b hab ih =>
    intro here
    have hk : kidOf_d H D fmt hit here a = kidOf_d H D fmt hit here b := by
      simp only [kidOf_d, hab.name_eq, ih]
    rw [nodeHashes_dir, nodeHashes_dir]
    simp only [visKids_d_append, visKids_d_cons, hk, hab.name_eq]

/-- The content hash of a directory depends on a child only through whether the child is visible and through the
child's content hash: replacing the child `x` by `y` at the same position leaves it unchanged if these two agree. -/
theorem content_congr_child (n : String) (pre post : List Node) (x y : Node) (h : Option HistStore)
    (hv : hit (here ++ [x.name]) = hit (here ++ [y.name]))
    (hc : (nodeHashes H D fmt hit (here ++ [x.name]) x).1 = (nodeHashes H D fmt hit (here ++ [y.name]) y).1) :
    (nodeHashes H D fmt hit here (.dir n (pre ++ x :: post) h)).1 =
      (nodeHashes H D fmt hit here (.dir n (pre ++ y :: post) h)).1 := by
  have hk : (visKids_d H D fmt hit here (pre ++ x :: post)).map (·.content) =
      (visKids_d H D fmt hit here (pre ++ y :: post)).map (·.content) := by
    simp only [visKids_d_append, visKids_d_cons, List.map_append, hv]
    cases hit (here ++ [y.name])
    · simp only [Bool.false_eq_true, if_false, List.map_cons, List.map_nil, kidOf_d, hc]
    · rfl
  rw [nodeHashes_dir, nodeHashes_dir, hk]

/-- General form: a child `x` of the directory at `here` is renamed to `n'`.  If the ignore test does not distinguish
the old and the new location (neither for the child itself, `p = []`, nor for anything below it), the content hash of
the directory is unchanged. -/
theorem content_rename_invariant (n n' : String) (pre post : List Node) (x : Node) (h : Option HistStore)
    (hh : ∀ p, hit (here ++ x.name :: p) = hit (here ++ n' :: p)) :
    (nodeHashes H D fmt hit here (.dir n (pre ++ x :: post) h)).1 =
      (nodeHashes H D fmt hit here (.dir n (pre ++ x.rename n' :: post) h)).1 := by
  apply content_congr_child
  · rw [Node.name_rename]
    exact hh []
  · rw [Node.name_rename, nodeHashes_rename]
    exact congrArg Prod.fst (nodeHashes_congr H D fmt hit hit x _ _ (fun p => by simpa using hh p))

/-- renaming a FILE child in place (same content, new name) does not change the content hash of the parent
directory, provided the old and the new name are both not ignored -/
theorem content_rename_file_invariant (n old n' : String) (c : Bytes) (pre post : List Node)
    (h : Option HistStore) (ho : hit (here ++ [old]) = false) (hn : hit (here ++ [n']) = false) :
    (nodeHashes H D fmt hit here (.dir n (pre ++ .file old c :: post) h)).1 =
      (nodeHashes H D fmt hit here (.dir n (pre ++ .file n' c :: post) h)).1 :=
  content_congr_child H D fmt hit here n pre post (.file old c) (.file n' c) h (ho.trans hn.symm)
    (by rw [nodeHashes_file, nodeHashes_file])

/-- renaming any child (file or sub-directory) in place does not change the content hash of the parent directory
when there are no ignore patterns -/
theorem content_rename_dir_invariant (n n' : String) (pre post : List Node) (x : Node) (h : Option HistStore) :
    (nodeHashes H D fmt (fun _ => false) here (.dir n (pre ++ x :: post) h)).1 =
      (nodeHashes H D fmt (fun _ => false) here (.dir n (pre ++ x.rename n' :: post) h)).1 :=
  content_rename_invariant H D fmt (fun _ => false) here n n' pre post x h (fun _ => rfl)

theorem RenamedAt.name_eq {old n' : String} {p : RelPath} {a b : Node} (h : RenamedAt old n' p a b) :
    a.name = b.name := by
  cases h <;> rfl

/-- Deep version: renaming an entry anywhere below a node leaves the content hash of the node — hence of EVERY
ancestor of the renamed entry — unchanged, provided the ignore test does not distinguish the old from the new
location (of the entry and of everything below it). -/
theorem content_renamedAt_invariant {old n' : String} {p : RelPath} {a b : Node} (hr : RenamedAt old n' p a b) :
    ∀ here, (∀ q, hit (here ++ p ++ old :: q) = hit (here ++ p ++ n' :: q)) →
      (nodeHashes H D fmt hit here a).1 = (nodeHashes H D fmt hit here b).1 := by
  induction hr with
  | top n pre post h x hx =>
    intro here hh
    subst hx
    exact content_rename_invariant H D fmt hit here n n' pre post x h (by simpa using hh)
  | @inside n pre post h a b p hr ih =>
    intro here hh
    have hn := hr.name_eq
    apply content_congr_child
    · rw [hn]
    · rw [← hn]
      exact ih (here ++ [a.name]) (by simpa [List.append_assoc] using hh)

/-- without ignore patterns: renaming a file or a folder anywhere in the tree leaves the content hash of every
ancestor unchanged -/
theorem content_rename_deep_no_ignore {old n' : String} {p : RelPath} {a b : Node} (hr : RenamedAt old n' p a b) :
    (nodeHashes H D fmt (fun _ => false) here a).1 = (nodeHashes H D fmt (fun _ => false) here b).1 :=
  content_renamedAt_invariant H D fmt (fun _ => false) hr here (fun _ => rfl)

/-- with ignore patterns: renaming a FILE anywhere in the tree leaves the content hash of every ancestor unchanged
when the old and the new path are both not ignored -/
theorem content_rename_file_deep {old n' : String} {p : RelPath} {a b : Node} (hr : RenamedAt old n' p a b)
    (hfile : ∀ q, q ≠ [] → hit (here ++ p ++ old :: q) = hit (here ++ p ++ n' :: q))
    (ho : hit (here ++ p ++ [old]) = false) (hn : hit (here ++ p ++ [n']) = false) :
    (nodeHashes H D fmt hit here a).1 = (nodeHashes H D fmt hit here b).1 := by
  apply content_renamedAt_invariant H D fmt hit hr here
  intro q
  cases q with
  | nil => rw [ho, hn]
  | cons x xs => exact hfile _ (by simp)

theorem single_file_dir (n nm : String) (c : Bytes) (h : Option HistStore) (hv : hit (here ++ [nm]) = false) :
    nodeHashes H D fmt hit here (.dir n [.file nm c] h) =
      (H fmt ((D fmt (H fmt c)).getD []),
       H fmt ((D fmt (H fmt (nm.toUTF8.toList ++ (D fmt (H fmt c)).getD []))).getD [])) := by
  rw [nodeHashes_dir]
  simp [visKids_d, kidOf_d, Node.name, hv, nodeHashes_file, hashOfList_eq, bindName]

theorem content_binds_contents_iff (n nm : String) (c c' : Bytes) (h : Option HistStore)
    (hv : hit (here ++ [nm]) = false) :
    (nodeHashes H D fmt hit here (.dir n [.file nm c] h)).1 ≠ (nodeHashes H D fmt hit here (.dir n [.file nm c'] h)).1
      ↔ H fmt ((D fmt (H fmt c)).getD []) ≠ H fmt ((D fmt (H fmt c')).getD []) := by
  rw [single_file_dir H D fmt hit here n nm c h hv, single_file_dir H D fmt hit here n nm c' h hv]

/-- Content hash binds contents (single visible file): if the two file digests differ, decoding keeps them apart, and
`H fmt` does not collide on the two pre-images `decode (H c)`, `decode (H c')`, then the content hash of the directory
changes. -/
theorem content_binds_contents_partial (n nm : String) (c c' : Bytes) (h : Option HistStore)
    (hv : hit (here ++ [nm]) = false)
    (hne : H fmt c ≠ H fmt c')
    (hdec : (D fmt (H fmt c)).getD [] = (D fmt (H fmt c')).getD [] → H fmt c = H fmt c')
    (hinj : H fmt ((D fmt (H fmt c)).getD []) = H fmt ((D fmt (H fmt c')).getD []) →
      (D fmt (H fmt c)).getD [] = (D fmt (H fmt c')).getD []) :
    (nodeHashes H D fmt hit here (.dir n [.file nm c] h)).1 ≠
      (nodeHashes H D fmt hit here (.dir n [.file nm c'] h)).1 :=
  (content_binds_contents_iff H D fmt hit here n nm c c' h hv).2 fun e => hne (hdec (hinj e))

theorem structure_binds_names_iff (n nm nm' : String) (c : Bytes) (h : Option HistStore)
    (hv : hit (here ++ [nm]) = false) (hv' : hit (here ++ [nm']) = false) :
    (nodeHashes H D fmt hit here (.dir n [.file nm c] h)).2 ≠ (nodeHashes H D fmt hit here (.dir n [.file nm' c] h)).2
      ↔ H fmt ((D fmt (H fmt (nm.toUTF8.toList ++ (D fmt (H fmt c)).getD []))).getD []) ≠
        H fmt ((D fmt (H fmt (nm'.toUTF8.toList ++ (D fmt (H fmt c)).getD []))).getD []) := by
  rw [single_file_dir H D fmt hit here n nm c h hv, single_file_dir H D fmt hit here n nm' c h hv']

/-- Structure hash binds names (single visible file): with `d = decode (H c)`, if `H (utf8 nm ++ d) ≠ H (utf8 nm' ++ d)`,
decoding keeps these two digests apart, and `H fmt` does not collide on the two outer pre-images, then the structure
hash of the directory changes. -/
theorem structure_binds_names_partial (n nm nm' : String) (c : Bytes) (h : Option HistStore)
    (hv : hit (here ++ [nm]) = false) (hv' : hit (here ++ [nm']) = false)
    (hne : H fmt (nm.toUTF8.toList ++ (D fmt (H fmt c)).getD []) ≠
      H fmt (nm'.toUTF8.toList ++ (D fmt (H fmt c)).getD []))
    (hdec : (D fmt (H fmt (nm.toUTF8.toList ++ (D fmt (H fmt c)).getD []))).getD [] =
        (D fmt (H fmt (nm'.toUTF8.toList ++ (D fmt (H fmt c)).getD []))).getD [] →
      H fmt (nm.toUTF8.toList ++ (D fmt (H fmt c)).getD []) = H fmt (nm'.toUTF8.toList ++ (D fmt (H fmt c)).getD []))
    (hinj : H fmt ((D fmt (H fmt (nm.toUTF8.toList ++ (D fmt (H fmt c)).getD []))).getD []) =
        H fmt ((D fmt (H fmt (nm'.toUTF8.toList ++ (D fmt (H fmt c)).getD []))).getD []) →
      (D fmt (H fmt (nm.toUTF8.toList ++ (D fmt (H fmt c)).getD []))).getD [] =
        (D fmt (H fmt (nm'.toUTF8.toList ++ (D fmt (H fmt c)).getD []))).getD []) :
    (nodeHashes H D fmt hit here (.dir n [.file nm c] h)).2 ≠
      (nodeHashes H D fmt hit here (.dir n [.file nm' c] h)).2 :=
  (structure_binds_names_iff H D fmt hit here n nm nm' c h hv hv').2 fun e => hne (hdec (hinj e))

/-- the content digests of the visible children -/
def contentList (cs : List Node) : List String := (visKids_d H D fmt hit here cs).map (·.content)

/-- the name-binding digests of the visible children -/
def structList (cs : List Node) : List String := (visKids_d H D fmt hit here cs).map (bindName H D fmt)

/-- `nodeHashes_dir` (DirHashLemmas) in the vocabulary of `contentList` / `structList`, the hash function applied to
the pre-image -/
theorem dir_hashes_eq (n : String) (cs : List Node) (h : Option HistStore) :
    nodeHashes H D fmt hit here (.dir n cs h) =
      (H fmt (preimage D fmt (contentList H D fmt hit here cs)),
       H fmt (preimage D fmt (structList H D fmt hit here cs))) :=
  nodeHashes_dir H D fmt hit here n cs h

/-- The general detection statement, both components: two directories get different content (structure) hashes as
soon as the pre-images differ and `H fmt` does not collide on these two pre-images. -/
theorem dir_hash_ne_of_preimage_ne (n₁ n₂ : String) (cs₁ cs₂ : List Node) (h₁ h₂ : Option HistStore) :
    (preimage D fmt (contentList H D fmt hit here cs₁) ≠ preimage D fmt (contentList H D fmt hit here cs₂) →
      (H fmt (preimage D fmt (contentList H D fmt hit here cs₁)) =
          H fmt (preimage D fmt (contentList H D fmt hit here cs₂)) →
        preimage D fmt (contentList H D fmt hit here cs₁) = preimage D fmt (contentList H D fmt hit here cs₂)) →
      (nodeHashes H D fmt hit here (.dir n₁ cs₁ h₁)).1 ≠ (nodeHashes H D fmt hit here (.dir n₂ cs₂ h₂)).1) ∧
    (preimage D fmt (structList H D fmt hit here cs₁) ≠ preimage D fmt (structList H D fmt hit here cs₂) →
      (H fmt (preimage D fmt (structList H D fmt hit here cs₁)) =
          H fmt (preimage D fmt (structList H D fmt hit here cs₂)) →
        preimage D fmt (structList H D fmt hit here cs₁) = preimage D fmt (structList H D fmt hit here cs₂)) →
      (nodeHashes H D fmt hit here (.dir n₁ cs₁ h₁)).2 ≠ (nodeHashes H D fmt hit here (.dir n₂ cs₂ h₂)).2) := by
  rw [dir_hashes_eq, dir_hashes_eq]
  exact ⟨fun hne hinj e => hne (hinj e), fun hne hinj e => hne (hinj e)⟩

/-- The lemma behind the three `…_siblings` theorems.  `g` reads the digest that enters the hash off a child
(`(·.content)` for the content hash, `bindName H D fmt` for the structure hash). -/
theorem hashOfList_replace_child_ne (g : KidHash → String) (x x' : Node) (pre post : List Node) (L : Nat) (hL : 0 < L)
    (hv : hit (here ++ [x.name]) = false) (hv' : hit (here ++ [x'.name]) = false)
    (hne : g (kidOf_d H D fmt hit here x) ≠ g (kidOf_d H D fmt hit here x'))
    (hD : DecodesWell D fmt L ((visKids_d H D fmt hit here (pre ++ x :: post)).map g ++
      (visKids_d H D fmt hit here (pre ++ x' :: post)).map g))
    (hinj : H fmt (preimage D fmt ((visKids_d H D fmt hit here (pre ++ x :: post)).map g)) =
        H fmt (preimage D fmt ((visKids_d H D fmt hit here (pre ++ x' :: post)).map g)) →
      preimage D fmt ((visKids_d H D fmt hit here (pre ++ x :: post)).map g) =
        preimage D fmt ((visKids_d H D fmt hit here (pre ++ x' :: post)).map g)) :
    hashOfList H D fmt ((visKids_d H D fmt hit here (pre ++ x :: post)).map g) ≠
      hashOfList H D fmt ((visKids_d H D fmt hit here (pre ++ x' :: post)).map g) := by
  simp only [visKids_d_insert_visible H D fmt hit here pre post x hv,
    visKids_d_insert_visible H D fmt hit here pre post x' hv', List.map_append, List.map_cons] at hD hinj ⊢
  exact hashOfList_replace_ne H D fmt L hL _ _ _ _ hne hD hinj

/-- Content hash binds contents, any number of siblings (of any kind, in any position, ignored or not).
The content of one visible file changes from `c` to `c'`.  Hypotheses: the file digests differ; the content digests of
the visible children (before and after) decode to `L > 0` bytes each, injectively (true for hex decoding of digests of
one format); `H fmt` does not collide on the two pre-images that occur. -/
theorem content_binds_contents_siblings (n nm : String) (c c' : Bytes) (pre post : List Node) (h : Option HistStore)
    (L : Nat) (hL : 0 < L)
    (hv : hit (here ++ [nm]) = false)
    (hne : H fmt c ≠ H fmt c')
    (hD : DecodesWell D fmt L (contentList H D fmt hit here (pre ++ .file nm c :: post) ++
      contentList H D fmt hit here (pre ++ .file nm c' :: post)))
    (hinj : H fmt (preimage D fmt (contentList H D fmt hit here (pre ++ .file nm c :: post))) =
        H fmt (preimage D fmt (contentList H D fmt hit here (pre ++ .file nm c' :: post))) →
      preimage D fmt (contentList H D fmt hit here (pre ++ .file nm c :: post)) =
        preimage D fmt (contentList H D fmt hit here (pre ++ .file nm c' :: post))) :
    (nodeHashes H D fmt hit here (.dir n (pre ++ .file nm c :: post) h)).1 ≠
      (nodeHashes H D fmt hit here (.dir n (pre ++ .file nm c' :: post) h)).1 := by
  rw [nodeHashes_dir, nodeHashes_dir]
  exact hashOfList_replace_child_ne H D fmt hit here (·.content) (.file nm c) (.file nm c') pre post L hL hv hv
    (by simpa [kidOf_d, nodeHashes_file] using hne) hD hinj

/-- Structure hash binds names, any number of siblings: a visible FILE `nm` is renamed to the visible name `nm'`;
the inequality the claim rests on is `H (utf8 nm ++ d) ≠ H (utf8 nm' ++ d)` with `d = decode (H c)`. -/
theorem structure_binds_names_siblings (n nm nm' : String) (c : Bytes) (pre post : List Node) (h : Option HistStore)
    (L : Nat) (hL : 0 < L)
    (hv : hit (here ++ [nm]) = false) (hv' : hit (here ++ [nm']) = false)
    (hne : H fmt (nm.toUTF8.toList ++ (D fmt (H fmt c)).getD []) ≠
      H fmt (nm'.toUTF8.toList ++ (D fmt (H fmt c)).getD []))
    (hD : DecodesWell D fmt L (structList H D fmt hit here (pre ++ .file nm c :: post) ++
      structList H D fmt hit here (pre ++ .file nm' c :: post)))
    (hinj : H fmt (preimage D fmt (structList H D fmt hit here (pre ++ .file nm c :: post))) =
        H fmt (preimage D fmt (structList H D fmt hit here (pre ++ .file nm' c :: post))) →
      preimage D fmt (structList H D fmt hit here (pre ++ .file nm c :: post)) =
        preimage D fmt (structList H D fmt hit here (pre ++ .file nm' c :: post))) :
    (nodeHashes H D fmt hit here (.dir n (pre ++ .file nm c :: post) h)).2 ≠
      (nodeHashes H D fmt hit here (.dir n (pre ++ .file nm' c :: post) h)).2 := by
  rw [nodeHashes_dir, nodeHashes_dir]
  exact hashOfList_replace_child_ne H D fmt hit here (bindName H D fmt) (.file nm c) (.file nm' c) pre post L hL hv hv'
    (by simpa [bindName, kidOf_d, Node.name, nodeHashes_file] using hne) hD hinj

/-- the structure hash also binds the contents: same statement for a content change of a visible file -/
theorem structure_binds_contents_siblings (n nm : String) (c c' : Bytes) (pre post : List Node)
    (h : Option HistStore) (L : Nat) (hL : 0 < L)
    (hv : hit (here ++ [nm]) = false)
    (hne : H fmt (nm.toUTF8.toList ++ (D fmt (H fmt c)).getD []) ≠
      H fmt (nm.toUTF8.toList ++ (D fmt (H fmt c')).getD []))
    (hD : DecodesWell D fmt L (structList H D fmt hit here (pre ++ .file nm c :: post) ++
      structList H D fmt hit here (pre ++ .file nm c' :: post)))
    (hinj : H fmt (preimage D fmt (structList H D fmt hit here (pre ++ .file nm c :: post))) =
        H fmt (preimage D fmt (structList H D fmt hit here (pre ++ .file nm c' :: post))) →
      preimage D fmt (structList H D fmt hit here (pre ++ .file nm c :: post)) =
        preimage D fmt (structList H D fmt hit here (pre ++ .file nm c' :: post))) :
    (nodeHashes H D fmt hit here (.dir n (pre ++ .file nm c :: post) h)).2 ≠
      (nodeHashes H D fmt hit here (.dir n (pre ++ .file nm c' :: post) h)).2 := by
  rw [nodeHashes_dir, nodeHashes_dir]
  exact hashOfList_replace_child_ne H D fmt hit here (bindName H D fmt) (.file nm c) (.file nm c') pre post L hL hv hv
    (by simpa [bindName, kidOf_d, Node.name, nodeHashes_file] using hne) hD hinj

/-! ### non-vacuity: the hypotheses are satisfiable on concrete non-trivial values -/

section Examples

/-- a toy digest (one letter) and a toy decoder (the code points) — only used to show that the hypotheses of the
binding theorems can be met; they are NOT collision free (26 values), which is the point: only the listed
inequalities are needed -/
def toyH : HashFn := fun _ b =>
  String.singleton (Char.ofNat (97 + (b.foldl (fun a u => 3 * a + u.toNat + 1) 0) % 26))
def toyD : DecodeFn := fun _ s => some (s.toList.map fun ch => ch.toNat.toUInt8)
/-- ignore every entry called "tmp" -/
def hitTmp : RelPath → Bool := fun p => p.getLast? == some "tmp"

/-- listing order, arbitrary `H`, `D`, ignore test: a directory with a sub-directory, listed in two orders -/
example (H : HashFn) (D : DecodeFn) (hit : RelPath → Bool) :
    nodeHashes H D "md5" hit [] (.dir "r" [.file "b" [1], .dir "s" [.file "x" [3]] none, .file "a" [2]] none) =
    nodeHashes H D "md5" hit [] (.dir "r" [.file "a" [2], .file "b" [1], .dir "s" [.file "x" [3]] none] none) :=
  listing_order_invariant H D "md5" hit [] "r" none
    ((List.Perm.cons _ (List.Perm.swap _ _ _)).trans (List.Perm.swap _ _ _))

/-- deep reordering: the children of the top directory AND of the sub-directory are listed differently -/
example (H : HashFn) (D : DecodeFn) (hit : RelPath → Bool) :
    nodeHashes H D "md5" hit [] (.dir "r" [.dir "s" [.file "x" [3], .file "y" [4]] none, .file "a" [2]] none) =
    nodeHashes H D "md5" hit [] (.dir "r" [.file "a" [2], .dir "s" [.file "y" [4], .file "x" [3]] none] none) :=
  permEq_invariant H D "md5" hit
    (.trans (.congr "r" [] [.file "a" [2]] none (.perm "s" none (List.Perm.swap _ _ _)))
      (.perm "r" none (List.Perm.swap _ _ _))) []

/-- renaming a file next to an ignored entry and a sub-directory -/
example (H : HashFn) (D : DecodeFn) :
    (nodeHashes H D "md5" hitTmp ["top"]
      (.dir "r" ([.file "tmp" [9]] ++ .file "old.mov" [1, 2] :: [.dir "s" [] none]) none)).1 =
    (nodeHashes H D "md5" hitTmp ["top"]
      (.dir "r" ([.file "tmp" [9]] ++ .file "new.mov" [1, 2] :: [.dir "s" [] none]) none)).1 :=
  content_rename_file_invariant H D "md5" hitTmp ["top"] "r" "old.mov" "new.mov" [1, 2] _ _ none
    (by decide +kernel) (by decide +kernel)

/-- renaming a sub-directory two levels down: the content hash of the top directory (an ancestor) is unchanged -/
example (H : HashFn) (D : DecodeFn) :
    (nodeHashes H D "md5" (fun _ => false) []
      (.dir "r" ([.file "a" [1]] ++ .dir "s" ([] ++ .dir "old" [.file "x" [3]] none :: [.file "y" [4]]) none :: [])
        none)).1 =
    (nodeHashes H D "md5" (fun _ => false) []
      (.dir "r" ([.file "a" [1]] ++ .dir "s" ([] ++ .dir "new" [.file "x" [3]] none :: [.file "y" [4]]) none :: [])
        none)).1 :=
  content_rename_deep_no_ignore H D "md5" []
    (old := "old") (n' := "new") (p := ["s"])
    (.inside "r" [.file "a" [1]] [] none
      (.top "s" [] [.file "y" [4]] none (.dir "old" [.file "x" [3]] none) rfl))

/-- the hypotheses of `content_binds_contents_partial` hold for the toy functions -/
example :
    (nodeHashes toyH toyD "md5" hitTmp [] (.dir "r" [.file "a" [1]] none)).1 ≠
    (nodeHashes toyH toyD "md5" hitTmp [] (.dir "r" [.file "a" [2]] none)).1 :=
  content_binds_contents_partial toyH toyD "md5" hitTmp [] "r" "a" [1] [2] none
    (by decide +kernel) (by decide +kernel) (by decide +kernel) (by decide +kernel)

/-- the hypotheses of `structure_binds_names_partial` hold for the toy functions -/
example :
    (nodeHashes toyH toyD "md5" hitTmp [] (.dir "r" [.file "a" [1]] none)).2 ≠
    (nodeHashes toyH toyD "md5" hitTmp [] (.dir "r" [.file "b" [1]] none)).2 :=
  structure_binds_names_partial toyH toyD "md5" hitTmp [] "r" "a" "b" [1] none
    (by decide +kernel) (by decide +kernel)
    (by simp only [byteArray_toList_eq]; decide +kernel)
    (by simp only [byteArray_toList_eq]; decide +kernel)
    (by simp only [byteArray_toList_eq]; decide +kernel)

/-- the hypotheses of `content_binds_contents_siblings` hold: siblings are a file, an ignored file and a folder -/
example :
    (nodeHashes toyH toyD "md5" hitTmp []
      (.dir "r" ([.file "a" [7], .file "tmp" [9]] ++ .file "b" [1] :: [.dir "s" [.file "x" [3]] none]) none)).1 ≠
    (nodeHashes toyH toyD "md5" hitTmp []
      (.dir "r" ([.file "a" [7], .file "tmp" [9]] ++ .file "b" [2] :: [.dir "s" [.file "x" [3]] none]) none)).1 :=
  content_binds_contents_siblings toyH toyD "md5" hitTmp [] "r" "b" [1] [2] _ _ none 1 (by decide +kernel)
    (by decide +kernel) (by decide +kernel) (by decide +kernel) (by decide +kernel)

/-- the hypotheses of `structure_binds_names_siblings` hold -/
example :
    (nodeHashes toyH toyD "md5" hitTmp []
      (.dir "r" ([.file "a" [7], .file "tmp" [9]] ++ .file "b" [1] :: [.file "s" [3]]) none)).2 ≠
    (nodeHashes toyH toyD "md5" hitTmp []
      (.dir "r" ([.file "a" [7], .file "tmp" [9]] ++ .file "c" [1] :: [.file "s" [3]]) none)).2 :=
  structure_binds_names_siblings toyH toyD "md5" hitTmp [] "r" "b" "c" [1] _ _ none 1 (by decide +kernel)
    (by decide +kernel) (by decide +kernel)
    (by simp only [byteArray_toList_eq]; decide +kernel)
    (by simp only [structList, bindName_eq_bindNameC]; decide +kernel)
    (by simp only [structList, bindName_eq_bindNameC]; decide +kernel)

/-- The digest inequalities are NEEDED: with a constant hash function every directory has the same hashes, whatever
the contents and the names (so no unconditional "binds" statement holds for arbitrary `H`). -/
example (D : DecodeFn) (hit : RelPath → Bool) (here : RelPath) (n₁ n₂ : String) (cs₁ cs₂ : List Node)
    (h₁ h₂ : Option HistStore) :
    nodeHashes (fun _ _ => "x") D "md5" hit here (.dir n₁ cs₁ h₁) =
      nodeHashes (fun _ _ => "x") D "md5" hit here (.dir n₂ cs₂ h₂) := by
  rw [dir_hashes_eq, dir_hashes_eq]

/-- The decoding hypothesis is needed as well: with a decoder that fails on everything (`hashOfList` then skips every
digest) all directories hash as the empty input, even for an injective-looking `H`. -/
example (H : HashFn) (hit : RelPath → Bool) (here : RelPath) (n : String) (cs : List Node) (h : Option HistStore) :
    nodeHashes H (fun _ _ => none) "md5" hit here (.dir n cs h) = (H "md5" [], H "md5" []) := by
  have nil : ∀ l : List String, l.flatMap (fun _ => ([] : Bytes)) = [] := by
    intro l; induction l <;> simp_all
  rw [dir_hashes_eq]
  simp [preimage, nil]

end Examples

end MhlProps.C07
