/- The codec layer (C01).  Digits in a base (a parameter): `digits` and `decodeDigits` are inverse, leading zeros do
not count, `k` digits suffice exactly below `base ^ k` (`digitsRev_length_le_iff`); big-endian bytes and numbers as an
inverse pair.  The C4 text: the alphabet checked in one evaluation (`alphabet_table`); the text of a value is the prefix
and its base-58 numeral of width 88, the padding being the digit 0 (`c4EncodeNat_eq`); length and decode ∘ encode are
read off that. -/
import MhlModel.Codec
import Mathlib.Data.List.Induction

namespace MhlModel.Codec

def decodeDigits (base : Nat) (ds : List Nat) : Nat := ds.foldl (fun r d => r * base + d) 0

theorem foldl_replicate_zero (base k : Nat) (ds : List Nat) :
    (List.replicate k 0 ++ ds).foldl (fun r d => r * base + d) 0
      = ds.foldl (fun r d => r * base + d) 0 := by
  induction k with
  | zero => simp
  | succ k ih => simpa [List.replicate_succ] using ih

theorem decodeDigits_append_one (base : Nat) (ds : List Nat) (d : Nat) :
    decodeDigits base (ds ++ [d]) = decodeDigits base ds * base + d := by
  simp [decodeDigits, List.foldl_append]

theorem digitsRev_zero (base : Nat) : digitsRev base 0 = [] := by
  unfold digitsRev; simp

theorem digitsRev_pos {base n : Nat} (hb : 2 ≤ base) (hn : n ≠ 0) :
    digitsRev base n = n % base :: digitsRev base (n / base) := by
  rw [digitsRev, dif_neg (by omega)]

theorem decode_digits (base : Nat) (hb : 2 ≤ base) (n : Nat) : decodeDigits base (digits base n) = n := by
  induction n using Nat.strongRecOn with
  | _ n ih =>
    by_cases hn : n = 0
    · simp [hn, digits, digitsRev_zero, decodeDigits]
    · have := ih (n / base) (Nat.div_lt_self (by omega) hb)
      rw [digits] at this ⊢
      rw [digitsRev_pos hb hn, List.reverse_cons, decodeDigits_append_one, this]
      exact Nat.div_add_mod' n base

theorem digitsRev_length_le_iff (base : Nat) (hb : 2 ≤ base) (n k : Nat) :
    (digitsRev base n).length ≤ k ↔ n < base ^ k := by
  induction k generalizing n with
  | zero =>
    by_cases hn : n = 0
    · simp [hn, digitsRev_zero]
    · rw [digitsRev_pos hb hn]; simp; omega
  | succ k ih =>
    by_cases hn : n = 0
    · simpa [hn, digitsRev_zero] using Nat.pow_pos (n := k + 1) (show 0 < base by omega)
    · rw [digitsRev_pos hb hn, List.length_cons, Nat.add_le_add_iff_right, ih, Nat.pow_succ,
        Nat.div_lt_iff_lt_mul (by omega)]

theorem digitsRev_lt (base : Nat) (n : Nat) : ∀ d ∈ digitsRev base n, d < base := by
  fun_induction digitsRev base n with
  | case1 n h => simp
  | case2 n h ih =>
    intro d hd
    rcases List.mem_cons.1 hd with rfl | hd
    · exact Nat.mod_lt _ (by omega)
    · exact ih d hd

theorem digits_lt (base n : Nat) : ∀ d ∈ digits base n, d < base := by
  intro d hd; exact digitsRev_lt base n d (by simpa [digits] using hd)

theorem rjust_map {α β : Type} (f : α → β) (w : Nat) (z : α) (l : List α) :
    rjust w (f z) (l.map f) = (rjust w z l).map f := by
  simp [rjust]

theorem rjust_length {α : Type} (w : Nat) (z : α) (l : List α) (h : l.length ≤ w) : (rjust w z l).length = w := by
  simp [rjust]; omega

theorem mem_rjust {α : Type} {w : Nat} {z x : α} {l : List α} (h : x ∈ rjust w z l) : x = z ∨ x ∈ l :=
  (List.mem_append.1 h).imp_left List.eq_of_mem_replicate

theorem decodeDigits_rjust (base w : Nat) (ds : List Nat) : decodeDigits base (rjust w 0 ds) = decodeDigits base ds :=
  foldl_replicate_zero base _ ds

theorem rjust_digits_lt (base w n : Nat) (hb : 0 < base) : ∀ d ∈ rjust w 0 (digits base n), d < base := by
  intro d hd
  rcases mem_rjust hd with rfl | hd
  · exact hb
  · exact digits_lt base n d hd

theorem toBytesLE_length (k n : Nat) : (toBytesLE k n).length = k := by
  induction k generalizing n with
  | zero => simp [toBytesLE]
  | succ k ih => simp [toBytesLE, ih]

theorem toBytesBE_length (k n : Nat) : (toBytesBE k n).length = k := by
  simp [toBytesBE, toBytesLE_length]

theorem ofBytesBE_append_one (b : Bytes) (x : UInt8) : ofBytesBE (b ++ [x]) = ofBytesBE b * 256 + x.toNat := by
  simp [ofBytesBE, List.foldl_append]

theorem ofBytesBE_toBytesBE (k n : Nat) (h : n < 256 ^ k) : ofBytesBE (toBytesBE k n) = n := by
  induction k generalizing n with
  | zero => simp at h; simp [toBytesBE, toBytesLE, ofBytesBE, h]
  | succ k ih =>
    have hdiv : n / 256 < 256 ^ k := by
      rw [Nat.div_lt_iff_lt_mul (by omega)]; rw [Nat.pow_succ] at h; exact h
    have := ih (n / 256) hdiv
    simp only [toBytesBE, toBytesLE, List.reverse_cons] at *
    rw [ofBytesBE_append_one, this]
    have : (UInt8.ofNat (n % 256)).toNat = n % 256 := by
      simp [UInt8.toNat_ofNat']
    rw [this]; exact Nat.div_add_mod' n 256

theorem ofBytesBE_lt (b : Bytes) : ofBytesBE b < 256 ^ b.length := by
  induction b using List.reverseRecOn with
  | nil => simp [ofBytesBE]
  | append_singleton b x ih =>
    rw [ofBytesBE_append_one]
    simp only [List.length_append, List.length_cons, List.length_nil, Nat.zero_add, Nat.pow_succ]
    have := x.toNat_lt
    omega

theorem toBytesBE_ofBytesBE (b : Bytes) : toBytesBE b.length (ofBytesBE b) = b := by
  induction b using List.reverseRecOn with
  | nil => simp [toBytesBE, toBytesLE]
  | append_singleton b x ih =>
    rw [ofBytesBE_append_one]
    simp only [List.length_append, List.length_cons, List.length_nil, Nat.zero_add]
    simp only [toBytesBE, toBytesLE, List.reverse_cons]
    have hx := x.toNat_lt
    have h1 : (ofBytesBE b * 256 + x.toNat) % 256 = x.toNat := by omega
    have h2 : (ofBytesBE b * 256 + x.toNat) / 256 = ofBytesBE b := by omega
    rw [h1, h2]
    simp only [toBytesBE] at ih
    rw [ih]
    simp

/-- The alphabet extracted from the source, checked in one evaluation (the kernel turns the string into its character
list once for all five facts): 58 distinct characters, `charset.index(charset[d]) = d` for every digit, and the padding
character is the digit 0. -/
theorem alphabet_table : c4Alphabet.length = 58 ∧ c4Alphabet.Nodup ∧
    (∀ d, d < 58 → c4Index (c4Alphabet.getD d '?') = some d) ∧ c4Alphabet.getD 0 '?' = c4ZeroChar ∧
    c4Alphabet.head? = some c4ZeroChar := by decide +kernel

theorem alphabet_length : c4Alphabet.length = 58 := alphabet_table.1
theorem alphabet_nodup : c4Alphabet.Nodup := alphabet_table.2.1
theorem c4Index_getD : ∀ d, d < 58 → c4Index (c4Alphabet.getD d '?') = some d := alphabet_table.2.2.1
theorem getD_zero : c4Alphabet.getD 0 '?' = c4ZeroChar := alphabet_table.2.2.2.1
theorem alphabet_head : c4Alphabet.head? = some c4ZeroChar := alphabet_table.2.2.2.2

theorem two_pow_512_lt : (2:Nat) ^ 512 < 58 ^ 88 := by
  set_option exponentiation.threshold 600 in decide +kernel

theorem pow_256_64 : (256:Nat) ^ 64 = 2 ^ 512 := by
  set_option exponentiation.threshold 600 in decide +kernel

theorem getD_mem_alphabet (d : Nat) (h : d < 58) : c4Alphabet.getD d '?' ∈ c4Alphabet := by
  have hl : d < c4Alphabet.length := Nat.lt_of_lt_of_eq h alphabet_length.symm
  rw [List.getD_eq_getElem?_getD, List.getElem?_eq_getElem hl]
  exact List.getElem_mem hl

/-- The text of a value: the prefix, then its base-58 numeral of width 88.  The padding of `rjust` is part of the
numeral, because the padding character is the digit 0. -/
theorem c4EncodeNat_eq (n : Nat) :
    c4EncodeNat n = 'c' :: '4' :: (rjust 88 0 (digits 58 n)).map fun d => c4Alphabet.getD d '?' := by
  rw [← rjust_map, getD_zero]; rfl

theorem c4EncodeNat_length (n : Nat) (h : n < 2 ^ 512) : (c4EncodeNat n).length = 90 := by
  have hd : (digits 58 n).length ≤ 88 := by
    simpa [digits] using (digitsRev_length_le_iff 58 (by omega) n 88).2 (Nat.lt_trans h two_pow_512_lt)
  simp [c4EncodeNat_eq, rjust_length _ _ _ hd]

theorem c4Step_some (r : Nat) {c : Char} {d : Nat} (h : c4Index c = some d) : c4Step (some r) c = some (r * 58 + d) := by
  unfold c4Step
  rw [h]
  rfl

theorem foldl_c4Step_digits (ds : List Nat) (r : Nat) (h : ∀ d ∈ ds, d < 58) :
    (ds.map fun d => c4Alphabet.getD d '?').foldl c4Step (some r)
      = some (ds.foldl (fun r d => r * 58 + d) r) := by
  induction ds generalizing r with
  | nil => rfl
  | cons d ds ih =>
    rw [List.map_cons, List.foldl_cons, c4Step_some r (c4Index_getD d (h d (by simp)))]
    exact ih _ (fun x hx => h x (by simp [hx]))

theorem c4DecodeNat_encode (n : Nat) (h : n < 2 ^ 512) : c4DecodeNat (c4EncodeNat n) = some n := by
  have hlen := c4EncodeNat_length n h
  rw [c4DecodeNat, if_neg (by simp [hlen, Gen.c4DecLength]),
    List.take_of_length_le (by simp [hlen, Gen.c4DecLength]), c4EncodeNat_eq]
  show List.foldl c4Step (some 0) (List.map _ _) = _
  rw [foldl_c4Step_digits _ _ (rjust_digits_lt 58 88 n (by omega))]
  exact congrArg some ((decodeDigits_rjust 58 88 _).trans (decode_digits 58 (by omega) n))

end MhlModel.Codec
