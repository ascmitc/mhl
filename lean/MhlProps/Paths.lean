/-
The path glue of the command line (`MhlModel/Paths.lean`, a mirror of CPython's `posixpath`): how the ROOT argument
and the `-sf` arguments become history-relative POSIX paths.  Normalising is idempotent and yields `..`s followed by
ordinary components; a file below the root gets a relative path that neither escapes the root nor is absolute (clause
of C02), and the root joined with that path leads back to the file; the spelling of a `-sf` argument does not matter;
`create` and `verify` resolve a relative `-sf` differently unless ROOT names the working directory.

The declarations stand in the namespace `MhlModel.Paths` of the model file.  This file holds what speaks of the three
functions of the tool (`historyRelative`, `sfOfCreate`, `sfOfVerify`), the general statements included of which the
claimed theorems are instances (`historyRelative_eq`, `relpath_roundtrip`, `sfOfCreate_eq`, `sfOfVerify_eq`,
`sfOfCreate_eq_sfOfVerify_of_peq`); the `posixpath` functions themselves are treated in
`MhlProps/Proofs/PathLemmas.lean`.
-/
import MhlProps.Proofs.PathLemmas

namespace MhlModel.Paths

theorem normComps_idem (isabs : Bool) (l : List String) :
    normComps isabs (normComps isabs l) = normComps isabs l :=
  normComps_of_ok _ (normComps_ok isabs l)

/-- Also for the `//`-prefixed strings, which keep their two slashes (`normpath "//a" = "//a"`).  It rests on
`stackOf (normpath s) = stackOf s`, which comes from splitting the rendered string again (`splitSlash_render`, by the
character-level round trip `splitC_joinC`). -/
theorem normpath_idem (s : String) : normpath (normpath s) = normpath s := (PEq_normpath s).normpath_congr

example : normpath "//a" = "//a" ∧ normpath "///a" = "/a" ∧ normpath "//" = "//" ∧ normpath "//.." = "//" := by
  decide +kernel
example : normpath "a/b/../../../c" = "../c" ∧ normpath (normpath "a/b/../../../c") = "../c" := by
  have h : normpath "a/b/../../../c" = "../c" := by decide +kernel
  exact ⟨h, by rw [normpath_idem, h]⟩
example : normComps false ["a", "", ".", "b", "..", "..", "..", "c"] = ["..", "c"] := by decide
example : normComps true ["", "a", "..", "..", "c"] = ["c"] := by decide

theorem normComps_clean (isabs : Bool) (l : List String) :
    ∃ k rest, normComps isabs l = List.replicate k ".." ++ rest ∧ (∀ x ∈ rest, Clean x) ∧
      (isabs = true → k = 0) := by
  simpa using stackOK_shape (normComps_ok isabs l)

theorem normComps_no_empty_dot (isabs : Bool) (l : List String) :
    "" ∉ normComps isabs l ∧ "." ∉ normComps isabs l := by
  have := stackOK_ne_empty (normComps_ok isabs l)
  exact ⟨fun h => (this "" (by simpa using h)).1 rfl, fun h => (this "." (by simpa using h)).2 rfl⟩

theorem normComps_abs_no_dotdot (l : List String) : ".." ∉ normComps true l := by
  intro h
  exact (stackOK_abs_clean (normComps_ok true l) ".." (by simpa using h)).2.2 rfl

/-- the statement of `normComps_subset` (`Proofs/PathLemmas.lean`) with explicit arguments -/
theorem normComps_mem (isabs : Bool) (l : List String) (x : String) (h : x ∈ normComps isabs l) : x ∈ l :=
  normComps_subset h

example : normComps false ["..", "a", "..", "..", "b"] = List.replicate 2 ".." ++ ["b"] := by decide

theorem relComps_below (start r : List String) : relComps start (start ++ r) = r := by
  simp [relComps, commonPrefixLen_append]

/-- for normalised absolute lists: the relative path of a file below the root does not escape the root and is not
absolute -/
theorem relComps_below_clean (start r : List String) (hp : ∀ x ∈ start ++ r, Clean x) :
    ∀ x ∈ relComps start (start ++ r), Clean x := by
  rw [relComps_below]
  intro x hx
  exact hp x (by simp [hx])

example : relComps ["vol", "card"] ["vol", "card", "A", "x.mov"] = ["A", "x.mov"] := by decide
example : relComps ["vol", "card"] ["vol", "other", "x.mov"] = ["..", "other", "x.mov"] := by decide

/-- Joining the root with the relative path leads back to the file (normalised absolute component lists; no
prefix hypothesis). -/
theorem relComps_roundtrip (start path : List String) (hs : ∀ x ∈ start, Clean x) (hp : ∀ x ∈ path, Clean x) :
    normComps true (start ++ relComps start path) = path := by
  obtain ⟨c, s, p, rfl, rfl, h⟩ := relComps_spec start path
  rw [h, List.append_assoc, normComps_cancel _ _ _ _ (fun x hx => hs x (by simp [hx]))]
  exact normComps_of_ok _ (stackOK_of_clean _ fun x hx => hp x (List.mem_reverse.1 hx))

example : normComps true (["vol", "card"] ++ relComps ["vol", "card"] ["vol", "other", "x.mov"]) =
    ["vol", "other", "x.mov"] := by decide

/-! ### the same at the string level -/

theorem comps_of_clean_noslash (l : List String) (h1 : ∀ x ∈ l, Clean x) (h2 : ∀ x ∈ l, '/' ∉ x.toList) :
    Comps l := fun p hp => ⟨(h1 p hp).1, h2 p hp⟩

/-- What `historyRelative` computes, for an absolute working directory: both arguments are already absolute and
normalised, so the inner `abspath` calls of `relpath` change nothing. -/
theorem historyRelative_eq (cwd root file : String) (hc : isAbs cwd = true) :
    historyRelative cwd root file =
      render 0 (relComps (pieces (abspath cwd root)) (pieces (abspath cwd file))) := by
  unfold historyRelative relpath
  simp only [abspath_ne_empty, if_false, abspath_abspath _ _ hc]
  exact relpath_last_line _ (comps_relComps _ (absNormal_abspath cwd file hc))

theorem historyRelative_not_abs (cwd root file : String) (hc : isAbs cwd = true) :
    isAbs (historyRelative cwd root file) = false := by
  rw [historyRelative_eq _ _ _ hc]
  exact isAbs_render_zero _ (comps_relComps _ (absNormal_abspath cwd file hc))

/-- A file below the root (the component list of the root is a prefix of that of the file): the components of the
history-relative path are exactly the remaining components `r` (`["."]` for the root itself); none of them is `""`,
`"."` or `".."`, and the path is not absolute: the path does not escape the root. -/
theorem historyRelative_below (cwd root file : String) (r : List String) (hc : isAbs cwd = true)
    (hpre : pieces (abspath cwd file) = pieces (abspath cwd root) ++ r) :
    splitSlash (historyRelative cwd root file) = (if r = [] then ["."] else r) ∧
      (∀ x ∈ r, Clean x) ∧ isAbs (historyRelative cwd root file) = false := by
  have hF := absNormal_abspath cwd file hc
  have hcl : ∀ x ∈ r, Clean x := fun x hx => hF.clean x (by rw [hpre]; simp [hx])
  refine ⟨?_, hcl, historyRelative_not_abs cwd root file hc⟩
  rw [historyRelative_eq _ _ _ hc, splitSlash_render 0 _ (comps_relComps _ hF), hpre, relComps_below]
  by_cases h0 : r = [] <;> simp [h0]

/-- `historyRelative` in two stages: the component lists `rs`, `fs` of the two absolute paths, then the relative path
from these.  The test vectors are evaluated this way because the kernel evaluates an argument again wherever it is
used, and `relpath` uses each `abspath` many times over. -/
theorem historyRelative_eval {cwd root file out : String} {rs : List String} (hc : isAbs cwd = true)
    (hr : pieces (abspath cwd root) = rs) (ho : render 0 (relComps rs (pieces (abspath cwd file))) = out) :
    historyRelative cwd root file = out := by
  rw [historyRelative_eq _ _ _ hc, hr, ho]

theorem isAbs_vol : isAbs "/vol" = true := by decide

theorem abspath_vol_card : abspath "/vol" "card" = "/vol/card" := by decide +kernel

theorem pieces_vol_card : pieces (abspath "/vol" "card") = ["vol", "card"] := by decide +kernel

example : historyRelative "/vol" "card" "/vol/x/../card//A/./x.mov" = "A/x.mov" :=
  historyRelative_eval isAbs_vol pieces_vol_card (by decide +kernel)
example : historyRelative "/vol" "card" "card" = "." :=
  historyRelative_eval isAbs_vol pieces_vol_card (by decide +kernel)

theorem historyRelative_vol_other : historyRelative "/vol" "card" "other/x.mov" = "../other/x.mov" :=
  historyRelative_eval isAbs_vol pieces_vol_card (by decide +kernel)

example : historyRelative "/vol" "card" "other/x.mov" = "../other/x.mov" := historyRelative_vol_other

/-- `relpath` and `join` on absolute normal paths are `relComps` and `++` on their component lists, so the round trip
is `relComps_roundtrip`. -/
theorem relpath_roundtrip {R F : String} (hR : AbsNormal R) (hF : AbsNormal F)
    (hsl : initialSlashes R = initialSlashes F) :
    normpath (joinPath R (render 0 (relComps (pieces R) (pieces F)))) = F := by
  have hcomps := comps_relComps (pieces R) hF
  have hrel := isAbs_render_zero _ hcomps
  rw [normpath_eq, initialSlashes_joinPath _ _ hrel, stackOf_joinPath _ _ hrel, bne_initialSlashes, hR.1, ← hR.pieces,
    normComps_splitSlash_render _ _ _ _ hcomps, relComps_roundtrip _ _ hR.clean hF.clean, hsl, hF.pieces,
    ← normpath_eq, hF.2]

theorem historyRelative_roundtrip (cwd root file : String) (hc : isAbs cwd = true)
    (hsl : initialSlashes (abspath cwd root) = initialSlashes (abspath cwd file)) :
    normpath (joinPath (abspath cwd root) (historyRelative cwd root file)) = abspath cwd file := by
  rw [historyRelative_eq _ _ _ hc]
  exact relpath_roundtrip (absNormal_abspath cwd root hc) (absNormal_abspath cwd file hc) hsl

example : normpath (joinPath (abspath "/vol" "card") (historyRelative "/vol" "card" "other/x.mov")) =
    "/vol/other/x.mov" := by
  rw [historyRelative_vol_other, abspath_vol_card]
  decide +kernel

/-- Without the hypothesis on the initial slashes the string-level round trip is FALSE (`relpath` ignores the
difference between `//a` and `/a`, as CPython does). -/
example : historyRelative "/" "//a" "/a/b" = "b" ∧
    normpath (joinPath (abspath "/" "//a") (historyRelative "/" "//a" "/a/b")) = "//a/b" ∧
    abspath "/" "/a/b" = "/a/b" := by decide +kernel

/-! ### the spelling of a `-sf` argument -/

theorem sf_spelling_irrelevant (cwd root f₁ f₂ : String) (h : abspath cwd f₁ = abspath cwd f₂) :
    historyRelative cwd root f₁ = historyRelative cwd root f₂ := by
  unfold historyRelative; rw [h]

theorem abspath_joinPath_abs (cwd : String) {a : String} (b : String) (ha : isAbs a = true) :
    abspath cwd (joinPath a b) = normpath (joinPath a b) :=
  abspath_of_isAbs _ _ (isAbs_joinPath a b ha)

theorem abspath_joinPath (cwd s : String) (hc : isAbs cwd = true) : abspath cwd (joinPath cwd s) = abspath cwd s := by
  rw [abspath_joinPath_abs _ _ hc, abspath_eq]

/-- neither command has a case split of its own (`joinPath` returns an absolute second argument as it is): each
computes `historyRelative` of one join -/
theorem sfOfCreate_eq (cwd root sf : String) : sfOfCreate cwd root sf = historyRelative cwd root (joinPath cwd sf) := by
  cases h : isAbs sf <;> simp [sfOfCreate, joinPath, h]

theorem sfOfVerify_eq (cwd root sf : String) :
    sfOfVerify cwd root sf = historyRelative cwd root (joinPath (joinPath cwd root) sf) := by
  cases h : isAbs sf <;> cases h' : isAbs root <;> simp [sfOfVerify, joinPath, h, h']

/-- `create` resolves a `-sf` argument, absolute or not, the way it resolves any file: against the working
directory -/
theorem sfOfCreate_eq_historyRelative (cwd root sf : String) (hc : isAbs cwd = true) :
    sfOfCreate cwd root sf = historyRelative cwd root sf := by
  rw [sfOfCreate_eq]; exact sf_spelling_irrelevant _ _ _ _ (abspath_joinPath cwd sf hc)

/-- `verify` resolves it against the absolute root -/
theorem sfOfVerify_eq_historyRelative (cwd root sf : String) (hc : isAbs cwd = true) :
    sfOfVerify cwd root sf = historyRelative cwd root (joinPath (abspath cwd root) sf) := by
  rw [sfOfVerify_eq]; apply sf_spelling_irrelevant
  rw [abspath_joinPath_abs _ _ (isAbs_joinPath cwd root hc), abspath_joinPath_abs _ _ (isAbs_abspath cwd root hc),
    abspath_eq, normpath_joinPath_normpath]

/-- holds for every `sf`: the proof does not use `hsf` -/
theorem sfOfCreate_abs (cwd root sf : String) (hc : isAbs cwd = true) (hsf : isAbs sf = false) :
    sfOfCreate cwd root sf = sfOfCreate cwd root (abspath cwd sf) := by
  rw [sfOfCreate_eq_historyRelative _ _ _ hc, sfOfCreate_eq_historyRelative _ _ _ hc]
  exact sf_spelling_irrelevant _ _ _ _ (abspath_abspath _ _ hc).symm

/-- for `verify` the absolute spelling is taken against ROOT, against which it resolves a relative `-sf`; the proof
does not use `hsf` -/
theorem sfOfVerify_abs (cwd root sf : String) (hr : isAbs root = true)
    (hsf : isAbs sf = false) :
    sfOfVerify cwd root sf = sfOfVerify cwd root (abspath root sf) := by
  rw [sfOfVerify_eq, sfOfVerify_eq, joinPath_of_isAbs cwd hr, joinPath_of_isAbs root (isAbs_abspath root sf hr)]
  apply sf_spelling_irrelevant
  rw [(absNormal_abspath root sf hr).abspath, abspath_joinPath_abs _ _ hr, abspath_eq]

theorem sfOfCreate_eval {cwd root sf out : String} {rs : List String} (hc : isAbs cwd = true)
    (hr : pieces (abspath cwd root) = rs) (ho : render 0 (relComps rs (pieces (abspath cwd sf))) = out) :
    sfOfCreate cwd root sf = out :=
  (sfOfCreate_eq_historyRelative cwd root sf hc).trans (historyRelative_eval hc hr ho)

theorem sfOfVerify_eval {cwd root sf out r : String} {rs : List String} (hc : isAbs cwd = true)
    (hr : abspath cwd root = r) (hrs : pieces (abspath cwd root) = rs)
    (ho : render 0 (relComps rs (pieces (abspath cwd (joinPath r sf)))) = out) : sfOfVerify cwd root sf = out := by
  subst hr
  exact (sfOfVerify_eq_historyRelative cwd root sf hc).trans (historyRelative_eval hc hrs ho)

example : sfOfCreate "/vol" "card" "card/./A//x.mov" = "A/x.mov" ∧
    sfOfCreate "/vol" "card" "/vol/card/A/x.mov" = "A/x.mov" :=
  ⟨sfOfCreate_eval isAbs_vol pieces_vol_card (by decide +kernel),
    sfOfCreate_eval isAbs_vol pieces_vol_card (by decide +kernel)⟩

/-! ### `create` and `verify` resolve a relative `-sf` differently -/

/-- With the working directory `/vol` and ROOT `card`, the argument `-sf card/a.mov` names
`/vol/card/a.mov` for `create` but `/vol/card/card/a.mov` for `verify` -/
theorem sfOfCreate_vs_verify : sfOfCreate "/vol" "card" "card/a.mov" = "a.mov" ∧
    sfOfVerify "/vol" "card" "card/a.mov" = "card/a.mov" :=
  ⟨sfOfCreate_eval isAbs_vol pieces_vol_card (by decide +kernel),
    sfOfVerify_eval isAbs_vol abspath_vol_card pieces_vol_card
      (by decide +kernel)⟩

/-- ... and `-sf a.mov` names `/vol/a.mov`, OUTSIDE the root, for `create` -/
example : sfOfCreate "/vol" "card" "a.mov" = "../a.mov" ∧ sfOfVerify "/vol" "card" "a.mov" = "a.mov" :=
  ⟨sfOfCreate_eval isAbs_vol pieces_vol_card (by decide +kernel),
    sfOfVerify_eval isAbs_vol abspath_vol_card pieces_vol_card
      (by decide +kernel)⟩

/-- the two commands agree whenever ROOT names the working directory: `verify` joins the argument to `cwd/ROOT`,
`create` to `cwd`, and `normpath` does not tell the two apart -/
theorem sfOfCreate_eq_sfOfVerify_of_peq (cwd root sf : String) (hc : isAbs cwd = true)
    (h : PEq (joinPath cwd root) cwd) : sfOfCreate cwd root sf = sfOfVerify cwd root sf := by
  rw [sfOfCreate_eq, sfOfVerify_eq]; apply sf_spelling_irrelevant
  rw [abspath_joinPath_abs _ _ hc, abspath_joinPath_abs _ _ (isAbs_joinPath cwd root hc)]
  exact (h.joinPath sf).normpath_congr.symm

theorem sfOfCreate_eq_sfOfVerify_cwd (cwd root sf : String) (hc : isAbs cwd = true)
    (hroot : cwd = abspath cwd root) :
    sfOfCreate cwd root sf = sfOfVerify cwd root sf := by
  have h := PEq_normpath (joinPath cwd root)
  rw [← abspath_eq, ← hroot] at h
  exact sfOfCreate_eq_sfOfVerify_of_peq cwd root sf hc ⟨h.1.symm, h.2.symm⟩

theorem sfOfCreate_eq_sfOfVerify_dot (cwd sf : String) (hc : isAbs cwd = true) :
    sfOfCreate cwd "." sf = sfOfVerify cwd "." sf :=
  sfOfCreate_eq_sfOfVerify_of_peq cwd "." sf hc (PEq_joinPath_dot cwd)

example : sfOfCreate "/vol/card" "../card" "A/x.mov" = "A/x.mov" ∧
    sfOfVerify "/vol/card" "../card" "A/x.mov" = "A/x.mov" :=
  have hc : isAbs "/vol/card" = true := by decide
  have hr : abspath "/vol/card" "../card" = "/vol/card" := by decide +kernel
  have hrs : pieces (abspath "/vol/card" "../card") = ["vol", "card"] := by rw [hr]; decide +kernel
  have h : sfOfCreate "/vol/card" "../card" "A/x.mov" = "A/x.mov" := sfOfCreate_eval hc hrs (by decide +kernel)
  ⟨h, (sfOfCreate_eq_sfOfVerify_cwd _ _ _ hc hr.symm).symm.trans h⟩

end MhlModel.Paths
