/-
Lemmas about the XML writer / event stream / event-driven reader of `MhlModel/Xml.lean` (C10).

A fold of a step function over the events of a tree is a recursion over the tree (`readTree`, `foldl_events`): an
element is its start, its children one after the other (a `List.foldl`) and its end (`readTree_mk`).  This serves both
readers (`step`, `chainStep`).  The reader is run from an arbitrary state over each element the writer produces
(`run_*`: `readTree step s (builder x) = …`), bottom up; children that come from a `map` are read by
`foldl_readTree_map`; the result is `readBack`.  The structure pass over a directory record's entries (`structFold`)
restores them exactly for `DupFree` entries without an empty structure hash (`readDirEntries_eq_self_iff`, entry by
entry: `readDirEntries_cons_eq_iff`).  `norm` and the ignore list; the chain file, entry by entry (`readEntry`);
the invariant `Inv` of the reader on arbitrary events.
-/
import MhlModel.Xml
import MhlProps.Proofs.PatternLemmas

namespace MhlModel.Xml
open MhlModel

def run (s : PState) (evs : List Event) : PState := evs.foldl step s

@[simp] theorem run_nil (s : PState) : run s [] = s := rfl
theorem events_leaf (t : String) (a : List (String × String)) (x : Option String) :
    events (.mk t a x []) = [.start t, .finish t a (normText x)] := by
  rw [events, eventsList]; rfl

/-! ## two general facts -/

theorem map_eq_self_iff {α : Type} {f : α → α} {l : List α} : l.map f = l ↔ ∀ a ∈ l, f a = a := by
  simpa using List.map_inj_left (f := f) (g := id) (l := l)

theorem prop_ite {α : Type} (P : α → Prop) {c : Prop} [Decidable c] {a b : α} (ha : c → P a) (hb : ¬c → P b) :
    P (if c then a else b) := by
  split
  · exact ha ‹_›
  · exact hb ‹_›

/-! ## a fold over the events of a tree is a recursion over the tree -/

mutual
def readTree {σ : Type} (st : σ → Event → σ) : σ → Elem → σ
  | s, .mk t a x cs => st (readTrees st (st s (.start t)) cs) (.finish t a (normText x))
def readTrees {σ : Type} (st : σ → Event → σ) : σ → List Elem → σ
  | s, [] => s
  | s, c :: cs => readTrees st (readTree st s c) cs
end

mutual
theorem foldl_events {σ : Type} (st : σ → Event → σ) : ∀ (s : σ) (e : Elem), (events e).foldl st s = readTree st s e
  | s, .mk t a x cs => by
    rw [events, readTree, List.foldl_append, List.foldl_append, foldl_eventsList st _ cs]; rfl
theorem foldl_eventsList {σ : Type} (st : σ → Event → σ) :
    ∀ (s : σ) (cs : List Elem), (eventsList cs).foldl st s = readTrees st s cs
  | s, [] => by rw [eventsList, readTrees]; rfl
  | s, c :: cs => by rw [eventsList, readTrees, List.foldl_append, foldl_events st s c, foldl_eventsList st _ cs]
end

/-- the children are a plain `List.foldl`, so `List.foldl_append`, `List.foldl_cons`, `List.foldl_map` apply -/
theorem readTrees_eq_foldl {σ : Type} (st : σ → Event → σ) (s : σ) (cs : List Elem) :
    readTrees st s cs = cs.foldl (readTree st) s := by
  induction cs generalizing s with
  | nil => rw [readTrees]; rfl
  | cons c cs ih => rw [readTrees, ih]; rfl

theorem readTree_mk {σ : Type} (st : σ → Event → σ) (s : σ) (t : String) (a : List (String × String))
    (x : Option String) (cs : List Elem) :
    readTree st s (.mk t a x cs) = st (cs.foldl (readTree st) (st s (.start t))) (.finish t a (normText x)) := by
  rw [readTree, readTrees_eq_foldl]

/-- the children of an element are read one after the other: if every child `f a` takes the state `S x` to
`S (upd x a)`, the children take `S x` to `S` of the fold -/
theorem foldl_readTree_map {σ α β : Type} (st : σ → Event → σ) (S : β → σ) (upd : β → α → β) (f : α → Elem)
    (l : List α) (h : ∀ x, ∀ a ∈ l, readTree st (S x) (f a) = S (upd x a)) (x : β) :
    (l.map f).foldl (readTree st) (S x) = S (l.foldl upd x) := by
  induction l generalizing x with
  | nil => rfl
  | cons a l ih =>
    rw [List.map_cons, List.foldl_cons, h x a (by simp), ih fun x b hb => h x b (by simp [hb])]
    rfl

theorem foldl_snoc_map {α γ : Type} (g : α → γ) (l : List α) (acc : List γ) :
    l.foldl (fun acc a => acc ++ [g a]) acc = acc ++ l.map g := by
  induction l generalizing acc with
  | nil => simp
  | cons a l ih => simp [ih]

/-- the usual case: the state carries a list, and every child appends one item to it -/
theorem foldl_readTree_map_append {σ α γ : Type} (st : σ → Event → σ) (S : List γ → σ) (g : α → γ) (f : α → Elem)
    (l : List α) (h : ∀ acc, ∀ a ∈ l, readTree st (S acc) (f a) = S (acc ++ [g a])) (acc : List γ) :
    (l.map f).foldl (readTree st) (S acc) = S (acc ++ l.map g) := by
  rw [foldl_readTree_map st S (fun acc a => acc ++ [g a]) f l h, foldl_snoc_map]

/-! ## the manifest reader on one element: `startStep` by the current object; texts and attributes as they come back -/

theorem run_events (s : PState) (e : Elem) : run s (events e) = readTree step s e := foldl_events step s e

theorem readTree_step (s : PState) (t : String) (a : List (String × String)) (x : Option String) (cs : List Elem) :
    readTree step s (.mk t a x cs) = endStep (cs.foldl (readTree step) (startStep s t)) t a (normText x) :=
  readTree_mk step s t a x cs

/-- a container is entered only from outside: under `.none` only `cur` changes -/
theorem startStep_none (st : List Cur) (b : Bool) (ps : List String) (o : XGen) (t : String) :
    startStep ⟨.none, st, b, ps, o⟩ t
      = ⟨if t == "creatorinfo" then .creator {} else if t == "processinfo" then .process none none
         else if t == "hash" then .media { path := "" }
         else if t == "directoryhash" then .media { path := "", isDir := true }
         else if t == "hashlistreference" then .ref {} else .none, st, b, ps, o⟩ := by
  -- the tag that opens a container is not one the new container reacts to
  by_cases h1 : t = "creatorinfo"
  · subst h1; simp [startStep]
  by_cases h2 : t = "processinfo"
  · subst h2; simp [startStep]
  by_cases h3 : t = "hash"
  · subst h3; simp [startStep]
  by_cases h4 : t = "directoryhash"
  · subst h4; simp [startStep]
  by_cases h5 : t = "hashlistreference"
  · subst h5; simp [startStep]
  simp [startStep, h1, h2, h3, h4, h5]

theorem startStep_creator (c : XCreator) (st : List Cur) (b : Bool) (ps : List String) (o : XGen) (t : String) :
    startStep ⟨.creator c, st, b, ps, o⟩ t
      = ⟨.creator (if t == "author" then { c with authors := c.authors ++ [{}] } else c), st, b, ps, o⟩ := by
  simp only [startStep]; split <;> rfl

theorem startStep_process (p : Option String) (r : Option XRecord) (st : List Cur) (b : Bool) (ps : List String)
    (o : XGen) (t : String) :
    startStep ⟨.process p r, st, b, ps, o⟩ t
      = if t == "ignore" then ⟨.ignoreSpec, .process p r :: st, b, ps, o⟩
        else if t == "roothash" then ⟨.media { path := "", isDir := true }, .process p r :: st, b, ps, o⟩
        else ⟨.process p r, st, b, ps, o⟩ := rfl

theorem startStep_media (r : XRecord) (st : List Cur) (b : Bool) (ps : List String) (o : XGen) (t : String) :
    startStep ⟨.media r, st, b, ps, o⟩ t
      = ⟨.media r, st, if t == "structure" then true else if t == "content" then false else b, ps, o⟩ := by
  simp only [startStep]
  split
  · rfl
  split <;> rfl

theorem normText_getD (d : String) : (normText (some d)).getD "" = d := by
  unfold normText
  split
  · next h => simp at h; simp [h]
  · rfl

theorem normText_of_ne {x : Option String} (h : x ≠ some "") : normText x = x := by
  unfold normText
  split
  · exact absurd rfl h
  · rfl

theorem normText_none : normText none = none := rfl

theorem normText_idem (x : Option String) : normText (normText x) = normText x := by
  by_cases h : x = some ""
  · subst h; rfl
  · rw [normText_of_ne h, normText_of_ne h]

theorem normText_ne (x : Option String) : normText x ≠ some "" := by
  unfold normText; split
  · simp
  · next h => exact fun e => h e

theorem normText_eq_self_iff {x : Option String} : normText x = x ↔ x ≠ some "" :=
  ⟨fun h => h ▸ normText_ne x, normText_of_ne⟩

theorem alookup_optAttr_append (k k' : String) (v : Option String) (rest : List (String × String)) :
    alookup k (optAttr k' v ++ rest) = if k' = k then v.orElse fun _ => alookup k rest else alookup k rest := by
  cases v <;> simp [optAttr, alookup]

theorem alookup_optAttr (k k' : String) (v : Option String) :
    alookup k (optAttr k' v) = if k' = k then v else none := by
  cases v <;> simp [optAttr, alookup]

/-! ## the reader over what the writer produces, builder by builder: `<creatorinfo>` -/

def normAuthor (a : XAuthor) : XAuthor := { a with name := normText a.name }

def normCreator (c : XCreator) : XCreator :=
  { c with creationdate := normText c.creationdate, hostname := normText c.hostname, toolName := normText c.toolName,
           authors := c.authors.map normAuthor, location := normText c.location, comment := normText c.comment }

theorem run_authors (as : List XAuthor) (c : XCreator) (st : List Cur) (b : Bool) (ps : List String) (o : XGen) :
    (as.map authorElem).foldl (readTree step) ⟨.creator c, st, b, ps, o⟩
      = ⟨.creator { c with authors := c.authors ++ as.map normAuthor }, st, b, ps, o⟩ := by
  refine foldl_readTree_map_append step (fun acc => (⟨.creator { c with authors := acc }, st, b, ps, o⟩ : PState))
    normAuthor authorElem as (fun acc a _ => ?_) c.authors
  simp [authorElem, readTree_step, startStep, endStep, setLastAuthor, normAuthor, alookup_optAttr_append,
    alookup_optAttr]

theorem run_creator (c : XCreator) (st : List Cur) (b : Bool) (ps : List String) (o : XGen) :
    readTree step ⟨.none, st, b, ps, o⟩ (creatorElem c)
      = ⟨.none, st, b, ps, { o with creator := normCreator c }⟩ := by
  cases hl : c.location <;> cases hc : c.comment <;>
    simp [creatorElem, readTree_step, startStep_none, startStep_creator, endStep, alookup_optAttr, run_authors,
      normCreator, hl, hc, normText_none]

/-! ## the format elements of a record; the structure pass over the entries of a directory record -/

/-- a leaf named after a supported format, inside a record: its text is appended as a digest, or, in the `<structure>`
of a directory record, attached as structure hash to the first entry of the format -/
theorem run_fmt_leaf (t : String) (a : List (String × String)) (x : Option String) (hf : isFormatTag t = true)
    (r : XRecord) (st : List Cur) (b : Bool) (ps : List String) (o : XGen) :
    readTree step ⟨.media r, st, b, ps, o⟩ (.mk t a x [])
      = ⟨.media { r with entries :=
            if r.isDir && b then endStep.setFirst t (normText x) r.entries
            else r.entries ++ [{ fmt := t, digest := (normText x).getD "", action := alookup "action" a,
                                  hashdate := alookup "hashdate" a }] }, st, b, ps, o⟩ := by
  -- a supported format name is none of the structural tags the reader dispatches on
  have hne : ∀ x, isFormatTag x = false → (t == x) = false := fun x hx => by
    rw [beq_eq_false_iff_ne]
    rintro rfl
    rw [hf] at hx
    cases hx
  have h1 := hne "structure" (by decide)
  have h2 := hne "content" (by decide)
  have h3 := hne "path" (by decide)
  rw [readTree_step, List.foldl_nil, startStep_media]
  cases hd : r.isDir <;> cases b <;> simp [endStep, h1, h2, h3, hf, hd]

/-- the entry as the content pass leaves it: no structure hash yet -/
def strip (e : XEntry) : XEntry := { e with shash := none }

theorem run_entries_content (es : List XEntry) (hf : ∀ e ∈ es, isFormatTag e.fmt = true) (r : XRecord)
    (st : List Cur) (b : Bool) (ps : List String) (o : XGen) (hb : r.isDir = false ∨ b = false) :
    (es.map fun e => entryElem e (some e.digest)).foldl (readTree step) ⟨.media r, st, b, ps, o⟩
      = ⟨.media { r with entries := r.entries ++ es.map strip }, st, b, ps, o⟩ := by
  refine foldl_readTree_map_append step (fun acc => (⟨.media { r with entries := acc }, st, b, ps, o⟩ : PState))
    strip _ es (fun acc e he => ?_) r.entries
  unfold entryElem
  rw [run_fmt_leaf _ _ _ (hf e he)]
  rcases hb with hb | hb <;> simp [hb, alookup_optAttr_append, alookup_optAttr, normText_getD, strip]

/-- the structure pass from an arbitrary list -/
def structFold (L es : List XEntry) : List XEntry :=
  es.foldl (fun L e => endStep.setFirst e.fmt (normText e.shash) L) L

@[simp] theorem structFold_nil (L : List XEntry) : structFold L [] = L := rfl
@[simp] theorem structFold_cons (L : List XEntry) (e : XEntry) (es : List XEntry) :
    structFold L (e :: es) = structFold (endStep.setFirst e.fmt (normText e.shash) L) es := rfl

/-- the entries of a directory record as the reader rebuilds them: content pass, then structure pass -/
def readDirEntries (es : List XEntry) : List XEntry :=
  es.foldl (fun L e => endStep.setFirst e.fmt (normText e.shash) L) (es.map strip)

theorem readDirEntries_eq (es : List XEntry) : readDirEntries es = structFold (es.map strip) es := rfl

theorem run_entries_struct (es : List XEntry) (hf : ∀ e ∈ es, isFormatTag e.fmt = true) (r : XRecord)
    (hd : r.isDir = true) (st : List Cur) (ps : List String) (o : XGen) :
    (es.map fun e => entryElem e e.shash).foldl (readTree step) ⟨.media r, st, true, ps, o⟩
      = ⟨.media { r with entries := structFold r.entries es }, st, true, ps, o⟩ := by
  refine foldl_readTree_map step (fun L => (⟨.media { r with entries := L }, st, true, ps, o⟩ : PState))
    (fun L e => endStep.setFirst e.fmt (normText e.shash) L) _ es (fun L e he => ?_) r.entries
  unfold entryElem
  rw [run_fmt_leaf _ _ _ (hf e he)]
  simp [hd]

theorem setFirst_nil (t : String) (x : Option String) : endStep.setFirst t x [] = [] := by
  rw [endStep.setFirst]

theorem setFirst_cons (t : String) (x : Option String) (e : XEntry) (es : List XEntry) :
    endStep.setFirst t x (e :: es)
      = if e.fmt == t then { e with shash := x } :: es else e :: endStep.setFirst t x es := by
  rw [endStep.setFirst]

theorem setFirst_none (t : String) (l : List XEntry) (h : ∀ a ∈ l, a.fmt = t → a.shash = none) :
    endStep.setFirst t none l = l := by
  induction l with
  | nil => exact setFirst_nil _ _
  | cons a as ih =>
    rw [setFirst_cons]
    by_cases ha : a.fmt = t
    · have := h a (by simp) ha
      cases a; simp_all
    · simp [ha, ih (fun y hy => h y (by simp [hy]))]

/-- duplicates of a format inside one record carry no structure hash -/
def DupFree (es : List XEntry) : Prop :=
  es.Pairwise fun a b => a.fmt = b.fmt → a.shash = none ∧ b.shash = none

theorem strip_eq_self_iff {e : XEntry} : strip e = e ↔ e.shash = none := by
  cases e; simp [strip, eq_comm]

theorem setFirst_filter_ne (t f : String) (x : Option String) (h : t ≠ f) (L : List XEntry) :
    (endStep.setFirst t x L).filter (fun a => a.fmt == f) = L.filter (fun a => a.fmt == f) := by
  induction L with
  | nil => rw [setFirst_nil]
  | cons a as ih =>
    rw [setFirst_cons]
    by_cases ha : a.fmt = t
    · have : a.fmt ≠ f := ha ▸ h
      simp [ha, h]
    · simp [ha, List.filter_cons, ih]

theorem structFold_filter_ne (f : String) (es L : List XEntry) (h : ∀ e ∈ es, e.fmt ≠ f) :
    (structFold L es).filter (fun a => a.fmt == f) = L.filter (fun a => a.fmt == f) := by
  induction es generalizing L with
  | nil => rfl
  | cons e es ih =>
    rw [structFold_cons, ih _ (fun x hx => h x (by simp [hx])), setFirst_filter_ne _ _ _ (h e (by simp))]

/-- how the head of the list fares: it collects the texts of its own format; the tail sees the other formats -/
theorem structFold_cons_left (h : XEntry) (T es : List XEntry) :
    structFold (h :: T) es
      = { h with shash := (es.filter (fun e => e.fmt == h.fmt)).foldl (fun _ e => normText e.shash) h.shash }
        :: structFold T (es.filter (fun e => !(e.fmt == h.fmt))) := by
  induction es generalizing h T with
  | nil => rfl
  | cons e es ih =>
    rw [structFold_cons, setFirst_cons]
    by_cases he : h.fmt = e.fmt
    · simp only [he, beq_self_eq_true, ↓reduceIte]
      rw [ih]
      simp
    · have he' : (e.fmt == h.fmt) = false := by simpa using fun x => he x.symm
      have he'' : (h.fmt == e.fmt) = false := by simpa using he
      simp only [he'', Bool.false_eq_true, ↓reduceIte]
      rw [ih]
      simp [he']

/-- steps that write "no structure hash" for a format whose entries have none can be skipped -/
theorem structFold_skip (f : String) (es L : List XEntry) (hL : ∀ a ∈ L, a.fmt = f → a.shash = none)
    (hes : ∀ e ∈ es, e.fmt = f → e.shash = none) :
    structFold L es = structFold L (es.filter (fun e => !(e.fmt == f))) := by
  induction es generalizing L with
  | nil => rfl
  | cons e es ih =>
    by_cases he : e.fmt = f
    · have hs := hes e (by simp) he
      rw [structFold_cons, hs, normText_none, he, setFirst_none f L hL, ih L hL (fun x hx => hes x (by simp [hx]))]
      simp [he]
    · have he' : (e.fmt == f) = false := by simpa using he
      rw [List.filter_cons]
      simp only [he', Bool.not_false, ↓reduceIte, structFold_cons]
      apply ih
      · intro a ha haf
        have : a ∈ (endStep.setFirst e.fmt (normText e.shash) L).filter (fun a => a.fmt == f) := by
          simp [List.mem_filter, ha, haf]
        rw [setFirst_filter_ne _ _ _ he] at this
        exact hL a (List.mem_filter.1 this).1 haf
      · exact fun x hx => hes x (by simp [hx])

theorem foldl_last_none (l : List XEntry) (x : Option String) (hne : l ≠ []) (h : ∀ e ∈ l, e.shash = none) :
    l.foldl (fun _ e => normText e.shash) x = none := by
  induction l generalizing x with
  | nil => exact absurd rfl hne
  | cons e es ih =>
    rw [List.foldl_cons, h e (by simp), normText_none]
    cases es with
    | nil => rfl
    | cons e' es' => exact ih none (by simp) (fun y hy => h y (by simp [hy]))

/-- the reader on the entries of a directory record, first entry apart: it collects the structure hashes of its own
format, the last one wins; the others see the entries of the other formats -/
theorem readDirEntries_cons (e : XEntry) (rest : List XEntry) :
    readDirEntries (e :: rest)
      = { e with shash := (rest.filter fun e' => e'.fmt == e.fmt).foldl (fun _ e' => normText e'.shash) (normText e.shash) }
        :: structFold (rest.map strip) (rest.filter fun e' => !(e'.fmt == e.fmt)) := by
  rw [readDirEntries_eq, List.map_cons, structFold_cons_left]
  simp [strip]

/-- the first entry comes back if it is alone of its format and its structure hash is not the empty text, or if no
entry of its format carries a structure hash; the later entries come back if they do among themselves -/
theorem readDirEntries_cons_eq_iff (e : XEntry) (rest : List XEntry) :
    readDirEntries (e :: rest) = e :: rest ↔
      (e.shash ≠ some "" ∧ ∀ e' ∈ rest, e.fmt = e'.fmt → e.shash = none ∧ e'.shash = none) ∧
        readDirEntries rest = rest := by
  rw [readDirEntries_cons, List.cons.injEq]
  have hstrip : ∀ a ∈ rest.map strip, a.fmt = e.fmt → a.shash = none := by
    intro a ha _
    obtain ⟨y, _, rfl⟩ := List.mem_map.1 ha
    rfl
  -- the tail: the entries of the format of `e` are out of reach of the remaining steps, so they stay as `strip` left
  -- them; and steps that write "no structure hash" for that format are no-ops
  have htail : structFold (rest.map strip) (rest.filter fun e' => !(e'.fmt == e.fmt)) = rest ↔
      (∀ e' ∈ rest, e'.fmt = e.fmt → e'.shash = none) ∧ readDirEntries rest = rest := by
    constructor
    · intro h
      have hstar : ∀ e' ∈ rest, e'.fmt = e.fmt → e'.shash = none := by
        intro e' he' hf
        have hm : e' ∈ rest.filter (fun a => a.fmt == e.fmt) := by simp [List.mem_filter, he', hf]
        rw [← h, structFold_filter_ne e.fmt _ _ (by simp [List.mem_filter])] at hm
        exact hstrip e' (List.mem_filter.1 hm).1 hf
      exact ⟨hstar, by rw [readDirEntries_eq, structFold_skip e.fmt rest _ hstrip hstar]; exact h⟩
    · rintro ⟨hstar, h⟩
      rw [← structFold_skip e.fmt rest _ hstrip hstar, ← readDirEntries_eq, h]
  have hiff : ∀ x : Option String, ({ e with shash := x } : XEntry) = e ↔ x = e.shash := by
    intro x; cases e; simp
  rw [htail, hiff]
  -- the head: alone of its format it gets its own text back; otherwise the last of them writes `none`
  have hhead : (∀ e' ∈ rest, e'.fmt = e.fmt → e'.shash = none) →
      ((rest.filter fun e' => e'.fmt == e.fmt).foldl (fun _ e' => normText e'.shash) (normText e.shash) = e.shash ↔
        e.shash ≠ some "" ∧ ∀ e' ∈ rest, e.fmt = e'.fmt → e.shash = none) := by
    intro hstar
    by_cases hm : rest.filter (fun e' => e'.fmt == e.fmt) = []
    · rw [hm, List.foldl_nil, normText_eq_self_iff]
      refine (and_iff_left ?_).symm
      intro e' he' hf
      have : e' ∈ rest.filter (fun e' => e'.fmt == e.fmt) := by simp [List.mem_filter, he', hf]
      rw [hm] at this; cases this
    · rw [foldl_last_none _ _ hm fun z hz => hstar z (List.mem_filter.1 hz).1 (by simpa using (List.mem_filter.1 hz).2)]
      obtain ⟨y, hy⟩ := List.exists_mem_of_ne_nil _ hm
      have hy' := List.mem_filter.1 hy
      constructor
      · intro h; exact ⟨by rw [← h]; simp, fun _ _ _ => h.symm⟩
      · intro h; exact (h.2 y hy'.1 (by simpa using (beq_iff_eq.1 hy'.2).symm)).symm
  constructor
  · rintro ⟨h1, hstar, h2⟩
    obtain ⟨ha, hb⟩ := (hhead hstar).1 h1
    exact ⟨⟨ha, fun e' he' hf => ⟨hb e' he' hf, hstar e' he' hf.symm⟩⟩, h2⟩
  · rintro ⟨⟨ha, hb⟩, h2⟩
    have hstar : ∀ e' ∈ rest, e'.fmt = e.fmt → e'.shash = none := fun e' he' hf => (hb e' he' hf.symm).2
    exact ⟨(hhead hstar).2 ⟨ha, fun e' he' hf => (hb e' he' hf).1⟩, hstar, h2⟩

/-- the content pass followed by the structure pass restores the entries of a directory record exactly if no present
structure hash is empty and repeated formats carry no structure hash -/
theorem readDirEntries_eq_self_iff (es : List XEntry) :
    readDirEntries es = es ↔ (∀ e ∈ es, e.shash ≠ some "") ∧ DupFree es := by
  induction es with
  | nil => exact ⟨fun _ => ⟨by simp, List.Pairwise.nil⟩, fun _ => rfl⟩
  | cons e rest ih =>
    rw [readDirEntries_cons_eq_iff, ih, DupFree, DupFree, List.pairwise_cons, List.forall_mem_cons]
    exact ⟨fun ⟨⟨a, b⟩, c, d⟩ => ⟨⟨a, c⟩, b, d⟩, fun ⟨⟨a, c⟩, b, d⟩ => ⟨⟨a, b⟩, c, d⟩⟩

theorem setFirst_map_fmt (t : String) (x : Option String) (L : List XEntry) :
    (endStep.setFirst t x L).map (·.fmt) = L.map (·.fmt) := by
  induction L with
  | nil => rw [setFirst_nil]
  | cons a as ih =>
    rw [setFirst_cons]
    split <;> simp [ih]

theorem structFold_map_fmt (es L : List XEntry) : (structFold L es).map (·.fmt) = L.map (·.fmt) := by
  induction es generalizing L with
  | nil => rfl
  | cons e es ih => rw [structFold_cons, ih, setFirst_map_fmt]

theorem readDirEntries_map_fmt (es : List XEntry) : (readDirEntries es).map (·.fmt) = es.map (·.fmt) := by
  rw [readDirEntries_eq, structFold_map_fmt]
  simp [strip]

/-! ## records, `<processinfo>`, references; what the reader returns for a whole manifest (`readBack`) -/

theorem parseNat_toString (n : Nat) : parseNat (toString n) = some n := by
  unfold parseNat
  have hl : (toString n).toList = Nat.toDigits 10 n := by
    rw [Nat.toString_eq_repr, Nat.toList_repr]
  have hne : (toString n).isEmpty = false := by
    rw [Nat.toString_eq_repr]
    simp
  have hall : (toString n).toList.all (fun c => '0' ≤ c && c ≤ '9') = true := by
    rw [hl, List.all_eq_true]
    intro c hc
    have := Nat.isDigit_of_mem_toDigits (by decide) (by decide) hc
    simpa [Char.isDigit, Char.le_def] using this
  rw [hne, hall]
  simp only [Bool.not_true, Bool.or_self, Bool.false_eq_true, ↓reduceIte, Option.some.injEq]
  rw [hl]
  have := @Nat.ofDigitChars_ten_toDigits n
  rw [Nat.ofDigitChars_eq_foldl] at this
  simpa [Nat.mul_comm] using this

/-- `C10.FormatsOk r.entries`, and the clause on entries in `Shape` -/
def GoodRec (r : XRecord) : Prop := ∀ e ∈ r.entries, isFormatTag e.fmt = true

theorem run_path (r r0 : XRecord) (st : List Cur) (b : Bool) (ps : List String) (o : XGen) :
    readTree step ⟨.media r0, st, b, ps, o⟩ (pathElem r)
      = ⟨.media { r0 with path := r.path, size := r.size }, st, b, ps, o⟩ := by
  unfold pathElem
  rw [readTree_step, List.foldl_nil]
  have hs : (alookup "size" (optAttr "size" (r.size.map toString) ++ optAttr "lastmodificationdate" r.lastmod)).bind
      parseNat = r.size := by
    have hr : ∀ n : Nat, parseNat n.repr = some n := fun n => by
      rw [← Nat.toString_eq_repr]; exact parseNat_toString n
    cases r.size <;> simp [alookup_optAttr_append, alookup_optAttr, hr]
  simp [startStep, endStep, hs, normText_getD]

theorem run_prev (r r0 : XRecord) (h0 : r0.prev = none) (st : List Cur) (b : Bool) (ps : List String) (o : XGen) :
    (prevElems r).foldl (readTree step) ⟨.media r0, st, b, ps, o⟩
      = ⟨.media { r0 with prev := normText r.prev }, st, b, ps, o⟩ := by
  unfold prevElems
  cases hp : r.prev with
  | none => cases r0; simp_all [normText_none]
  | some p =>
    have : isFormatTag "previousPath" = false := by decide
    simp [readTree_step, startStep, endStep, this]

/-- a file record as the reader returns it -/
def readFile (r : XRecord) : XRecord :=
  { path := r.path, isDir := false, size := r.size, lastmod := none, prev := normText r.prev,
    entries := (isort (fun a b => strLe a.fmt b.fmt) r.entries).map strip }

/-- a directory record as the reader returns it -/
def readDir (r : XRecord) : XRecord :=
  { path := r.path, isDir := true, size := r.size, lastmod := none, prev := normText r.prev,
    entries := readDirEntries r.entries }

/-- the root hash as the reader returns it -/
def readRoot (r : XRecord) : XRecord :=
  { path := ".", isDir := true, size := none, lastmod := none, prev := normText r.prev,
    entries := readDirEntries r.entries }

theorem run_file (r : XRecord) (hf : GoodRec r) (hp : r.path ≠ ".")
    (st : List Cur) (b : Bool) (ps : List String) (o : XGen) :
    readTree step ⟨.none, st, b, ps, o⟩ (fileElem r)
      = ⟨.none, st, b, ps, { o with records := o.records ++ [readFile r] }⟩ := by
  have : isFormatTag "hash" = false := by decide
  simp [fileElem, readTree_step, startStep_none, run_path,
    run_entries_content _ (fun e he => hf e ((mem_isort _ _ _).1 he)), run_prev, endStep, this, hp, readFile]

/-- `<content>` inside a directory record: the digests are appended, without structure hashes -/
theorem run_content (es : List XEntry) (hf : ∀ e ∈ es, isFormatTag e.fmt = true) (r0 : XRecord)
    (st : List Cur) (b : Bool) (ps : List String) (o : XGen) :
    readTree step ⟨.media r0, st, b, ps, o⟩ (.mk "content" [] none (es.map fun e => entryElem e (some e.digest)))
      = ⟨.media { r0 with entries := r0.entries ++ es.map strip }, st, false, ps, o⟩ := by
  have f1 : isFormatTag "content" = false := by decide
  have h0 : startStep ⟨.media r0, st, b, ps, o⟩ "content" = ⟨.media r0, st, false, ps, o⟩ := by simp [startStep_media]
  rw [readTree_step, h0, run_entries_content _ hf _ _ _ _ _ (Or.inr rfl)]
  simp [endStep, f1]

/-- `<structure>` inside a directory record: every structure hash goes to the first entry of its format -/
theorem run_structure (es : List XEntry) (hf : ∀ e ∈ es, isFormatTag e.fmt = true) (r0 : XRecord)
    (hd : r0.isDir = true) (st : List Cur) (b : Bool) (ps : List String) (o : XGen) :
    readTree step ⟨.media r0, st, b, ps, o⟩ (.mk "structure" [] none (es.map fun e => entryElem e e.shash))
      = ⟨.media { r0 with entries := structFold r0.entries es }, st, true, ps, o⟩ := by
  have f2 : isFormatTag "structure" = false := by decide
  have h0 : startStep ⟨.media r0, st, b, ps, o⟩ "structure" = ⟨.media r0, st, true, ps, o⟩ := by simp [startStep_media]
  rw [readTree_step, h0, run_entries_struct _ hf _ hd]
  simp [endStep, f2]

/-- `<content>`, `<structure>` and `<previousPath>` of a directory record or of the root hash -/
theorem run_dirBody (r r0 : XRecord) (hf : GoodRec r)
    (hd : r0.isDir = true) (he : r0.entries = []) (hp : r0.prev = none)
    (st : List Cur) (b : Bool) (ps : List String) (o : XGen) :
    ([Elem.mk "content" [] none (r.entries.map fun e => entryElem e (some e.digest)),
      Elem.mk "structure" [] none (r.entries.map fun e => entryElem e e.shash)] ++ prevElems r).foldl (readTree step)
        ⟨.media r0, st, b, ps, o⟩
      = ⟨.media { r0 with entries := readDirEntries r.entries, prev := normText r.prev }, st, true, ps, o⟩ := by
  rw [List.foldl_append, List.foldl_cons, List.foldl_cons, List.foldl_nil, run_content _ hf,
    run_structure _ hf { r0 with entries := r0.entries ++ r.entries.map strip } hd,
    run_prev _ _ (by exact hp)]  -- `by`: elaborated once the record is known from the goal
  simp [he, readDirEntries_eq]

theorem run_dir (r : XRecord) (hf : GoodRec r) (hp : r.path ≠ ".")
    (st : List Cur) (b : Bool) (ps : List String) (o : XGen) :
    readTree step ⟨.none, st, b, ps, o⟩ (dirElem "directoryhash" true r)
      = ⟨.none, st, true, ps, { o with records := o.records ++ [readDir r] }⟩ := by
  have f : isFormatTag "directoryhash" = false := by decide
  have h0 : startStep ⟨.none, st, b, ps, o⟩ "directoryhash" = ⟨.media { path := "", isDir := true }, st, b, ps, o⟩ := by
    simp [startStep_none]
  rw [dirElem, readTree_step, h0, if_pos rfl, List.append_assoc, List.foldl_append, List.foldl_cons, List.foldl_nil,
    run_path, run_dirBody r _ hf rfl rfl rfl]
  simp [endStep, f, hp, readDir]

theorem run_root (r : XRecord) (hf : GoodRec r)
    (p : Option String) (q : Option XRecord) (st : List Cur) (b : Bool) (ps : List String) (o : XGen) :
    readTree step ⟨.process p q, st, b, ps, o⟩ (dirElem "roothash" false r)
      = ⟨.process p (some (readRoot r)), st, true, ps, o⟩ := by
  have f : isFormatTag "roothash" = false := by decide
  have h0 : startStep ⟨.process p q, st, b, ps, o⟩ "roothash"
      = ⟨.media { path := "", isDir := true }, .process p q :: st, b, ps, o⟩ := by
    simp [startStep_process]
  rw [dirElem, readTree_step, h0]
  simp only [Bool.false_eq_true, ↓reduceIte, List.nil_append]
  rw [run_dirBody r _ hf rfl rfl rfl]
  simp [endStep, f, popStack, readRoot]

theorem run_patterns (l : List String) (st : List Cur) (b : Bool) (ps : List String) (o : XGen) :
    (l.map fun p => .mk "pattern" [] (some p) []).foldl (readTree step) ⟨.ignoreSpec, st, b, ps, o⟩
      = ⟨.ignoreSpec, st, b, ps ++ l, o⟩ := by
  simpa using foldl_readTree_map_append step (fun acc => (⟨.ignoreSpec, st, b, acc, o⟩ : PState)) id
    (fun p => .mk "pattern" [] (some p) []) l
    (fun acc p _ => by simp [readTree_step, startStep, endStep, normText_getD]) ps

theorem run_ignore (l : List String) (p : Option String) (q : Option XRecord) (st : List Cur) (b : Bool)
    (ps : List String) (o : XGen) :
    readTree step ⟨.process p q, st, b, ps, o⟩ (.mk "ignore" [] none (l.map fun p => .mk "pattern" [] (some p) []))
      = ⟨.process p q, st, b, ps ++ l, o⟩ := by
  simp [readTree_step, startStep_process, run_patterns, endStep, popStack]

/-- the root hash as the reader returns it (none when nothing was written) -/
def readRootOpt (r : Option XRecord) : Option XRecord :=
  r.bind fun r => if r.entries.isEmpty then none else some (readRoot r)

theorem run_process (g : XGen) (hf : ∀ r, g.rootHash = some r → GoodRec r)
    (st : List Cur) (b : Bool) (ps : List String) (o : XGen) :
    readTree step ⟨.none, st, b, ps, o⟩ (processElem g)
      = ⟨.none, st, (readRootOpt g.rootHash).isSome || b, ps ++ g.ignore,
          { o with process := normText g.process, rootHash := readRootOpt g.rootHash }⟩ := by
  have h1 : ∀ x, readTree step ⟨.process none none, st, b, ps, o⟩ (.mk "process" [] x [])
      = ⟨.process (normText x) none, st, b, ps, o⟩ := by
    simp [readTree_step, startStep, endStep]
  rw [processElem, readTree_step]
  cases hr : g.rootHash with
  | none => simp [startStep_none, h1, run_ignore, endStep, readRootOpt]
  | some r =>
    by_cases he : r.entries = []
    · simp [he, startStep_none, h1, run_ignore, endStep, readRootOpt]
    · simp [he, startStep_none, h1, run_root r (hf r hr), run_ignore, endStep, readRootOpt]

/-- a reference as the reader returns it -/
def normRef (r : XRef) : XRef := { path := normText r.path, c4 := normText r.c4 }

theorem run_refs (rs : List XRef) (st : List Cur) (b : Bool) (ps : List String) (o : XGen) :
    (rs.map refElem).foldl (readTree step) ⟨.none, st, b, ps, o⟩
      = ⟨.none, st, b, ps, { o with refs := o.refs ++ rs.map normRef }⟩ := by
  refine foldl_readTree_map_append step (fun acc => (⟨.none, st, b, ps, { o with refs := acc }⟩ : PState))
    normRef refElem rs (fun acc r _ => ?_) o.refs
  simp [refElem, readTree_step, startStep, endStep, normRef]

theorem run_references (rs : List XRef) (st : List Cur) (b : Bool) (ps : List String) (o : XGen) :
    (if rs.isEmpty then [] else [.mk "references" [] none (rs.map refElem)]).foldl (readTree step)
        ⟨.none, st, b, ps, o⟩
      = ⟨.none, st, b, ps, { o with refs := o.refs ++ rs.map normRef }⟩ := by
  by_cases he : rs = []
  · simp [he]
  · simp [he, readTree_step, startStep_none, run_refs, endStep]

/-- one record as the reader returns it -/
def readRec (r : XRecord) : XRecord := if r.isDir then readDir r else readFile r

theorem run_records (rs : List XRecord) (hf : ∀ r ∈ rs, r.path ≠ "." ∧ GoodRec r)
    (st : List Cur) (b : Bool) (ps : List String) (o : XGen) :
    (rs.map fun r => if r.isDir then dirElem "directoryhash" true r else fileElem r).foldl (readTree step)
        ⟨.none, st, b, ps, o⟩
      = ⟨.none, st, rs.any (·.isDir) || b, ps, { o with records := o.records ++ rs.map readRec }⟩ := by
  induction rs generalizing o b with
  | nil => simp
  | cons r rs ih =>
    obtain ⟨hp, hfr⟩ := hf r (by simp)
    simp only [List.map_cons, List.foldl_cons]
    by_cases hd : r.isDir = true
    · simp only [hd, ↓reduceIte, run_dir r hfr hp]
      rw [ih (fun x hx => hf x (by simp [hx]))]
      simp [readRec, hd]
    · simp only [hd, Bool.false_eq_true, ↓reduceIte, run_file r hfr hp]
      rw [ih (fun x hx => hf x (by simp [hx]))]
      simp [readRec, hd]

theorem run_hashes (rs : List XRecord) (hf : ∀ r ∈ rs, r.path ≠ "." ∧ GoodRec r)
    (st : List Cur) (b : Bool) (ps : List String) (o : XGen) :
    (if rs.isEmpty then [] else
        [.mk "hashes" [] none (rs.map fun r => if r.isDir then dirElem "directoryhash" true r else fileElem r)]).foldl
        (readTree step) ⟨.none, st, b, ps, o⟩
      = ⟨.none, st, rs.any (·.isDir) || b, ps, { o with records := o.records ++ rs.map readRec }⟩ := by
  by_cases he : rs = []
  · simp [he]
  · simp [he, readTree_step, startStep_none, run_records rs hf, endStep]

/-- what the reader returns for what the writer wrote, field by field -/
def readBack (g : XGen) : XGen :=
  { creator := normCreator g.creator, process := normText g.process, rootHash := readRootOpt g.rootHash,
    ignore := setPatterns (some g.ignore) [] [], records := g.records.map readRec, refs := g.refs.map normRef }

/-- the structural conditions: supported formats everywhere, no record named "." -/
def Shape (g : XGen) : Prop :=
  (∀ r, g.rootHash = some r → ∀ e ∈ r.entries, isFormatTag e.fmt = true) ∧
  ∀ r ∈ g.records, r.path ≠ "." ∧ ∀ e ∈ r.entries, isFormatTag e.fmt = true

theorem parse_eq_run (e : Elem) :
    parse e = { (run {} (events e)).out with ignore := setPatterns (some (run {} (events e)).patterns) [] [] } := rfl

/-! ## `norm` -/

/-- the order in which the writer emits the format elements of a file record -/
def fmtLe (a b : XEntry) : Bool := strLe a.fmt b.fmt

/-- `norm` on one record -/
def nrec (r : XRecord) : XRecord :=
  { r with lastmod := none, entries := if r.isDir then r.entries else isort fmtLe r.entries }

/-- `norm` on the root hash -/
def nroot (r : XRecord) : XRecord := { (nrec r) with path := ".", isDir := true, size := none }

theorem norm_eq (g : XGen) :
    norm g = { g with rootHash := g.rootHash.bind fun r => if r.entries.isEmpty then none else some (nroot r),
                      ignore := setPatterns (some g.ignore) [] [],
                      records := g.records.map nrec } := rfl

theorem nrec_idem (r : XRecord) : nrec (nrec r) = nrec r := by
  unfold nrec
  have h : isort fmtLe (isort fmtLe r.entries) = isort fmtLe r.entries :=
    isort_of_sorted _ _ (isort_key_sorted (fun e : XEntry => e.fmt) r.entries)
  cases hd : r.isDir <;> simp [h]

theorem nroot_entries_ne (r : XRecord) (h : r.entries ≠ []) : (nroot r).entries ≠ [] := by
  unfold nroot nrec
  cases hd : r.isDir <;> simp [h, isort_eq_nil]

theorem nroot_idem (r : XRecord) : nroot (nroot r) = nroot r := by
  simp [nroot, nrec]

theorem isort_eq_of_map_fmt (es : List XEntry) (h : (isort fmtLe es).map (·.fmt) = es.map (·.fmt)) :
    isort fmtLe es = es := by
  apply isort_of_sorted
  have hs : (isort fmtLe es).Pairwise fun a b => fmtLe a b = true := isort_key_sorted (fun e : XEntry => e.fmt) es
  have h1 : ((isort fmtLe es).map (·.fmt)).Pairwise (fun a b => strLe a b = true) := by
    rw [List.pairwise_map]; exact hs
  rw [h, List.pairwise_map] at h1
  exact h1

/-- the structure pass gives the sorted entries only if they were sorted: it keeps the formats in their order -/
theorem readDirEntries_eq_isort_iff (es : List XEntry) :
    readDirEntries es = isort fmtLe es ↔ readDirEntries es = es ∧ isort fmtLe es = es := by
  refine ⟨fun h => ?_, fun h => h.1.trans h.2.symm⟩
  have hs : isort fmtLe es = es := isort_eq_of_map_fmt es (by rw [← h, readDirEntries_map_fmt])
  exact ⟨h.trans hs, hs⟩

theorem setPatterns_idem (l : List String) :
    setPatterns (some (setPatterns (some l) [] [])) [] [] = setPatterns (some l) [] [] :=
  basePatterns_setPatterns (some l) [] []

/-! ## the chain file -/

def chainRun (s : CState) (evs : List Event) : CState := evs.foldl chainStep s

@[simp] theorem chainRun_nil (s : CState) : chainRun s [] = s := rfl

/-- what the chain reader makes of one written entry, whatever the entry: the digest element is read by its tag, so
a format named "path" overwrites the path, and a name that is no supported format is skipped or closes the entry -/
def readEntry (c : XChainEntry) : XChainEntry :=
  let t := c.fmt.getD "c4"
  if t = "path" then { seq := c.seq, path := normText c.digest }
  else if isFormatTag t then { seq := c.seq, path := normText c.path, fmt := some t, digest := normText c.digest }
  else if t = "hashlist" then { path := normText c.path }
  else { seq := c.seq, path := normText c.path }

/-- one entry element is read on its own: the reader is between entries before and after, and what it appends does
not depend on what was read before -/
theorem readTree_chainEntry (c : XChainEntry) (out : List XChainEntry) :
    readTree chainStep ⟨none, out⟩ (chainEntryElem c) = ⟨none, out ++ [readEntry c]⟩ := by
  unfold readEntry chainEntryElem
  simp only [readTree_mk, List.foldl_cons, List.foldl_nil]
  generalize c.fmt.getD "c4" = t
  have f1 : isFormatTag "hashlist" = false := by decide
  by_cases h1 : t = "path"
  · subst h1; simp [chainStep, f1, alookup_optAttr]
  · by_cases h2 : isFormatTag t = true
    · simp [chainStep, h1, h2, f1, alookup_optAttr]
    · by_cases h3 : t = "hashlist"
      · subst h3; simp [chainStep, f1, alookup]
      · simp [chainStep, h1, h2, h3, f1, alookup_optAttr]

theorem readTree_chainEntries (cs : List XChainEntry) (out : List XChainEntry) :
    (cs.map chainEntryElem).foldl (readTree chainStep) ⟨none, out⟩ = ⟨none, out ++ cs.map readEntry⟩ :=
  foldl_readTree_map_append chainStep (fun out => (⟨none, out⟩ : CState)) readEntry chainEntryElem cs
    (fun out c _ => readTree_chainEntry c out) out

theorem parseChain_eq (cs : List XChainEntry) : parseChain (chainToXml cs) = cs.map readEntry := by
  have h0 : chainStep {} (.start "ascmhldirectory") = ⟨none, []⟩ := by simp [chainStep]
  rw [parseChain, foldl_events, chainToXml, readTree_mk, h0, readTree_chainEntries]
  simp [chainStep]

/-- a chain entry the tool writes: a supported format; texts that are present are not empty -/
def WfChainEntry (c : XChainEntry) : Prop :=
  (∃ f, c.fmt = some f ∧ isFormatTag f = true) ∧ c.path ≠ some "" ∧ c.digest ≠ some ""

theorem readEntry_eq_self_iff (c : XChainEntry) : readEntry c = c ↔ WfChainEntry c := by
  obtain ⟨s, p, f, d⟩ := c
  cases f with
  | none =>
    -- written as `<c4>`, read back with the format "c4"
    have f2 : isFormatTag "c4" = true := by decide
    simp [readEntry, WfChainEntry, f2]
  | some t =>
    simp only [readEntry, WfChainEntry, Option.getD_some]
    by_cases h1 : t = "path"
    · have f1 : isFormatTag "path" = false := by decide
      simp [h1, f1]
    · by_cases h2 : isFormatTag t = true
      · simp [h1, h2, normText_eq_self_iff]
      · have h2' : isFormatTag t = false := by simpa using h2
        simp only [h1, h2', ↓reduceIte, Bool.false_eq_true]
        split <;> simp [h2']

/-! ## the invariant of the reader on arbitrary events -/

def GoodCur : Cur → Prop
  | .media r => GoodRec r
  | .process _ (some r) => GoodRec r
  | _ => True

/-- the invariant of the reader: every entry it holds was made from a supported format tag, and no record named "."
is among the records -/
structure Inv (s : PState) : Prop where
  cur : GoodCur s.cur
  stack : ∀ c ∈ s.stack, GoodCur c
  records : ∀ r ∈ s.out.records, r.path ≠ "." ∧ GoodRec r
  root : ∀ r ∈ s.out.rootHash, GoodRec r

theorem setFirst_good (t : String) (x : Option String) (L : List XEntry) (h : ∀ e ∈ L, isFormatTag e.fmt = true) :
    ∀ e ∈ endStep.setFirst t x L, isFormatTag e.fmt = true := by
  intro e he
  have : e.fmt ∈ (endStep.setFirst t x L).map (·.fmt) := List.mem_map.2 ⟨e, he, rfl⟩
  rw [setFirst_map_fmt] at this
  obtain ⟨y, hy, hye⟩ := List.mem_map.1 this
  rw [← hye]; exact h y hy

theorem inv_startStep (s : PState) (t : String) (h : Inv s) : Inv (startStep s t) := by
  obtain ⟨cur, st, b, ps, o⟩ := s
  obtain ⟨h1, h2, h3, h4⟩ := h
  -- a record just begun has no entries
  have hnew : ∀ d : Bool, GoodRec { path := "", isDir := d } := fun _ _ he => absurd he List.not_mem_nil
  cases cur with
  | none =>
    rw [startStep_none]
    refine ⟨?_, h2, h3, h4⟩
    repeat' (apply prop_ite GoodCur <;> intro _)
    all_goals first | trivial | exact hnew _
  | creator c => exact startStep_creator c .. ▸ ⟨trivial, h2, h3, h4⟩
  | process p q =>
    have h2' : ∀ c ∈ Cur.process p q :: st, GoodCur c := List.forall_mem_cons.2 ⟨h1, h2⟩
    rw [startStep_process]
    apply prop_ite Inv <;> intro _
    · exact ⟨trivial, h2', h3, h4⟩
    apply prop_ite Inv <;> intro _
    · exact ⟨hnew true, h2', h3, h4⟩
    · exact ⟨h1, h2, h3, h4⟩
  | ignoreSpec => exact ⟨trivial, h2, h3, h4⟩
  | media r => exact startStep_media r .. ▸ ⟨h1, h2, h3, h4⟩
  | ref r => exact ⟨trivial, h2, h3, h4⟩

/-- `endStep` moves the current record, good by `h.cur`, into `out.records` (when its path is not ".") or into
`out.rootHash`, appends to it an entry whose tag has just passed `isFormatTag`, sets a structure hash (`setFirst_good`:
the formats stay), or pops the stack; `prop_ite` walks its chain of `if`s. -/
theorem inv_endStep (s : PState) (t : String) (a : List (String × String)) (x : Option String) (h : Inv s) :
    Inv (endStep s t a x) := by
  obtain ⟨cur, st, b, ps, o⟩ := s
  obtain ⟨h1, h2, h3, h4⟩ := h
  simp only at h1 h2 h3 h4
  cases cur with
  | none => exact ⟨h1, h2, h3, h4⟩
  | creator c =>
    unfold endStep
    repeat' (apply prop_ite Inv <;> intro _)
    all_goals exact ⟨trivial, h2, h3, h4⟩
  | process p q =>
    unfold endStep
    repeat' (apply prop_ite Inv <;> intro _)
    · exact ⟨by cases q <;> exact h1, h2, h3, h4⟩
    · refine ⟨trivial, h2, h3, ?_⟩
      intro r hr
      have : q = some r := by simpa using hr
      subst this
      exact h1
    · exact ⟨h1, h2, h3, h4⟩
  | ignoreSpec =>
    unfold endStep
    repeat' (apply prop_ite Inv <;> intro _)
    · exact ⟨trivial, h2, h3, h4⟩
    · cases st with
      | nil => exact ⟨trivial, by simp [popStack], h3, h4⟩
      | cons c rest =>
        exact ⟨h2 c (by simp), fun y hy => h2 y (by simp [popStack] at hy; simp [hy]), h3, h4⟩
    · exact ⟨trivial, h2, h3, h4⟩
  | media r =>
    have hr : GoodRec r := h1
    unfold endStep
    apply prop_ite Inv <;> intro hpath
    · exact ⟨hr, h2, h3, h4⟩
    apply prop_ite Inv <;> intro hfmt
    · have happ : GoodRec { r with entries := r.entries ++
          [{ fmt := t, digest := x.getD "", action := alookup "action" a, hashdate := alookup "hashdate" a }] } := by
        intro e he
        simp only [List.mem_append, List.mem_singleton] at he
        rcases he with he | rfl
        · exact hr e he
        · exact hfmt
      repeat' (apply prop_ite Inv <;> intro _)
      · exact ⟨happ, h2, h3, h4⟩
      · exact ⟨setFirst_good t x r.entries hr, h2, h3, h4⟩
      · exact ⟨happ, h2, h3, h4⟩
    apply prop_ite Inv <;> intro hhash
    · apply prop_ite Inv <;> intro hp
      · refine ⟨trivial, h2, h3, ?_⟩
        intro r' hr'
        have : r = r' := by simpa using hr'
        subst this; exact hr
      · refine ⟨trivial, h2, ?_, h4⟩
        intro r' hr'
        simp only [List.mem_append, List.mem_singleton] at hr'
        rcases hr' with hr' | rfl
        · exact h3 r' hr'
        · exact ⟨by simpa using hp, hr⟩
    apply prop_ite Inv <;> intro hroot
    · cases st with
      | nil => exact ⟨trivial, by simp [popStack], h3, h4⟩
      | cons c rest =>
        have hrest : ∀ y ∈ rest, GoodCur y := fun y hy => h2 y (by simp [hy])
        cases c with
        | process p q => exact ⟨hr, hrest, h3, h4⟩
        | _ => exact ⟨h2 _ List.mem_cons_self, hrest, h3, h4⟩
    apply prop_ite Inv <;> intro hprev
    · exact ⟨hr, h2, h3, h4⟩
    · exact ⟨hr, h2, h3, h4⟩
  | ref r =>
    unfold endStep
    repeat' (apply prop_ite Inv <;> intro _)
    all_goals exact ⟨trivial, h2, h3, h4⟩

theorem inv_run (evs : List Event) (s : PState) (h : Inv s) : Inv (run s evs) :=
  foldl_invariant Inv step evs (fun s e _ h => by
    cases e with
    | start t => exact inv_startStep s t h
    | finish t a x => exact inv_endStep s t a x h) s h

end MhlModel.Xml
