/-
A history that records a tree as it was (`Snapshot`: the matcher of a run against it, the judge equation of every
file the tree showed, nothing expected that the tree did not show), and what `verify` / `diff` / `verify -pl` say of
ANY other tree `T` judged against it: first the three path lists of the run, one lemma per list and per way `T` can
differ from `t`, then the runs (unchanged, one file altered, removed, added, moved) as combinations of these.  The
history may come from the `ascmhl` folders of the tree that is judged or from a packing list (`loadedHist`), and may
be flat or nested.  Instances: the first seal of a tree (`C03e2e.sealed_snapshot`), the seal of a tree with nested
histories (`C03nested.nested_snapshot`), the packing list of a sealed tree (`C18e2e.pl_snapshot`), any history without
nested histories that describes a tree (`Describes.snapshot`, Proofs/DescribesLemmas.lean: the first seal, the
generations after a recorded rename).

At the end, ONE CHANGE TO A RECORDED TREE made with the model's tree operations: the content of a visible file
replaced / a visible file removed / a file added to a visible folder, provided the edited tree still gives the
history (a packing list; or loading, which does not see these edits: `loadHistory_setContent_n1`,
`loadHistory_removeAt`, `loadHistory_addAt`, Proofs/LoadLemmas.lean); for the tree with generations written into its `ascmhl` folders first
transport the snapshot (`Snapshot.of_sameFiles`).
-/
import MhlProps.Proofs.SameFilesLemmas
import MhlProps.C03
import MhlProps.Proofs.CreateLemmas

namespace MhlModel

theorem vNews_nodup (env : Env) (T : Node) (H : Hist) (o : VerifyOpts) (hashing : Bool) (hd : T.NamesDistinct) :
    (vNews env T H o hashing).Nodup :=
  List.Nodup.sublist (List.filter_sublist.trans List.filter_sublist) (visibleFiles_nodup _ _ hd)

/-- `H` records the tree `t` as seen through `hit`: a run against `H` uses the matcher `hit`; every file visible in
`t` is compared, in the format `fmt` names for it, with the digest of its content in `t`; and `H` expects nothing
that `t` does not show (or that is ignored). -/
structure Snapshot (env : Env) (H : Hist) (hit : RelPath → Bool) (t : Node) (fmt : RelPath → String) : Prop where
  gens : H.gens ≠ []
  matcher : vHit env H {} = hit
  distinct : t.NamesDistinct
  judge : ∀ (T : Node) (hashing : Bool) (q : RelPath), (q, false) ∈ visiblePaths hit t →
    judgeFile env T H hashing q =
      if hashing && env.H (fmt q) (fileContent T q) != env.H (fmt q) (fileContent t q) then .mismatch else .ok
  expected : ∀ p ∈ expectedPaths H, (∃ d, (p, d) ∈ visiblePaths hit t) ∨ hitAbove hit p = true

section
variable {env : Env} {H : Hist} {hit : RelPath → Bool} {t : Node} {fmt : RelPath → String}

theorem Snapshot.mem_considered (S : Snapshot env H hit t fmt) (T : Node) (q : RelPath) :
    q ∈ vConsidered env T H {} ↔ (q, false) ∈ visiblePaths hit T := by
  rw [mem_vConsidered, S.matcher]
  exact and_iff_left (Or.inl rfl)

theorem Snapshot.judge_ok (S : Snapshot env H hit t fmt) (T : Node) (hashing : Bool) {q : RelPath}
    (hq : (q, false) ∈ visiblePaths hit t)
    (hc : hashing = true → env.H (fmt q) (fileContent T q) = env.H (fmt q) (fileContent t q)) :
    judgeFile env T H hashing q = .ok := by
  rw [S.judge T hashing q hq]
  cases hashing with
  | false => simp
  | true => simp [hc rfl]

theorem Snapshot.judge_mismatch (S : Snapshot env H hit t fmt) (T : Node) {q : RelPath}
    (hq : (q, false) ∈ visiblePaths hit t)
    (hd : env.H (fmt q) (fileContent T q) ≠ env.H (fmt q) (fileContent t q)) :
    judgeFile env T H true q = .mismatch := by
  rw [S.judge T true q hq]
  simp [hd]

/-! #### the three lists of a run against `H` on a tree `T`, one lemma per list and way it can differ from `t` -/

theorem Snapshot.mism_nil (S : Snapshot env H hit t fmt) (T : Node) (hashing : Bool)
    (h : ∀ q, (q, false) ∈ visiblePaths hit T → judgeFile env T H hashing q = .new ∨
      ((q, false) ∈ visiblePaths hit t ∧
        (hashing = true → env.H (fmt q) (fileContent T q) = env.H (fmt q) (fileContent t q)))) :
    vMism env T H {} hashing = [] := by
  unfold vMism
  rw [List.filter_eq_nil_iff]
  intro q hq
  rcases h q ((S.mem_considered T q).1 hq) with h1 | ⟨h1, h2⟩
  · rw [h1]; decide
  · rw [S.judge_ok T hashing h1 h2]; decide

theorem Snapshot.news_nil (S : Snapshot env H hit t fmt) (T : Node) (hashing : Bool)
    (hsub : ∀ q, (q, false) ∈ visiblePaths hit T → (q, false) ∈ visiblePaths hit t) :
    vNews env T H {} hashing = [] := by
  apply List.eq_nil_iff_forall_not_mem.2
  intro q hq
  obtain ⟨hq1, hq2⟩ := (mem_vNews _ _ _ _ _ _).1 hq
  rw [S.judge T hashing q (hsub q ((S.mem_considered T q).1 hq1))] at hq2
  split at hq2 <;> cases hq2

theorem Snapshot.news_single (S : Snapshot env H hit t fmt) (T : Node) (hashing : Bool) (b : RelPath)
    (hb : (b, false) ∈ visiblePaths hit T) (hnew : judgeFile env T H hashing b = .new)
    (hrest : ∀ q, (q, false) ∈ visiblePaths hit T → q ≠ b → (q, false) ∈ visiblePaths hit t) (x : RelPath) :
    x ∈ vNews env T H {} hashing ↔ x = b := by
  rw [mem_vNews, S.mem_considered]
  constructor
  · rintro ⟨h1, h2⟩
    by_contra hx
    rw [S.judge T hashing x (hrest x h1 hx)] at h2
    split at h2 <;> cases h2
  · rintro rfl
    exact ⟨hb, hnew⟩

theorem Snapshot.missing_nil (S : Snapshot env H hit t fmt) (T : Node)
    (hsup : ∀ q d, (q, d) ∈ visiblePaths hit t → (q, d) ∈ visiblePaths hit T) :
    vMissing env T H {} = [] := by
  apply List.eq_nil_iff_forall_not_mem.2
  intro q hq
  obtain ⟨he, hnv, hh⟩ := (mem_vMissing _ _ _ _ _).1 hq
  rw [mem_vFound, S.matcher] at hnv
  rw [S.matcher] at hh
  rcases S.expected q he with ⟨d, hd⟩ | hi
  · exact hnv ⟨d, hsup q d hd⟩
  · rw [hi] at hh; cases hh

/-- the missing list of the run on `T` in terms of `hit`: what `create` computes as well -/
theorem Snapshot.vMissing_eq (S : Snapshot env H hit t fmt) (T : Node) :
    vMissing env T H {} =
      missingAfter hit ((expectedPaths H).filter fun p => !((visiblePaths hit T).map (·.1)).contains p) := by
  unfold vMissing vFound
  rw [S.matcher]

/-- exactly `a` is missing, for verify, diff and create alike -/
theorem Snapshot.missing_single (S : Snapshot env H hit t fmt) (T : Node) (a : RelPath)
    (ha : (a, false) ∈ visiblePaths hit t) (hae : a ∈ expectedPaths H) (hgone : ∀ d, (a, d) ∉ visiblePaths hit T)
    (hrest : ∀ q d, (q, d) ∈ visiblePaths hit t → q ≠ a → (q, d) ∈ visiblePaths hit T) :
    missingAfter hit ((expectedPaths H).filter fun p => !((visiblePaths hit T).map (·.1)).contains p) = [a] := by
  unfold missingAfter
  rw [List.filter_filter]
  refine filter_eq_singleton _ _ _ (expectedPaths_nodup H) hae fun x hx => ?_
  simp only [Bool.and_eq_true, Bool.not_eq_true', List.contains_eq_mem, decide_eq_false_iff_not]
  constructor
  · rintro ⟨hxh, hxF⟩
    by_contra hne
    rcases S.expected x hx with ⟨d, hd⟩ | h1
    · exact hxF (List.mem_map.2 ⟨(x, d), hrest x d hd hne, rfl⟩)
    · rw [hxh] at h1; cases h1
  · rintro rfl
    refine ⟨MhlProps.C03.hitAbove_false_of_visible _ t _ false ha, fun hin => ?_⟩
    obtain ⟨⟨q, d⟩, hq, rfl⟩ := List.mem_map.1 hin
    exact hgone d hq

/-- one file moved, for verify, diff and create alike: of the expected paths exactly the old one is not come across -/
theorem Snapshot.missing_of_moved (S : Snapshot env H hit t fmt) (T : Node) (a b : RelPath)
    (ha : (a, false) ∈ visiblePaths hit t) (hae : a ∈ expectedPaths H) (hba : b ≠ a)
    (hvis : ∀ x, x ∈ visiblePaths hit T ↔ (x ∈ visiblePaths hit t ∧ x.1 ≠ a) ∨ x = (b, false)) :
    missingAfter hit ((expectedPaths H).filter fun p => !((visiblePaths hit T).map (·.1)).contains p) = [a] :=
  S.missing_single T a ha hae
    (fun _ hd => ((hvis _).1 hd).elim (fun h => h.2 rfl) fun h => hba (Prod.mk.inj h).1.symm)
    fun _ _ hd hne => (hvis _).2 (.inl ⟨hd, hne⟩)

/-! #### what verify / diff say of `T` -/

theorem Snapshot.unchanged (S : Snapshot env H hit t fmt) (T : Node) (pl : Option Generation) (hashing : Bool)
    (hl : loadedHist T pl = .ok H) (hvis : ∀ x, x ∈ visiblePaths hit T ↔ x ∈ visiblePaths hit t)
    (hcont : ∀ q, (q, false) ∈ visiblePaths hit t → hashing = true →
      env.H (fmt q) (fileContent T q) = env.H (fmt q) (fileContent t q)) :
    (verifyOrDiff env T {} hashing pl).err = none ∧
    (verifyOrDiff env T {} hashing pl).exitCode = 0 ∧
    (verifyOrDiff env T {} hashing pl).report.mismatch = [] ∧
    (verifyOrDiff env T {} hashing pl).report.new = [] ∧
    (verifyOrDiff env T {} hashing pl).report.missing = [] := by
  refine MhlProps.C03.clean_run env T {} hashing H pl hl S.gens rfl (fun q hq => ?_) fun p hp => ?_
  · rw [S.matcher] at hq
    have hq' := (hvis _).1 hq
    rw [S.judge_ok T hashing hq' (hcont q hq')]
    exact ⟨nofun, nofun⟩
  · rw [S.matcher]
    exact (S.expected p hp).imp (fun ⟨d, hd⟩ => ⟨d, (hvis _).2 hd⟩) id

theorem Snapshot.altered (S : Snapshot env H hit t fmt) (T : Node) (pl : Option Generation)
    (hl : loadedHist T pl = .ok H) (p : RelPath) (hvis : visiblePaths hit T = visiblePaths hit t)
    (hp : (p, false) ∈ visiblePaths hit t)
    (hdig : env.H (fmt p) (fileContent T p) ≠ env.H (fmt p) (fileContent t p))
    (hother : ∀ q, (q, false) ∈ visiblePaths hit t → q ≠ p →
      env.H (fmt q) (fileContent T q) = env.H (fmt q) (fileContent t q)) :
    (verifyOrDiff env T {} true pl).err = some errVerifyFailed ∧
    (verifyOrDiff env T {} true pl).exitCode = 11 ∧
    (verifyOrDiff env T {} true pl).report.mismatch = [posix p] ∧
    (verifyOrDiff env T {} true pl).report.new = [] ∧
    (verifyOrDiff env T {} true pl).report.missing = [] := by
  have hm : vMism env T H {} true = [p] := by
    unfold vMism
    apply filter_eq_singleton
    · unfold vConsidered vFiles
      rw [S.matcher, hvis]
      exact List.Nodup.sublist List.filter_sublist (visibleFiles_nodup _ _ S.distinct)
    · exact (S.mem_considered T p).2 (by rw [hvis]; exact hp)
    · intro q hq
      have hq' : (q, false) ∈ visiblePaths hit t := by rw [← hvis]; exact (S.mem_considered T q).1 hq
      by_cases hqp : q = p
      · subst hqp
        rw [S.judge_mismatch T hq' hdig]
        simp
      · rw [S.judge_ok T true hq' fun _ => hother q hq' hqp]
        simp [hqp]
  have hn := S.news_nil T true fun q hq => by rw [← hvis]; exact hq
  have hx := S.missing_nil T fun q d hd => by rw [hvis]; exact hd
  simp [verifyOrDiff_err hl S.gens, verifyOrDiff_exitCode hl S.gens, verifyOrDiff_report hl S.gens, hm, hn, hx]

theorem Snapshot.removed (S : Snapshot env H hit t fmt) (T : Node) (pl : Option Generation) (hashing : Bool)
    (hl : loadedHist T pl = .ok H) (p : RelPath) (hp : (p, false) ∈ visiblePaths hit t)
    (hpe : p ∈ expectedPaths H)
    (hvis : ∀ x, x ∈ visiblePaths hit T ↔ x ∈ visiblePaths hit t ∧ x.1 ≠ p)
    (hother : ∀ q, (q, false) ∈ visiblePaths hit t → q ≠ p →
      env.H (fmt q) (fileContent T q) = env.H (fmt q) (fileContent t q)) :
    (verifyOrDiff env T {} hashing pl).err = some errMissingFiles ∧
    (verifyOrDiff env T {} hashing pl).exitCode = 10 ∧
    (verifyOrDiff env T {} hashing pl).report.mismatch = [] ∧
    (verifyOrDiff env T {} hashing pl).report.new = [] ∧
    (verifyOrDiff env T {} hashing pl).report.missing = [posix p] := by
  have hm := S.mism_nil T hashing fun q hq =>
    .inr ⟨((hvis _).1 hq).1, fun _ => hother q ((hvis _).1 hq).1 ((hvis _).1 hq).2⟩
  have hn := S.news_nil T hashing fun q hq => ((hvis _).1 hq).1
  have hx := (S.vMissing_eq T).trans
    (S.missing_single T p hp hpe (fun d hd => ((hvis _).1 hd).2 rfl) fun q d hd hne => (hvis _).2 ⟨hd, hne⟩)
  simp [verifyOrDiff_err hl S.gens, verifyOrDiff_exitCode hl S.gens, verifyOrDiff_report hl S.gens, hm, hn, hx]

theorem Snapshot.added (S : Snapshot env H hit t fmt) (T : Node) (pl : Option Generation) (hashing : Bool)
    (hl : loadedHist T pl = .ok H) (p : RelPath) (hnew : judgeFile env T H hashing p = .new)
    (hvis : ∀ x, x ∈ visiblePaths hit T ↔ x ∈ visiblePaths hit t ∨ x = (p, false))
    (hother : ∀ q, (q, false) ∈ visiblePaths hit t →
      env.H (fmt q) (fileContent T q) = env.H (fmt q) (fileContent t q)) :
    (verifyOrDiff env T {} hashing pl).err = some errNewFiles ∧
    (verifyOrDiff env T {} hashing pl).exitCode = 21 ∧
    (verifyOrDiff env T {} hashing pl).report.mismatch = [] ∧
    (∀ s, s ∈ (verifyOrDiff env T {} hashing pl).report.new ↔ s = posix p) ∧
    (T.NamesDistinct → (verifyOrDiff env T {} hashing pl).report.new = [posix p]) ∧
    (verifyOrDiff env T {} hashing pl).report.missing = [] := by
  have hm := S.mism_nil T hashing fun q hq => ((hvis _).1 hq).elim (fun h => .inr ⟨h, fun _ => hother q h⟩)
    fun h => .inl ((Prod.mk.inj h).1 ▸ hnew)
  have hn := S.news_single T hashing p ((hvis _).2 (.inr rfl)) hnew fun q hq hne =>
    ((hvis _).1 hq).resolve_right fun h => hne (Prod.mk.inj h).1
  have hne := List.ne_nil_of_mem ((hn p).2 rfl)
  have hx := S.missing_nil T fun q d hd => (hvis _).2 (.inl hd)
  have h2 : (verifyOrDiff env T {} hashing pl).report.new = (vNews env T H {} hashing).map posix := by
    rw [verifyOrDiff_report hl S.gens]
  refine ⟨?_, ?_, ?_, fun s => ?_, fun hd => ?_, ?_⟩
  · simp [verifyOrDiff_err hl S.gens, hm, hne, hx]
  · simp [verifyOrDiff_exitCode hl S.gens, hm, hne, hx]
  · simp [verifyOrDiff_report hl S.gens, hm]
  · rw [h2]
    simp only [List.mem_map, hn]
    exact ⟨fun ⟨x, hx, hs⟩ => hx ▸ hs.symm, fun hs => ⟨p, rfl, hs.symm⟩⟩
  · rw [h2, eq_singleton_of_nodup (vNews_nodup env T H {} hashing hd) hn]
    rfl
  · simp [verifyOrDiff_report hl S.gens, hx]

theorem Snapshot.moved (S : Snapshot env H hit t fmt) (T : Node) (pl : Option Generation) (hashing : Bool)
    (hl : loadedHist T pl = .ok H) (hdT : T.NamesDistinct) (a b : RelPath)
    (ha : (a, false) ∈ visiblePaths hit t) (hae : a ∈ expectedPaths H)
    (hnew : judgeFile env T H hashing b = .new)
    (hvis : ∀ x, x ∈ visiblePaths hit T ↔ (x ∈ visiblePaths hit t ∧ x.1 ≠ a) ∨ x = (b, false))
    (hother : ∀ q, (q, false) ∈ visiblePaths hit t → q ≠ a →
      env.H (fmt q) (fileContent T q) = env.H (fmt q) (fileContent t q)) :
    (verifyOrDiff env T {} hashing pl).err = some (if hashing then errNewFiles else errMissingFiles) ∧
    (verifyOrDiff env T {} hashing pl).exitCode = (if hashing then 21 else 10) ∧
    (verifyOrDiff env T {} hashing pl).report.mismatch = [] ∧
    (verifyOrDiff env T {} hashing pl).report.new = [posix b] ∧
    (verifyOrDiff env T {} hashing pl).report.missing = [posix a] := by
  have hm := S.mism_nil T hashing fun q hq => ((hvis _).1 hq).elim
    (fun h => .inr ⟨h.1, fun _ => hother q h.1 h.2⟩) fun h => .inl ((Prod.mk.inj h).1 ▸ hnew)
  have hn : vNews env T H {} hashing = [b] :=
    eq_singleton_of_nodup (vNews_nodup env T H {} hashing hdT)
      (S.news_single T hashing b ((hvis _).2 (.inr rfl)) hnew fun q hq hne =>
        (((hvis _).1 hq).resolve_right fun h => hne (Prod.mk.inj h).1).1)
  have hx : vMissing env T H {} = [a] := by
    rw [S.vMissing_eq]
    refine S.missing_of_moved T a b ha hae (fun hba => ?_) hvis
    -- a file of `t` is never judged new
    have hb := S.judge T hashing b (hba ▸ ha)
    rw [hnew] at hb
    split at hb <;> cases hb
  cases hashing <;>
    simp [verifyOrDiff_err hl S.gens, verifyOrDiff_exitCode hl S.gens, verifyOrDiff_report hl S.gens, hm, hn, hx]

end

theorem Snapshot.of_sameFiles {env : Env} {H : Hist} {hit : RelPath → Bool} {t T0 : Node} {fmt : RelPath → String}
    (S : Snapshot env H hit t fmt) (hsf : SameFilesDh t T0) : Snapshot env H hit T0 fmt where
  gens := S.gens
  matcher := S.matcher
  distinct := hsf.namesDistinct.2 S.distinct
  judge := fun T hashing q hq => by rw [hsf.fileContent q, S.judge T hashing q (hsf.visiblePaths hit ▸ hq)]
  expected := fun p hp => by rw [hsf.visiblePaths]; exact S.expected p hp

namespace Snapshot
variable {env : Env} {H : Hist} {hit : RelPath → Bool} {t : Node} {fmt : RelPath → String}

theorem file_at (S : Snapshot env H hit t fmt) {q : RelPath}
    (hq : (q, false) ∈ visiblePaths hit t) : ∃ nm c, t.at? q = some (.file nm c) :=
  visible_file_at _ _ S.distinct hq

theorem setContent_same (S : Snapshot env H hit t fmt) (p : RelPath) (c' : Bytes)
    (hp : (p, false) ∈ visiblePaths hit t) :
    visiblePaths hit (Node.updateAt (setContent c') t p) = visiblePaths hit t ∧
    fileContent (Node.updateAt (setContent c') t p) p = c' ∧
    ∀ q, (q, false) ∈ visiblePaths hit t → q ≠ p →
      fileContent (Node.updateAt (setContent c') t p) q = fileContent t q := by
  obtain ⟨nm, c, hat⟩ := S.file_at hp
  refine ⟨visiblePaths_setContentAt c' hit p t, (fileContent_updateAt_setContent c' _ _ nm c hat).2,
    fun q hq hne => ?_⟩
  · obtain ⟨nm', c'', hat'⟩ := S.file_at hq
    have := updateAt_at?_other_file (setContent c') (setContent_name c') _ p q nm c nm' c'' hat hat' hne
    unfold fileContent
    rw [this, hat']

/-- THE CONTENT OF A VISIBLE FILE REPLACED, its digest differing in the format compared: verify ends with 11 and
reports exactly that file -/
theorem alteredAt (S : Snapshot env H hit t fmt) (pl : Option Generation) (p : RelPath)
    (c' : Bytes) (hl : loadedHist (Node.updateAt (setContent c') t p) pl = .ok H)
    (hp : (p, false) ∈ visiblePaths hit t) (hdig : env.H (fmt p) c' ≠ env.H (fmt p) (fileContent t p)) :
    (verifyOrDiff env (Node.updateAt (setContent c') t p) {} true pl).err = some errVerifyFailed ∧
    (verifyOrDiff env (Node.updateAt (setContent c') t p) {} true pl).exitCode = 11 ∧
    (verifyOrDiff env (Node.updateAt (setContent c') t p) {} true pl).report.mismatch = [posix p] ∧
    (verifyOrDiff env (Node.updateAt (setContent c') t p) {} true pl).report.new = [] ∧
    (verifyOrDiff env (Node.updateAt (setContent c') t p) {} true pl).report.missing = [] := by
  obtain ⟨hvis, hcont, hother⟩ := S.setContent_same p c' hp
  exact S.altered _ pl hl p hvis hp (by rw [hcont]; exact hdig) fun q hq hne => by rw [hother q hq hne]

/-- … and diff, which does not hash, ends with 0, whatever is at `p` -/
theorem alteredAt_diff (S : Snapshot env H hit t fmt) (pl : Option Generation) (p : RelPath)
    (c' : Bytes) (hl : loadedHist (Node.updateAt (setContent c') t p) pl = .ok H) :
    (verifyOrDiff env (Node.updateAt (setContent c') t p) {} false pl).err = none ∧
    (verifyOrDiff env (Node.updateAt (setContent c') t p) {} false pl).exitCode = 0 ∧
    (verifyOrDiff env (Node.updateAt (setContent c') t p) {} false pl).report.mismatch = [] ∧
    (verifyOrDiff env (Node.updateAt (setContent c') t p) {} false pl).report.new = [] ∧
    (verifyOrDiff env (Node.updateAt (setContent c') t p) {} false pl).report.missing = [] :=
  S.unchanged _ pl false hl (fun x => by rw [visiblePaths_setContentAt]) fun _ _ hf => nomatch hf

/-- A VISIBLE, EXPECTED FILE REMOVED: verify and diff end with 10 and report exactly that file as missing -/
theorem removedAt (S : Snapshot env H hit t fmt) (pl : Option Generation) (hashing : Bool)
    (pa : RelPath) (na : String) (hl : loadedHist (Node.updateAt (removeChild na) t pa) pl = .ok H)
    (hp : (pa ++ [na], false) ∈ visiblePaths hit t) (hpe : pa ++ [na] ∈ expectedPaths H) :
    (verifyOrDiff env (Node.updateAt (removeChild na) t pa) {} hashing pl).err = some errMissingFiles ∧
    (verifyOrDiff env (Node.updateAt (removeChild na) t pa) {} hashing pl).exitCode = 10 ∧
    (verifyOrDiff env (Node.updateAt (removeChild na) t pa) {} hashing pl).report.mismatch = [] ∧
    (verifyOrDiff env (Node.updateAt (removeChild na) t pa) {} hashing pl).report.new = [] ∧
    (verifyOrDiff env (Node.updateAt (removeChild na) t pa) {} hashing pl).report.missing = [posix (pa ++ [na])] := by
  obtain ⟨nm, c, hat⟩ := S.file_at hp
  refine S.removed _ pl hashing hl _ hp hpe (fun x => ?_) fun q hq hne => ?_
  · exact visible_removeAt hit _ S.distinct pa na nm c hat x.1 x.2
  · obtain ⟨nm', c'', hat'⟩ := S.file_at hq
    rw [fileContent_removeAt _ pa na nm c hat q nm' c'' hat' hne]

/-- A FILE ADDED to a visible folder, not ignored, judged new: verify and diff end with 21 and report exactly it -/
theorem addedAt (S : Snapshot env H hit t fmt) (pl : Option Generation) (hashing : Bool)
    (pb : RelPath) (nb : String) (c : Bytes) (hl : loadedHist (Node.updateAt (addChild (.file nb c)) t pb) pl = .ok H)
    (hdir : t.isDir = true) (hpb : pb = [] ∨ (pb, true) ∈ visiblePaths hit t)
    (hfresh : t.at? (pb ++ [nb]) = none) (hhit : hit (pb ++ [nb]) = false)
    (hnew : judgeFile env (Node.updateAt (addChild (.file nb c)) t pb) H hashing (pb ++ [nb]) = .new) :
    (verifyOrDiff env (Node.updateAt (addChild (.file nb c)) t pb) {} hashing pl).err = some errNewFiles ∧
    (verifyOrDiff env (Node.updateAt (addChild (.file nb c)) t pb) {} hashing pl).exitCode = 21 ∧
    (verifyOrDiff env (Node.updateAt (addChild (.file nb c)) t pb) {} hashing pl).report.mismatch = [] ∧
    (verifyOrDiff env (Node.updateAt (addChild (.file nb c)) t pb) {} hashing pl).report.new = [posix (pb ++ [nb])] ∧
    (verifyOrDiff env (Node.updateAt (addChild (.file nb c)) t pb) {} hashing pl).report.missing = [] := by
  have hHas : Has t pb true := hpb.elim (fun h0 => h0 ▸ ⟨_, Node.at?_nil _, hdir⟩) fun hv =>
    MhlProps.C02.visible_on_disk _ _ S.distinct _ true hv
  obtain ⟨h1, h2, h3, -, h5, h6⟩ := S.added _ pl hashing hl _ hnew (by
      rintro ⟨q, d⟩
      rw [visible_addAt hit _ S.distinct pb nb c hHas hfresh q d]
      exact or_congr Iff.rfl ⟨fun ⟨h1, h2, _⟩ => by rw [h1, h2], fun h1 => by
        obtain ⟨rfl, rfl⟩ := Prod.mk.inj h1
        exact ⟨rfl, rfl, unmatched_below_visible hit t pb nb hpb hhit⟩⟩) fun q hq => by
    obtain ⟨nm, c', hat⟩ := S.file_at hq
    rw [fileContent_addAt _ pb nb c hHas hfresh q nm c' hat]
  exact ⟨h1, h2, h3, h5 (namesDistinct_addAt nb c pb t S.distinct hfresh), h6⟩

end Snapshot

end MhlModel
