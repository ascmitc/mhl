/- Generation file names: the zero-padded number (`pad4Chars`) and the digit loop that reads it back (`decVal`), the
parser on a name that starts with a block of at least four digits;
`latestGenerationNumber` of a list with one more element (C06). -/
import MhlModel.History
import MhlProps.Proofs.CodecLemmas

namespace MhlModel
open Codec

/-! ### decimal digit characters -/

theorem digitChar_toNat : ∀ d, d < 10 → (Char.ofNat (48 + d)).toNat - 48 = d := by decide
theorem digitChar_isDigit : ∀ d, d < 10 → isDigit (Char.ofNat (48 + d)) = true := by decide

/-- the value that `parseGenStem` computes from a digit string -/
def decVal (cs : List Char) : Nat := cs.foldl (fun r c => r * 10 + (c.toNat - 48)) 0

theorem foldl_digitChars (ds : List Nat) (h : ∀ d ∈ ds, d < 10) (init : Nat) :
    (ds.map fun d => Char.ofNat (48 + d)).foldl (fun r c => r * 10 + (c.toNat - 48)) init
      = ds.foldl (fun r d => r * 10 + d) init := by
  induction ds generalizing init with
  | nil => rfl
  | cons d ds ih =>
    simp only [List.map_cons, List.foldl_cons]
    rw [digitChar_toNat d (h d (by simp))]
    exact ih (fun x hx => h x (by simp [hx])) _

/-- `f"{index:04d}"` is the decimal numeral of width 4 or more: the padding character is the digit 0 -/
theorem pad4Chars_eq (n : Nat) : pad4Chars n = (rjust 4 0 (digits 10 n)).map fun d => Char.ofNat (48 + d) :=
  rjust_map _ 4 0 _

theorem decVal_pad4Chars (n : Nat) : decVal (pad4Chars n) = n := by
  rw [pad4Chars_eq, decVal, foldl_digitChars _ (rjust_digits_lt 10 4 n (by omega))]
  exact (decodeDigits_rjust 10 4 _).trans (decode_digits 10 (by omega) n)

theorem pad4Chars_isDigit (n : Nat) : ∀ c ∈ pad4Chars n, isDigit c = true := by
  intro c hc
  rw [pad4Chars_eq] at hc
  obtain ⟨d, hd, rfl⟩ := List.mem_map.1 hc
  exact digitChar_isDigit d (rjust_digits_lt 10 4 n (by omega) d hd)

theorem pad4Chars_length (n : Nat) : 4 ≤ (pad4Chars n).length := by
  unfold pad4Chars rjust
  simp only [List.length_append, List.length_replicate]
  omega

/-! ### parsing a stem / a file name that starts with a block of at least four digits -/

theorem extChars_eq : extChars = ['.', 'm', 'h', 'l'] := by decide

theorem parseGenStem_block (ds tail : List Char) (hd : ∀ c ∈ ds, isDigit c = true) (hlen : 4 ≤ ds.length) :
    parseGenStem (ds ++ '_' :: tail)
      = if tail.isEmpty || tail.contains '\n' then none else some (decVal ds) := by
  have hu : ¬ isDigit '_' = true := by decide
  unfold parseGenStem
  simp only [List.takeWhile_append_of_pos hd, List.dropWhile_append_of_pos hd, List.takeWhile_cons_of_neg hu,
    List.dropWhile_cons_of_neg hu, List.append_nil]
  rw [if_neg (by omega)]
  rfl

theorem parseGenChars_stem (c : Char) (body : List Char) (hc : isDigit c = true) :
    parseGenChars (c :: body ++ extChars) = parseGenStem (c :: body) := by
  have hne : c ≠ '.' := by
    intro h; subst h; revert hc; decide
  unfold parseGenChars
  have hlen : ((c :: body) ++ extChars).length - extChars.length = (c :: body).length := by
    simp only [List.length_append]; omega
  rw [hlen, List.drop_left, List.take_left, if_neg]
  intro h
  simp only [Bool.or_eq_true, Bool.and_eq_true, decide_eq_true_eq, bne_self_eq_false, Bool.false_eq_true,
    or_false] at h
  rcases h with ⟨_, h⟩ | h
  · cases body with
    | nil => simp [extChars_eq] at h
    | cons b bs => simp at h; exact hne h.1
  · simp only [List.length_append] at h; omega

/-! ### `latestGenerationNumber` -/

theorem latestGenerationNumber_append_one (gens : List LGen) (g : LGen) :
    latestGenerationNumber (gens ++ [g])
      = if g.number != 0 then g.number else latestGenerationNumber gens := by
  simp [latestGenerationNumber, List.foldl_append]

end MhlModel
