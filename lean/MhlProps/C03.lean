/-
C03 — Verification reports every discrepancy and never a false one.

About `MhlModel.judgeFile`, `verifyExit`, `diffExit`, `createExit`, `verifyOrDiff` (`verify`, `diff`) of
MhlModel/Commands.lean.  Property theorems, and three helpers that other modules call (`exitCode_of_err`,
`hitAbove_false_of_visible`, `clean_run`: Proofs/SnapshotLemmas.lean, Proofs/RenameLemmas.lean, C03nested, C18e2e); the
other helper lemmas are in MhlProps/Proofs/VerifyLemmas.lean, which says how a run ends given its three path lists
(`verifyOrDiff_err`, `verifyOrDiff_exitCode`, `verifyOrDiff_report`) and names the pieces of `verifyOrDiff`:

  vHit env rootHist o          the matcher of the run  (= env.hit (setPatterns (latestIgnore …) o.ignoreCli o.ignoreFile))
  vFound / vFiles              the visited paths / the visited files  (from `visiblePaths (vHit …) t`)
  vConsidered                  the visited files that are judged (all, or the one asked for with -sf)
  vNews / vMism / vMissing     the three lists of PATHS whose `posix` texts make up the report

The reports are lists of POSIX texts; `posix` is not injective on arbitrary component lists (["a/b"] and ["a","b"]
have the same text), so "path p is (not) reported" is stated on the path lists `vNews`/`vMism`/`vMissing`, of which
the report is the image under `posix` (`report_shape`).
-/
import MhlProps.Proofs.LoadLemmas
import MhlProps.Proofs.SealLemmas
import MhlProps.Proofs.VerifyLemmas

namespace MhlProps.C03
open MhlModel

/-! ### 1. the exit codes -/

/-- the statement of `exit_codes_table` (Proofs/VerifyLemmas.lean), under the name C03 is claimed by -/
theorem exit_codes :
    errMissingFiles = .exit 10 ∧ errVerifyFailed = .exit 11 ∧ errDirVerifyFailed = .exit 12 ∧
    errSingleFileNotFound = .exit 20 ∧ errNewFiles = .exit 21 ∧ errNoHistory = .exit 30 ∧
    errModified = .exit 31 ∧ errNoChain = .exit 32 ∧ errMissingManifest = .exit 33 := exit_codes_table

theorem exit_codes_distinct :
    [errMissingFiles, errVerifyFailed, errDirVerifyFailed, errSingleFileNotFound, errNewFiles, errNoHistory,
      errModified, errNoChain, errMissingManifest].Pairwise (· ≠ ·) := by
  rw [errMissingFiles_eq, errVerifyFailed_eq, errDirVerifyFailed_eq, errSingleFileNotFound_eq, errNewFiles_eq,
    errNoHistory_eq, errModified_eq, errNoChain_eq, errMissingManifest_eq]
  decide

/-- as process exit statuses: none of them is 0 (success) or 1 (uncaught exception) -/
theorem exit_codes_proper :
    [errMissingFiles, errVerifyFailed, errDirVerifyFailed, errSingleFileNotFound, errNewFiles, errNoHistory,
      errModified, errNoChain, errMissingManifest].map (fun e => ({ err := some e } : Outcome).exitCode) =
      [10, 11, 12, 20, 21, 30, 31, 32, 33] := by
  rw [errMissingFiles_eq, errVerifyFailed_eq, errDirVerifyFailed_eq, errSingleFileNotFound_eq, errNewFiles_eq,
    errNoHistory_eq, errModified_eq, errNoChain_eq, errMissingManifest_eq]
  rfl

/-! ### 2. how the commands end: complete characterisation -/

/-- verify: mismatch (11) over new files (21) over single file not found (20) over missing files (10) -/
theorem verifyExit_spec (mism news : List String) (asked found : Bool) (missing : List RelPath) :
    (verifyExit mism news asked found missing = none ↔
      mism = [] ∧ news = [] ∧ (asked = true → found = true) ∧ missing = []) ∧
    (verifyExit mism news asked found missing = some errVerifyFailed ↔ mism ≠ []) ∧
    (verifyExit mism news asked found missing = some errNewFiles ↔ mism = [] ∧ news ≠ []) ∧
    (verifyExit mism news asked found missing = some errSingleFileNotFound ↔
      mism = [] ∧ news = [] ∧ (asked = true ∧ found = false)) ∧
    (verifyExit mism news asked found missing = some errMissingFiles ↔
      mism = [] ∧ news = [] ∧ ¬ (asked = true ∧ found = false) ∧ missing ≠ []) := by
  unfold verifyExit
  rw [errVerifyFailed_eq, errNewFiles_eq, errSingleFileNotFound_eq, errMissingFiles_eq]
  simp only [Bool.not_eq_true', List.isEmpty_eq_false_iff, Bool.and_eq_true]
  by_cases h1 : mism = []
  · by_cases h2 : news = []
    · by_cases h3 : asked = true ∧ found = false
      · simp [h1, h2, h3]
      · have h3' : asked = true → found = true := by
          intro ha
          cases found with
          | true => rfl
          | false => exact absurd ⟨ha, rfl⟩ h3
        by_cases h4 : missing = []
        · simp [h1, h2, h3, h4]
          exact h3'
        · simp [h1, h2, h3, h4]
    · simp [h1, h2]
  · simp [h1]

/-- diff: missing files (10) over new files (21) -/
theorem diffExit_spec (news : List String) (missing : List RelPath) :
    (diffExit news missing = none ↔ news = [] ∧ missing = []) ∧
    (diffExit news missing = some errMissingFiles ↔ missing ≠ []) ∧
    (diffExit news missing = some errNewFiles ↔ missing = [] ∧ news ≠ []) := by
  unfold diffExit
  rw [errNewFiles_eq, errMissingFiles_eq]
  cases news <;> cases missing <;> simp

/-- create (folder mode): failed verification (11) over missing files (10) over a vanished nested history (30) -/
theorem createExit_spec (failed : Nat) (missing missingHist : List RelPath) :
    (createExit failed missing missingHist = none ↔ failed = 0 ∧ missing = [] ∧ missingHist = []) ∧
    (createExit failed missing missingHist = some errVerifyFailed ↔ 0 < failed) ∧
    (createExit failed missing missingHist = some errMissingFiles ↔ failed = 0 ∧ missing ≠ []) ∧
    (createExit failed missing missingHist = some errNoHistory ↔ failed = 0 ∧ missing = [] ∧ missingHist ≠ []) := by
  unfold createExit
  rw [errVerifyFailed_eq, errNoHistory_eq, errMissingFiles_eq]
  cases failed <;> cases missing <;> cases missingHist <;> simp

theorem createExit_range (failed : Nat) (missing missingHist : List RelPath) :
    createExit failed missing missingHist ∈
      [none, some errVerifyFailed, some errMissingFiles, some errNoHistory] := by
  unfold createExit
  cases failed <;> cases missing <;> cases missingHist <;> simp

/-- create (folder mode) with a failed verification ends with 11 whatever else is wrong; with files missing and no
failure, 10 -/
theorem create_failed_11 (failed : Nat) (missing missingHist : List RelPath) (h : 0 < failed) :
    createExit failed missing missingHist = some (.exit 11) := by
  rw [← errVerifyFailed_eq]; exact (createExit_spec _ _ _).2.1.2 h

theorem create_missing_10 (missing missingHist : List RelPath) (h : missing ≠ []) :
    createExit 0 missing missingHist = some (.exit 10) := by
  rw [← errMissingFiles_eq]; exact (createExit_spec _ _ _).2.2.1.2 ⟨rfl, h⟩

theorem exitCode_of_err (out : Outcome) (n : Nat) (h : out.err = some (.exit n)) : out.exitCode = n := by
  unfold Outcome.exitCode; rw [h]

/-! ### 3. the per-file verdict -/

/-- `judgeFile` for file `p`, with `h` the history `p` is routed to, `hrel` its path in there, and `name` the name it
was recorded under (renames followed back): new ⇔ no original entry for that name; mismatch ⇔ hashing and the
digest of the CURRENT content in the original entry's format differs from the original digest; ok otherwise. -/
theorem judgeFile_spec (env : Env) (t : Node) (rootHist : Hist) (hashing : Bool) (p : RelPath) :
    let h := (route rootHist p).1
    let hrel := (route rootHist p).2
    let name := recordedName h.gens (posix hrel)
    (judgeFile env t rootHist hashing p = .new ↔ findOriginal h.gens name = none) ∧
    (judgeFile env t rootHist hashing p = .mismatch ↔
      hashing = true ∧ ∃ e, findOriginal h.gens name = some e ∧ env.H e.fmt (fileContent t p) ≠ e.digest) ∧
    (judgeFile env t rootHist hashing p = .ok ↔
      ∃ e, findOriginal h.gens name = some e ∧ (hashing = false ∨ env.H e.fmt (fileContent t p) = e.digest)) := by
  intro h hrel name
  cases hf : findOriginal h.gens name with
  | none => simp [judgeFile_of_none rfl rfl hf]
  | some e =>
    rw [judgeFile_of_original rfl rfl hf]
    cases hashing
    · simp
    · by_cases hd : env.H e.fmt (fileContent t p) = e.digest <;> simp [hd]

theorem judgeFile_diff_never_mismatch (env : Env) (t : Node) (rootHist : Hist) (p : RelPath) :
    judgeFile env t rootHist false p ≠ .mismatch := by
  intro h
  have := ((judgeFile_spec env t rootHist false p).2.1.1 h).1
  exact Bool.noConfusion this

/-- new / not new does not depend on hashing: verify and diff agree on which files are new -/
theorem judgeFile_new_indep (env : Env) (t : Node) (rootHist : Hist) (p : RelPath) (a b : Bool) :
    judgeFile env t rootHist a p = .new ↔ judgeFile env t rootHist b p = .new := by
  rw [(judgeFile_spec env t rootHist a p).1, (judgeFile_spec env t rootHist b p).1]

/-! ### 4. `verifyOrDiff` on a loaded, non-empty history -/

theorem hitAbove_false_of_visible (hit : RelPath → Bool) (t : Node) (p : RelPath) (d : Bool)
    (hv : (p, d) ∈ visiblePaths hit t) : hitAbove hit p = false := by
  rw [hitAbove_false_iff]
  intro i hi
  exact ((MhlProps.C02.visible_iff hit t p d).1 hv).2 (i + 1) (by omega) (by omega)

section run
variable (env : Env) (t : Node) (o : VerifyOpts) (hashing : Bool) (rootHist : Hist)

theorem vHit_def : vHit env rootHist o = env.hit (setPatterns (latestIgnore rootHist.gens) o.ignoreCli o.ignoreFile) :=
  rfl

theorem report_shape (hl : loadHistory t = .ok rootHist) (hg : rootHist.gens ≠ []) :
    (verifyOrDiff env t o hashing none).report.mismatch = (vMism env t rootHist o hashing).map posix ∧
    (verifyOrDiff env t o hashing none).report.new = (vNews env t rootHist o hashing).map posix ∧
    (verifyOrDiff env t o hashing none).report.missing = (vMissing env t rootHist o).map posix ∧
    (verifyOrDiff env t o hashing none).report.renamed = [] ∧
    (verifyOrDiff env t o hashing none).report.dirMismatch = [] := by
  rw [verifyOrDiff_report (pl := none) hl hg]
  exact ⟨rfl, rfl, rfl, rfl, rfl⟩

theorem mism_iff (p : RelPath) :
    p ∈ vMism env t rootHist o hashing ↔
      (p, false) ∈ visiblePaths (vHit env rootHist o) t ∧ (o.singleFile = none ∨ o.singleFile = some p) ∧
        judgeFile env t rootHist hashing p = .mismatch := by
  rw [mem_vMism, mem_vConsidered, and_assoc]

theorem news_iff (p : RelPath) :
    p ∈ vNews env t rootHist o hashing ↔
      (p, false) ∈ visiblePaths (vHit env rootHist o) t ∧ (o.singleFile = none ∨ o.singleFile = some p) ∧
        judgeFile env t rootHist hashing p = .new := by
  rw [mem_vNews, mem_vConsidered, and_assoc]

theorem missing_iff (p : RelPath) :
    p ∈ vMissing env t rootHist o ↔
      p ∈ expectedPaths rootHist ∧ (∀ d, (p, d) ∉ visiblePaths (vHit env rootHist o) t) ∧
        hitAbove (vHit env rootHist o) p = false := by
  rw [mem_vMissing, mem_vFound]
  simp

/-- **whatever the patterns (negations included), nothing that is on disk is ever reported missing**: a missing path
is not an entry of the tree.  (The completeness check tests a not-found path and every folder above it against the
patterns, as the traversal does; matching whole paths only would report a file below an ignored folder that a negated
pattern re-includes as missing although it is there: DESIGN.md §8, D16.) -/
theorem missing_not_on_disk (p : RelPath) (hp : p ∈ vMissing env t rootHist o) (d : Bool) :
    (p, d) ∉ Node.paths [] t := by
  obtain ⟨-, hnv, hh⟩ := (missing_iff env t o rootHist p).1 hp
  intro hin
  apply hnv d
  rw [MhlProps.C02.visible_iff]
  refine ⟨hin, ?_⟩
  intro k hk hkl
  have := (hitAbove_false_iff _ p).1 hh (k - 1) (by omega)
  have h1 : k - 1 + 1 = k := by omega
  rwa [h1] at this

/-! #### no false report -/

theorem reported_mismatch_genuine (hl : loadHistory t = .ok rootHist) (hg : rootHist.gens ≠ [])
    (s : String) (hs : s ∈ (verifyOrDiff env t o hashing none).report.mismatch) :
    ∃ p, s = posix p ∧ (p, false) ∈ visiblePaths (vHit env rootHist o) t ∧
      (o.singleFile = none ∨ o.singleFile = some p) ∧ judgeFile env t rootHist hashing p = .mismatch := by
  rw [(report_shape env t o hashing rootHist hl hg).1] at hs
  obtain ⟨p, hp, rfl⟩ := List.mem_map.1 hs
  exact ⟨p, rfl, (mism_iff env t o hashing rootHist p).1 hp⟩

theorem reported_new_genuine (hl : loadHistory t = .ok rootHist) (hg : rootHist.gens ≠ [])
    (s : String) (hs : s ∈ (verifyOrDiff env t o hashing none).report.new) :
    ∃ p, s = posix p ∧ (p, false) ∈ visiblePaths (vHit env rootHist o) t ∧
      (o.singleFile = none ∨ o.singleFile = some p) ∧ judgeFile env t rootHist hashing p = .new := by
  rw [(report_shape env t o hashing rootHist hl hg).2.1] at hs
  obtain ⟨p, hp, rfl⟩ := List.mem_map.1 hs
  exact ⟨p, rfl, (news_iff env t o hashing rootHist p).1 hp⟩

theorem reported_missing_genuine (hl : loadHistory t = .ok rootHist) (hg : rootHist.gens ≠ [])
    (s : String) (hs : s ∈ (verifyOrDiff env t o hashing none).report.missing) :
    ∃ p, s = posix p ∧ p ∈ expectedPaths rootHist ∧ (∀ d, (p, d) ∉ visiblePaths (vHit env rootHist o) t) ∧
      hitAbove (vHit env rootHist o) p = false := by
  rw [(report_shape env t o hashing rootHist hl hg).2.2.1] at hs
  obtain ⟨p, hp, rfl⟩ := List.mem_map.1 hs
  exact ⟨p, rfl, (missing_iff env t o rootHist p).1 hp⟩

theorem diff_reports_no_mismatch (hl : loadHistory t = .ok rootHist) (hg : rootHist.gens ≠ []) :
    (verifyOrDiff env t o false none).report.mismatch = [] := by
  rw [(report_shape env t o false rootHist hl hg).1]
  have : vMism env t rootHist o false = [] := by
    apply List.eq_nil_iff_forall_not_mem.2
    intro p hp
    exact judgeFile_diff_never_mismatch env t rootHist p ((mism_iff env t o false rootHist p).1 hp).2.2
  rw [this]; rfl

/-! #### every discrepancy is reported -/

theorem mismatch_complete (hl : loadHistory t = .ok rootHist) (hg : rootHist.gens ≠ []) (p : RelPath)
    (hv : (p, false) ∈ visiblePaths (vHit env rootHist o) t) (hsf : o.singleFile = none ∨ o.singleFile = some p)
    (hj : judgeFile env t rootHist hashing p = .mismatch) :
    p ∈ vMism env t rootHist o hashing ∧
    posix p ∈ (verifyOrDiff env t o hashing none).report.mismatch ∧
    (verifyOrDiff env t o hashing none).err = some errVerifyFailed ∧
    (verifyOrDiff env t o hashing none).exitCode = 11 := by
  have hm : p ∈ vMism env t rootHist o hashing := (mism_iff env t o hashing rootHist p).2 ⟨hv, hsf, hj⟩
  have hne := List.ne_nil_of_mem hm
  obtain rfl : hashing = true := ((judgeFile_spec env t rootHist hashing p).2.1.1 hj).1
  refine ⟨hm, ?_, ?_, ?_⟩
  · rw [(report_shape env t o true rootHist hl hg).1]
    exact List.mem_map_of_mem hm
  · rw [verifyOrDiff_err (pl := none) hl hg, if_pos rfl, if_pos hne]
  · rw [verifyOrDiff_exitCode (pl := none) hl hg, if_pos rfl, if_pos hne]

/-- a visible file (the one asked for, if one is) judged new is reported; verify then ends with 21 unless a mismatch
is reported (then 11, by `mismatch_complete`); diff ends with 21 unless something is missing (then 10) -/
theorem new_complete (hl : loadHistory t = .ok rootHist) (hg : rootHist.gens ≠ []) (p : RelPath)
    (hv : (p, false) ∈ visiblePaths (vHit env rootHist o) t) (hsf : o.singleFile = none ∨ o.singleFile = some p)
    (hj : judgeFile env t rootHist hashing p = .new) :
    p ∈ vNews env t rootHist o hashing ∧
    posix p ∈ (verifyOrDiff env t o hashing none).report.new ∧
    (hashing = true → vMism env t rootHist o hashing = [] →
      (verifyOrDiff env t o hashing none).err = some errNewFiles ∧
      (verifyOrDiff env t o hashing none).exitCode = 21) ∧
    (hashing = false → vMissing env t rootHist o = [] →
      (verifyOrDiff env t o hashing none).err = some errNewFiles ∧
      (verifyOrDiff env t o hashing none).exitCode = 21) ∧
    (verifyOrDiff env t o hashing none).exitCode ≠ 0 := by
  have hm : p ∈ vNews env t rootHist o hashing := (news_iff env t o hashing rootHist p).2 ⟨hv, hsf, hj⟩
  have hne := List.ne_nil_of_mem hm
  have he := verifyOrDiff_err (env := env) (o := o) (hashing := hashing) (pl := none) hl hg
  have hc := verifyOrDiff_exitCode (env := env) (o := o) (hashing := hashing) (pl := none) hl hg
  refine ⟨hm, ?_, ?_, ?_, ?_⟩
  · rw [(report_shape env t o hashing rootHist hl hg).2.1]
    exact List.mem_map_of_mem hm
  · rintro rfl hmm
    rw [he, hc, if_pos rfl, if_pos rfl, if_neg (absurd hmm), if_neg (absurd hmm), if_pos hne, if_pos hne]
    exact ⟨rfl, rfl⟩
  · rintro rfl hmm
    rw [he, hc, if_neg Bool.false_ne_true, if_neg Bool.false_ne_true, if_neg (absurd hmm), if_neg (absurd hmm),
      if_pos hne, if_pos hne]
    exact ⟨rfl, rfl⟩
  · rw [hc]
    simp only [if_pos hne]
    split <;> split <;> decide

/-- an expected path that was not visited and is not ignored is reported missing, the exit code is not 0; it is 10
for diff, and for verify unless a mismatch / a new file / a single file not found takes precedence -/
theorem missing_complete (hl : loadHistory t = .ok rootHist) (hg : rootHist.gens ≠ []) (p : RelPath)
    (he : p ∈ expectedPaths rootHist) (hnv : ∀ d, (p, d) ∉ visiblePaths (vHit env rootHist o) t)
    (hh : hitAbove (vHit env rootHist o) p = false) :
    p ∈ vMissing env t rootHist o ∧
    posix p ∈ (verifyOrDiff env t o hashing none).report.missing ∧
    (verifyOrDiff env t o hashing none).exitCode ≠ 0 ∧
    (hashing = false → (verifyOrDiff env t o hashing none).exitCode = 10) ∧
    (hashing = true → vMism env t rootHist o hashing = [] → vNews env t rootHist o hashing = [] →
      ¬ (o.singleFile.isSome = true ∧ vFoundSingle env t rootHist o hashing = false) →
      (verifyOrDiff env t o hashing none).exitCode = 10) := by
  have hm : p ∈ vMissing env t rootHist o := (missing_iff env t o rootHist p).2 ⟨he, hnv, hh⟩
  have hne := List.ne_nil_of_mem hm
  have hc := verifyOrDiff_exitCode (env := env) (o := o) (hashing := hashing) (pl := none) hl hg
  refine ⟨hm, ?_, ?_, ?_, ?_⟩
  · rw [(report_shape env t o hashing rootHist hl hg).2.2.1]
    exact List.mem_map_of_mem hm
  · rw [hc]
    cases hashing
    · rw [if_neg Bool.false_ne_true, if_pos hne]
      decide
    · rw [if_pos rfl]
      repeat' split
      all_goals decide
  · rintro rfl
    rw [hc, if_neg Bool.false_ne_true, if_pos hne]
  · rintro rfl hmm hnn hsf
    rw [hc, if_pos rfl, if_neg (absurd hmm), if_neg (absurd hnn), if_neg hsf, if_pos hne]

/-- nothing to report ⇒ exit 0, against the history on disk or a packing list -/
theorem clean_run (pl : Option Generation) (hl : loadedHist t pl = .ok rootHist) (hg : rootHist.gens ≠ [])
    (hsf : o.singleFile = none)
    (hok : ∀ p, (p, false) ∈ visiblePaths (vHit env rootHist o) t →
      judgeFile env t rootHist hashing p ≠ .mismatch ∧ judgeFile env t rootHist hashing p ≠ .new)
    (hexp : ∀ p ∈ expectedPaths rootHist,
      (∃ d, (p, d) ∈ visiblePaths (vHit env rootHist o) t) ∨ hitAbove (vHit env rootHist o) p = true) :
    (verifyOrDiff env t o hashing pl).err = none ∧
    (verifyOrDiff env t o hashing pl).exitCode = 0 ∧
    (verifyOrDiff env t o hashing pl).report.mismatch = [] ∧
    (verifyOrDiff env t o hashing pl).report.new = [] ∧
    (verifyOrDiff env t o hashing pl).report.missing = [] := by
  have h1 : vMism env t rootHist o hashing = [] := by
    apply List.eq_nil_iff_forall_not_mem.2
    intro p hp
    have := (mism_iff env t o hashing rootHist p).1 hp
    exact (hok p this.1).1 this.2.2
  have h2 : vNews env t rootHist o hashing = [] := by
    apply List.eq_nil_iff_forall_not_mem.2
    intro p hp
    have := (news_iff env t o hashing rootHist p).1 hp
    exact (hok p this.1).2 this.2.2
  have h3 : vMissing env t rootHist o = [] := by
    apply List.eq_nil_iff_forall_not_mem.2
    intro p hp
    obtain ⟨he, hnv, hh⟩ := (missing_iff env t o rootHist p).1 hp
    rcases hexp p he with ⟨d, hd⟩ | hi
    · exact hnv d hd
    · rw [hh] at hi; exact Bool.noConfusion hi
  simp [verifyOrDiff_err hl hg, verifyOrDiff_exitCode hl hg, verifyOrDiff_report hl hg, h1, h2, h3, hsf]

/-- `clean_run` for the history on disk -/
theorem clean_exit_zero (hl : loadHistory t = .ok rootHist) (hg : rootHist.gens ≠ [])
    (hsf : o.singleFile = none)
    (hok : ∀ p, (p, false) ∈ visiblePaths (vHit env rootHist o) t →
      judgeFile env t rootHist hashing p ≠ .mismatch ∧ judgeFile env t rootHist hashing p ≠ .new)
    (hexp : ∀ p ∈ expectedPaths rootHist,
      (∃ d, (p, d) ∈ visiblePaths (vHit env rootHist o) t) ∨ hitAbove (vHit env rootHist o) p = true) :
    (verifyOrDiff env t o hashing none).err = none ∧
    (verifyOrDiff env t o hashing none).exitCode = 0 ∧
    (verifyOrDiff env t o hashing none).report.mismatch = [] ∧
    (verifyOrDiff env t o hashing none).report.new = [] ∧
    (verifyOrDiff env t o hashing none).report.missing = [] :=
  clean_run env t o hashing rootHist none hl hg hsf hok hexp

/-! ### 5. ignored paths never cause a failure -/

/-- an ignored path is not among the missing ones; a path with an ignored prefix (itself included) is neither among
the new nor among the mismatching ones.  Since the report is the `posix` image of these lists (`report_shape`), no
reported text stems from an ignored path. -/
theorem ignored_irrelevant (p : RelPath) :
    (hitAbove (vHit env rootHist o) p = true → p ∉ vMissing env t rootHist o) ∧
    (∀ k, 0 < k → k ≤ p.length → vHit env rootHist o (p.take k) = true →
      p ∉ vNews env t rootHist o hashing ∧ p ∉ vMism env t rootHist o hashing) := by
  constructor
  · intro hh hm
    have := ((missing_iff env t o rootHist p).1 hm).2.2
    rw [hh] at this; exact Bool.noConfusion this
  · intro k hk0 hk hh
    have hnv := MhlProps.C02.ignored_nowhere (vHit env rootHist o) t p false k hk0 hk hh
    exact ⟨fun hm => hnv ((news_iff env t o hashing rootHist p).1 hm).1,
           fun hm => hnv ((mism_iff env t o hashing rootHist p).1 hm).1⟩

/-- in terms of the report: every reported text has a pre-image no part of which is ignored -/
theorem ignored_irrelevant_report (hl : loadHistory t = .ok rootHist) (hg : rootHist.gens ≠ []) (s : String) :
    (s ∈ (verifyOrDiff env t o hashing none).report.missing →
      ∃ p, s = posix p ∧ hitAbove (vHit env rootHist o) p = false) ∧
    (s ∈ (verifyOrDiff env t o hashing none).report.new ∨ s ∈ (verifyOrDiff env t o hashing none).report.mismatch →
      ∃ p, s = posix p ∧ ∀ k, 0 < k → k ≤ p.length → vHit env rootHist o (p.take k) = false) := by
  constructor
  · intro hs
    obtain ⟨p, rfl, -, -, hh⟩ := reported_missing_genuine env t o hashing rootHist hl hg s hs
    exact ⟨p, rfl, hh⟩
  · rintro (hs | hs)
    · obtain ⟨p, rfl, hv, -, -⟩ := reported_new_genuine env t o hashing rootHist hl hg s hs
      exact ⟨p, rfl, ((MhlProps.C02.visible_iff _ t p false).1 hv).2⟩
    · obtain ⟨p, rfl, hv, -, -⟩ := reported_mismatch_genuine env t o hashing rootHist hl hg s hs
      exact ⟨p, rfl, ((MhlProps.C02.visible_iff _ t p false).1 hv).2⟩

/-- `missingAfter` keeps exactly the not-found paths that the matcher does not hit (themselves or in a folder above):
whether an ignored path is on disk or not makes no difference to what is missing (the statement of `mem_missingAfter`,
Proofs/VerifyLemmas.lean) -/
theorem missingAfter_spec (hit : RelPath → Bool) (l : List RelPath) (p : RelPath) :
    p ∈ missingAfter hit l ↔ p ∈ l ∧ hitAbove hit p = false := mem_missingAfter hit l p

end run

/-! ### 6. the two commands `verify` and `diff` -/

/-- `verify` is the hashing run; `diff` the non-hashing run that ignores `-sf` -/
theorem verify_def (env : Env) (t : Node) (o : VerifyOpts) : verify env t o = verifyOrDiff env t o true none := rfl

theorem diff_def (env : Env) (t : Node) (o : VerifyOpts) :
    diff env t o = verifyOrDiff env t { o with singleFile := none } false none := rfl

/-- an altered recorded file: verify ends with 11 and names it -/
theorem verify_altered (env : Env) (t : Node) (o : VerifyOpts) (rootHist : Hist)
    (hl : loadHistory t = .ok rootHist) (hg : rootHist.gens ≠ []) (p : RelPath)
    (hv : (p, false) ∈ visiblePaths (vHit env rootHist o) t) (hsf : o.singleFile = none ∨ o.singleFile = some p)
    (e : Entry)
    (ho : findOriginal (route rootHist p).1.gens
      (recordedName (route rootHist p).1.gens (posix (route rootHist p).2)) = some e)
    (hd : env.H e.fmt (fileContent t p) ≠ e.digest) :
    (verify env t o).exitCode = 11 ∧ posix p ∈ (verify env t o).report.mismatch := by
  have hj : judgeFile env t rootHist true p = .mismatch :=
    (judgeFile_spec env t rootHist true p).2.1.2 ⟨rfl, e, ho, hd⟩
  have := mismatch_complete env t o true rootHist hl hg p hv hsf hj
  exact ⟨this.2.2.2, this.2.1⟩

/-- an unrecorded file: diff ends with 21 (10 if something is missing as well) and names it -/
theorem diff_unrecorded (env : Env) (t : Node) (o : VerifyOpts) (rootHist : Hist)
    (hl : loadHistory t = .ok rootHist) (hg : rootHist.gens ≠ []) (p : RelPath)
    (hv : (p, false) ∈ visiblePaths (vHit env rootHist o) t)
    (ho : findOriginal (route rootHist p).1.gens
      (recordedName (route rootHist p).1.gens (posix (route rootHist p).2)) = none) :
    posix p ∈ (diff env t o).report.new ∧ (diff env t o).exitCode ≠ 0 ∧
    (vMissing env t rootHist o = [] → (diff env t o).exitCode = 21) := by
  have hj : judgeFile env t rootHist false p = .new := (judgeFile_spec env t rootHist false p).1.2 ho
  have := new_complete env t { o with singleFile := none } false rootHist hl hg p hv (Or.inl rfl) hj
  exact ⟨this.2.1, this.2.2.2.2, fun hm => (this.2.2.2.1 rfl hm).2⟩

/-- a removed recorded entry: diff ends with 10 and names it -/
theorem diff_removed (env : Env) (t : Node) (o : VerifyOpts) (rootHist : Hist)
    (hl : loadHistory t = .ok rootHist) (hg : rootHist.gens ≠ []) (p : RelPath)
    (he : p ∈ expectedPaths rootHist) (hnv : ∀ d, (p, d) ∉ visiblePaths (vHit env rootHist o) t)
    (hh : hitAbove (vHit env rootHist o) p = false) :
    posix p ∈ (diff env t o).report.missing ∧ (diff env t o).exitCode = 10 := by
  have := missing_complete env t { o with singleFile := none } false rootHist hl hg p he hnv hh
  exact ⟨this.2.1, this.2.2.2.1 rfl⟩

/-! ### non-vacuity -/

def exH : HashFn := fun f c => f ++ ":" ++ toString c.length
def exHit : Matcher := fun pats p => p.any fun s => pats.contains s

def exEnv : Env := { H := exH, D := fun _ _ => some [], hit := exHit, rootName := "root" }

/-- generation 1 records `a.txt` (1 byte), `gone.txt` and the ignored `skip.tmp`; it carries the pattern `skip.tmp` -/
def exGen : Generation :=
  { fileName := "0001_root_2020-01-01_000000Z.mhl", ignore := ["skip.tmp"],
    records := [ { path := "a.txt", entries := [{ fmt := "md5", digest := "md5:1", action := "original" }] },
                 { path := "gone.txt", entries := [{ fmt := "md5", digest := "md5:0", action := "original" }] },
                 { path := "skip.tmp", entries := [{ fmt := "md5", digest := "md5:0", action := "original" }] } ] }

def exStore : HistStore := { gens := [exGen], chain := [⟨1, exGen.fileName⟩] }

/-- unchanged: `a.txt` as recorded, `gone.txt` still there -/
def exClean : Node := .dir "root" [.file "a.txt" [7], .file "gone.txt" []] (some exStore)

/-- `a.txt` altered (2 bytes), `gone.txt` removed, `extra.txt` added, the ignored `skip.tmp` absent -/
def exDirty : Node := .dir "root" [.file "a.txt" [7, 8], .file "extra.txt" [1]] (some exStore)

def exHist : Hist := .mk [] [⟨1, exGen⟩] exStore.chain true []

/-- both trees carry the same `ascmhl` folder and nothing nested: its check and its loaded form, once -/
theorem exStore_loads : checkStore (some exStore) = .ok () ∧ buildHist [] (some exStore) [] = exHist := by
  refine ⟨?_, by rfl⟩
  obtain ⟨⟨⟩, h⟩ := (exceptErr_eq_none (checkStore (some exStore))).1 (by decide +kernel)
  exact h

theorem ex_load_clean : loadHistory exClean = .ok exHist := by
  rw [loadHistory_noNested exClean rfl exStore_loads.1]; exact congrArg _ exStore_loads.2
theorem ex_load_dirty : loadHistory exDirty = .ok exHist := by
  rw [loadHistory_noNested exDirty rfl exStore_loads.1]; exact congrArg _ exStore_loads.2
theorem ex_gens : exHist.gens ≠ [] := by decide

/-- `String.splitOn` is defined by well-founded recursion and does not reduce: evaluated in the character form of
`splitPath` -/
theorem ex_expected : expectedPaths exHist = [["a.txt"], ["gone.txt"], ["skip.tmp"]] := by
  unfold expectedPaths expectedOfGens
  rw [splitPath_eq_splitPathL]
  decide +kernel

theorem ex_missing_clean : vMissing exEnv exClean exHist {} = [] := by
  unfold vMissing; rw [ex_expected]; decide +kernel

theorem ex_missing_dirty : vMissing exEnv exDirty exHist {} = [["gone.txt"]] := by
  unfold vMissing; rw [ex_expected]; decide +kernel

/-- the clean tree: verify and diff end with 0 and report nothing -/
example : (verify exEnv exClean {}).exitCode = 0 ∧ (diff exEnv exClean {}).exitCode = 0 ∧
    (verify exEnv exClean {}).report.missing = [] ∧ (verify exEnv exClean {}).report.new = [] := by
  have hd : diff exEnv exClean {} = verifyOrDiff exEnv exClean {} false none := rfl
  rw [hd, verify_def, verifyOrDiff_loaded _ _ _ _ none exHist ex_load_clean ex_gens,
    verifyOrDiff_loaded _ _ _ _ none exHist ex_load_clean ex_gens, ex_missing_clean]
  decide +kernel

/-- the dirty tree: verify says 11 and names all three discrepancies, diff says 10; `skip.tmp` is nowhere -/
example : (verify exEnv exDirty {}).exitCode = 11 ∧
    (verify exEnv exDirty {}).report.mismatch = ["a.txt"] ∧
    (verify exEnv exDirty {}).report.new = ["extra.txt"] ∧
    (verify exEnv exDirty {}).report.missing = ["gone.txt"] ∧
    (diff exEnv exDirty {}).exitCode = 10 ∧
    (diff exEnv exDirty {}).report.mismatch = [] := by
  have hd : diff exEnv exDirty {} = verifyOrDiff exEnv exDirty {} false none := rfl
  rw [hd, verify_def, verifyOrDiff_loaded _ _ _ _ none exHist ex_load_dirty ex_gens,
    verifyOrDiff_loaded _ _ _ _ none exHist ex_load_dirty ex_gens, ex_missing_dirty]
  decide +kernel

/-- the hypotheses of `mismatch_complete`, `new_complete`, `missing_complete`, `ignored_irrelevant` hold for these
paths of the dirty tree -/
example : (["a.txt"], false) ∈ visiblePaths (vHit exEnv exHist {}) exDirty ∧
    judgeFile exEnv exDirty exHist true ["a.txt"] = .mismatch ∧
    (["extra.txt"], false) ∈ visiblePaths (vHit exEnv exHist {}) exDirty ∧
    judgeFile exEnv exDirty exHist true ["extra.txt"] = .new ∧
    (["gone.txt"] : RelPath) ∈ expectedPaths exHist ∧
    (∀ d, ((["gone.txt"] : RelPath), d) ∉ visiblePaths (vHit exEnv exHist {}) exDirty) ∧
    vHit exEnv exHist {} ["gone.txt"] = false ∧
    vHit exEnv exHist {} ["skip.tmp"] = true ∧ (["skip.tmp"] : RelPath) ∈ expectedPaths exHist := by
  rw [ex_expected]
  decide +kernel

/-- the conclusions, obtained through the theorems -/
example : (verify exEnv exDirty {}).exitCode = 11 ∧ "a.txt" ∈ (verify exEnv exDirty {}).report.mismatch :=
  verify_altered exEnv exDirty {} exHist ex_load_dirty ex_gens ["a.txt"] (by decide +kernel) (Or.inl rfl)
    { fmt := "md5", digest := "md5:1", action := "original" } (by decide +kernel) (by decide +kernel)

example : "gone.txt" ∈ (diff exEnv exDirty {}).report.missing ∧ (diff exEnv exDirty {}).exitCode = 10 :=
  diff_removed exEnv exDirty {} exHist ex_load_dirty ex_gens ["gone.txt"]
    (by rw [ex_expected]; decide +kernel) (by decide +kernel) (by decide +kernel)

/-- the hypotheses of `clean_exit_zero` hold for the clean tree (the last one in the stronger form `vHit … p = true`,
which gives `hitAbove … p = true` by `hitAbove_of_hit`) -/
example : (∀ p, (p, false) ∈ visiblePaths (vHit exEnv exHist {}) exClean →
      judgeFile exEnv exClean exHist true p ≠ .mismatch ∧ judgeFile exEnv exClean exHist true p ≠ .new) ∧
    (∀ p ∈ expectedPaths exHist,
      (∃ d, (p, d) ∈ visiblePaths (vHit exEnv exHist {}) exClean) ∨ vHit exEnv exHist {} p = true) := by
  have hv : visiblePaths (vHit exEnv exHist {}) exClean = [(["a.txt"], false), (["gone.txt"], false)] := by decide +kernel
  rw [hv, ex_expected]
  refine ⟨?_, ?_⟩
  · intro p hp
    simp only [List.mem_cons, Prod.mk.injEq, and_true, List.not_mem_nil, or_false] at hp
    rcases hp with rfl | rfl <;> decide +kernel
  · intro p hp
    simp only [List.mem_cons, List.not_mem_nil, or_false] at hp
    rcases hp with rfl | rfl | rfl
    · exact Or.inl ⟨false, by decide +kernel⟩
    · exact Or.inl ⟨false, by decide +kernel⟩
    · exact Or.inr (by decide +kernel)

/-- single file asked but only a new file found ⇒ 21; asked and nothing there ⇒ 20 -/
example : verifyExit [] [] true false [["x"]] = some (.exit 20) ∧ verifyExit [] ["n"] true false [["x"]] = some (.exit 21) ∧
    verifyExit [] [] false false [["x"]] = some (.exit 10) ∧ diffExit ["n"] [["x"]] = some (.exit 10) ∧
    createExit 1 [["x"]] [["h"]] = some (.exit 11) ∧ createExit 0 [] [["h"]] = some (.exit 30) := by decide +kernel

end MhlProps.C03
