/-
C09 — Directory-hash verification detects any change anywhere.

`verify -dh` ends with 0 on the tree every generation recorded, with 12 when the tree differs from what ALL recorded
generations say (including a change directly in the root folder: DESIGN.md §8, D2a), and never with an internal
error.

Helper lemmas and the vocabulary (`dhFold`, `dhRootHashes`, `dhFinal`, `allRootEntries`, `mismatches`, `DhInv`):
MhlProps/Proofs/DhLemmas.lean.
-/
import MhlProps.Proofs.DhLemmas
import MhlProps.Proofs.LoadLemmas
import MhlProps.Proofs.VerifyLemmas
import Batteries.Data.List.Perm

namespace MhlProps.C09
open MhlModel

/-! ### 1. never an internal error -/

theorem dhExit_cases (fmts failed : List String) :
    dhExit fmts failed = none ∨ dhExit fmts failed = some errDirVerifyFailed := by
  unfold dhExit; split <;> simp

theorem verifyDh_total (env : Env) (t : Node) (o : DhOpts) :
    (verifyDh env t o).err = none ∨ (verifyDh env t o).err = some errDirVerifyFailed ∨
      ∃ e, loadHistory t = .error e ∧ (verifyDh env t o).err = some e ∧
        (e = errModified ∨ e = errMissingManifest ∨ e = errNoChain) := by
  cases hl : loadHistory t with
  | error e =>
    refine Or.inr (Or.inr ⟨e, rfl, ?_, loadHistory_error_kind t e hl⟩)
    rw [verifyDh_load_error env t o e hl]
  | ok h =>
    rw [verifyDh_ok env t o h hl]
    rcases dhExit_cases (dhFormats h o.format) (dhFinal env t h o).failedFormats with h1 | h1
    · exact Or.inl h1
    · exact Or.inr (Or.inl h1)

/-- in exit codes: 0, 12, 31, 32 or 33 — never the 1 of an uncaught exception -/
theorem verifyDh_exitCode (env : Env) (t : Node) (o : DhOpts) :
    (verifyDh env t o).exitCode ∈ [0, 12, 31, 32, 33] := by
  unfold Outcome.exitCode
  rcases verifyDh_total env t o with h | h | ⟨e, _, h, rfl | rfl | rfl⟩ <;> rw [h]
  · decide
  · rw [errDirVerifyFailed_eq]; decide
  · rw [errModified_eq]; decide
  · rw [errMissingManifest_eq]; decide
  · rw [errNoChain_eq]; decide

theorem verifyDh_never_internal (env : Env) (t : Node) (o : DhOpts) (k : String) :
    (verifyDh env t o).err ≠ some (.internal k) := by
  rcases verifyDh_total env t o with h | h | ⟨e, _, h, rfl | rfl | rfl⟩ <;> rw [h] <;> intro hk <;> cases hk

/-! ### 2. what `dhCompare` marks -/

theorem dhCompare_marks (fmts : List String) (label : String) (computed : List (String × String × String))
    (st : DhState) (recorded : List Entry) (f : String) :
    f ∈ (dhCompare fmts true label computed st recorded).failedFormats ↔
      f ∈ st.failedFormats ∨
        ∃ e ∈ recorded, e.fmt = f ∧ f ∈ fmts ∧
          ∃ c' s', computed.find? (fun x => x.1 == f) = some (f, c', s') ∧ compareDir e c' s' = 1 := by
  have h := mem_marksOf_dhCompare true fmts true label computed st recorded f
  simp only [marksOf, tagOf, if_true, true_and, mismatches_iff] at h
  rw [h]
  refine or_congr Iff.rfl ⟨?_, ?_⟩
  · rintro ⟨e, he, ⟨hf, c', s', hc, hcmp⟩, rfl⟩
    exact ⟨e, he, rfl, hf, c', s', hc, hcmp⟩
  · rintro ⟨e, he, rfl, hf, c', s', hc, hcmp⟩
    exact ⟨e, he, ⟨hf, c', s', hc, hcmp⟩, rfl⟩

theorem dhCompare_grows (fmts : List String) (count : Bool) (label : String)
    (computed : List (String × String × String)) (st : DhState) (recorded : List Entry) :
    st.failedFormats <+: (dhCompare fmts count label computed st recorded).failedFormats := by
  rw [dhCompare_failed]
  cases count with
  | false => exact List.prefix_refl _
  | true =>
    simp only [if_true]
    rw [← List.foldl_map]
    exact prefix_foldl_appendNew _ _

theorem dhCompare_grows_mem (fmts : List String) (count : Bool) (label : String)
    (computed : List (String × String × String)) (st : DhState) (recorded : List Entry) (f : String)
    (h : f ∈ st.failedFormats) : f ∈ (dhCompare fmts count label computed st recorded).failedFormats :=
  (dhCompare_grows fmts count label computed st recorded).subset h

/-- without counting (`-ro` on the root comparison) failedFormats is unchanged -/
theorem dhCompare_nocount (fmts : List String) (label : String) (computed : List (String × String × String))
    (st : DhState) (recorded : List Entry) :
    (dhCompare fmts false label computed st recorded).failedFormats = st.failedFormats := by
  rw [dhCompare_failed]; rfl

/-- the statement of `dhCompare_dirHashes` (Proofs/DhLemmas.lean), under the name the property is claimed by -/
theorem dhCompare_keeps (fmts : List String) (count : Bool) (label : String)
    (computed : List (String × String × String)) (st : DhState) (recorded : List Entry) :
    (dhCompare fmts count label computed st recorded).dirHashes = st.dirHashes ∧
    (dhCompare fmts count label computed st recorded).lines = st.lines :=
  dhCompare_dirHashes fmts count label computed st recorded

/-! ### 3. the exit decision -/

theorem dhExit_spec (fmts failed : List String) :
    dhExit fmts failed = some errDirVerifyFailed ↔
      failed ≠ [] ∧ failed.length = (fmts.foldl appendNew []).length := by
  unfold dhExit
  cases failed <;> simp

theorem dedup_fmts (fmts : List String) :
    (fmts.foldl appendNew []).Nodup ∧ (∀ f, f ∈ fmts.foldl appendNew [] ↔ f ∈ fmts) ∧
    (fmts.Nodup → fmts.foldl appendNew [] = fmts) :=
  ⟨(dedup_spec fmts).1, (dedup_spec fmts).2, fun h => by simpa using foldl_appendNew_of_nodup fmts [] (by simpa using h)⟩

/-- "12 iff every computed format failed" -/
theorem dhExit_spec_all (fmts failed : List String) (hnd : failed.Nodup) (hsub : ∀ f ∈ failed, f ∈ fmts) :
    dhExit fmts failed = some errDirVerifyFailed ↔ fmts ≠ [] ∧ ∀ f ∈ fmts, f ∈ failed := by
  rw [dhExit_spec]
  obtain ⟨hdn, hdm⟩ := dedup_spec fmts
  have hsub' : failed ⊆ fmts.foldl appendNew [] := fun f hf => (hdm f).2 (hsub f hf)
  constructor
  · rintro ⟨hne, hlen⟩
    have hperm := (List.subperm_of_subset hnd hsub').perm_of_length_le (by omega)
    refine ⟨?_, fun f hf => hperm.mem_iff.2 ((hdm f).2 hf)⟩
    intro h0; subst h0
    cases failed with
    | nil => exact hne rfl
    | cons a as => simp at hlen
  · rintro ⟨hne, hall⟩
    have hsup : fmts.foldl appendNew [] ⊆ failed := fun f hf => hall f ((hdm f).1 hf)
    refine ⟨?_, Nat.le_antisymm (hnd.length_le_of_subset hsub') (hdn.length_le_of_subset hsup)⟩
    intro h0; subst h0
    cases fmts with
    | nil => exact hne rfl
    | cons a as => simpa using hall a List.mem_cons_self

/-! ### 4. a change of the root folder is detected -/

/-- the statement of `dhFold_inv` (Proofs/DhLemmas.lean) with `DhInv` unfolded, under the name the property is
claimed by -/
theorem dhFold_failed_inv (env : Env) (t : Node) (h : Hist) (o : DhOpts) :
    (dhFold env t h o).failedFormats.Nodup ∧
    ∀ f ∈ (dhFold env t h o).failedFormats, f ∈ dhFormats h o.format :=
  dhFold_inv env t h o

/-- without `-h`: the formats are the sorted duplicate-free list of exactly the formats occurring in root hashes -/
theorem dhFormats_spec (h : Hist) (hsome : ∃ g ∈ h.gens, ∃ e, e ∈ g.gen.rootHash.getD []) :
    (dhFormats h none).Nodup ∧ (dhFormats h none).Pairwise (· ≤ ·) ∧
    ∀ f, f ∈ dhFormats h none ↔ ∃ g ∈ h.gens, ∃ e ∈ g.gen.rootHash.getD [], e.fmt = f := by
  refine ⟨dhFormats_nodup h none, dhFormats_sorted h none, mem_dhFormats_none h ?_⟩
  obtain ⟨g, hg, e, he⟩ := hsome
  intro h0
  have := (mem_rootFmts h.gens e.fmt).2 ⟨g, hg, e, he, rfl⟩
  rw [h0] at this; cases this

theorem verifyDh_12_final (env : Env) (t : Node) (o : DhOpts) (h : Hist) (hl : loadHistory t = .ok h) :
    (verifyDh env t o).err = some errDirVerifyFailed ↔
      ∀ f ∈ dhFormats h o.format, f ∈ (dhFinal env t h o).failedFormats := by
  have hinv : DhInv (dhFormats h o.format) (dhFinal env t h o) :=
    dhCompare_inv _ _ _ _ _ _ (dhFold_inv env t h o)
  rw [verifyDh_ok env t o h hl]
  simp only [dhExit_spec_all _ _ hinv.1 hinv.2, ne_eq, dhFormats_ne_nil, not_false_eq_true, true_and]

/-- the exact condition for 12 (any options): every computed format is marked, by a sub-folder during the traversal
or by a root entry (unless `-ro`, where root entries do not count) -/
theorem verifyDh_12_iff (env : Env) (t : Node) (o : DhOpts) (h : Hist) (hl : loadHistory t = .ok h) :
    (verifyDh env t o).err = some errDirVerifyFailed ↔
      ∀ f ∈ dhFormats h o.format,
        f ∈ (dhFold env t h o).failedFormats ∨
          (o.rootOnly = false ∧ ∃ e ∈ allRootEntries h, e.fmt = f ∧ ∃ c' s',
            (dhRootHashes env t h o).find? (fun x => x.1 == f) = some (f, c', s') ∧ compareDir e c' s' = 1) := by
  rw [verifyDh_12_final env t o h hl]
  refine forall₂_congr fun f hf => ?_
  have := mem_marksOf_dhCompare true (dhFormats h o.format) (!o.rootOnly) "." (dhRootHashes env t h o)
    (dhFold env t h o) (allRootEntries h) f
  simp only [marksOf, tagOf, if_true, mismatches_iff, Bool.not_eq_true'] at this
  refine this.trans (or_congr Iff.rfl (and_congr Iff.rfl ⟨?_, ?_⟩))
  · rintro ⟨e, he, ⟨-, rest⟩, rfl⟩
    exact ⟨e, he, rfl, rest⟩
  · rintro ⟨e, he, rfl, rest⟩
    exact ⟨e, he, ⟨hf, rest⟩, rfl⟩

/-- the general form: for every format that occurs in a root hash, SOME generation's entry of that format differs
from the computed root hash ⇒ 12.  (With `-h FMT` the same holds for the one format, see `root_change_detected_fmt`.) -/
theorem root_change_detected_general (env : Env) (t : Node) (o : DhOpts) (h : Hist)
    (hfmt : o.format = none) (hro : o.rootOnly = false) (hl : loadHistory t = .ok h)
    (hsome : ∃ g ∈ h.gens, ∃ e, e ∈ g.gen.rootHash.getD [])
    (hdiff : ∀ g ∈ h.gens, ∀ e ∈ g.gen.rootHash.getD [], ∃ g' ∈ h.gens, ∃ e' ∈ g'.gen.rootHash.getD [],
      e'.fmt = e.fmt ∧ ∃ c' s',
        ((alookup ([] : RelPath) (dhFold env t h o).dirHashes).getD []).find? (fun x => x.1 == e.fmt)
          = some (e.fmt, c', s') ∧ compareDir e' c' s' = 1) :
    (verifyDh env t o).err = some errDirVerifyFailed := by
  rw [verifyDh_12_iff env t o h hl]
  intro f hf
  rw [hfmt] at hf
  obtain ⟨g, hg, e, he, rfl⟩ := ((dhFormats_spec h hsome).2.2 f).1 hf
  obtain ⟨g', hg', e', he', hfe, c', s', hc, hcmp⟩ := hdiff g hg e he
  exact Or.inr ⟨hro, e', List.mem_flatMap.2 ⟨g', hg', he'⟩, hfe, c', s', hc, hcmp⟩

/-- (DESIGN.md §8, D2a)  The tree's root hash differs from what EVERY generation recorded, in every recorded
format ⇒ `verify -dh` ends with 12.  "At least one generation has a root hash" must mean a root hash with at least
one entry: see `root_hash_without_entries` below for the degenerate case. -/
theorem root_change_detected (env : Env) (t : Node) (o : DhOpts) (h : Hist)
    (hfmt : o.format = none) (hro : o.rootOnly = false) (hl : loadHistory t = .ok h)
    (hsome : ∃ g ∈ h.gens, ∃ es, g.gen.rootHash = some es ∧ es ≠ [])
    (hdiff : ∀ g ∈ h.gens, ∀ e ∈ g.gen.rootHash.getD [], ∃ c' s',
      ((alookup ([] : RelPath)
        ((traverse (env.hit (setPatterns (latestIgnore h.gens) o.ignoreCli o.ignoreFile)) [] t).foldl
          (dhVisit env t h (dhFormats h o.format) o) ({} : DhState)).dirHashes).getD []).find?
            (fun x => x.1 == e.fmt) = some (e.fmt, c', s') ∧ compareDir e c' s' = 1) :
    (verifyDh env t o).err = some errDirVerifyFailed := by
  apply root_change_detected_general env t o h hfmt hro hl
  · obtain ⟨g, hg, es, hes, hne⟩ := hsome
    cases es with
    | nil => exact absurd rfl hne
    | cons e es => exact ⟨g, hg, e, by simp [hes]⟩
  · intro g hg e he
    obtain ⟨c', s', hc, hcmp⟩ := hdiff g hg e he
    exact ⟨g, hg, e, he, rfl, c', s', hc, hcmp⟩

/-- with `-h FMT`: some recorded root entry of that format differs ⇒ 12 -/
theorem root_change_detected_fmt (env : Env) (t : Node) (o : DhOpts) (h : Hist) (fmt : String)
    (hfmt : o.format = some fmt) (hro : o.rootOnly = false) (hl : loadHistory t = .ok h)
    (hdiff : ∃ g ∈ h.gens, ∃ e ∈ g.gen.rootHash.getD [], e.fmt = fmt ∧ ∃ c' s',
      ((alookup ([] : RelPath) (dhFold env t h o).dirHashes).getD []).find? (fun x => x.1 == fmt)
        = some (fmt, c', s') ∧ compareDir e c' s' = 1) :
    (verifyDh env t o).err = some errDirVerifyFailed := by
  rw [verifyDh_12_iff env t o h hl]
  intro f hf
  rw [hfmt, dhFormats_some, List.mem_singleton] at hf
  subst hf
  obtain ⟨g, hg, e, he, hfe, c', s', hc, hcmp⟩ := hdiff
  exact Or.inr ⟨hro, e, List.mem_flatMap.2 ⟨g, hg, he⟩, hfe, c', s', hc, hcmp⟩

/-! ### 5. nothing changed ⇒ 0 -/

theorem unchanged_root_ok_partial (env : Env) (t : Node) (o : DhOpts) (h : Hist) (hl : loadHistory t = .ok h)
    (hsub : ((traverse (env.hit (setPatterns (latestIgnore h.gens) o.ignoreCli o.ignoreFile)) [] t).foldl
          (dhVisit env t h (dhFormats h o.format) o) ({} : DhState)).failedFormats = [])
    (heq : ∀ g ∈ h.gens, ∀ e ∈ g.gen.rootHash.getD [], ∀ k c' s',
      ((alookup ([] : RelPath)
        ((traverse (env.hit (setPatterns (latestIgnore h.gens) o.ignoreCli o.ignoreFile)) [] t).foldl
          (dhVisit env t h (dhFormats h o.format) o) ({} : DhState)).dirHashes).getD []).find?
            (fun x => x.1 == e.fmt) = some (k, c', s') → compareDir e c' s' = 2) :
    (verifyDh env t o).err = none ∧ (verifyDh env t o).exitCode = 0 := by
  have hfinal : dhFinal env t h o = dhFold env t h o := by
    apply dhCompare_of_no_mismatch
    intro e he
    obtain ⟨g, hg, he'⟩ := List.mem_flatMap.1 he
    cases hm : mismatches (dhFormats h o.format) (dhRootHashes env t h o) e with
    | false => rfl
    | true =>
      obtain ⟨_, c', s', hc, hcmp⟩ := (mismatches_iff _ _ _).1 hm
      have := heq g hg e he' e.fmt c' s' hc
      omega
  have key : (verifyDh env t o).err = none := by
    rw [verifyDh_ok env t o h hl, hfinal]
    exact congrArg (dhExit _) hsub
  exact ⟨key, by simp [Outcome.exitCode, key]⟩

/-! ### non-vacuity -/

section Examples

/-- toy hashing layer: the "digest" is the format name followed by the sum of the input bytes -/
def envX : Env :=
  { H := fun f c => f ++ toString (c.foldl (fun a u => a + u.toNat) 0), D := fun _ s => some s.toUTF8.toList,
    hit := fun pats p => pats.contains (posix p), rootName := "root" }

/-- one generation that recorded the files, the sub-folder (with the hashes the toy layer gives) and the root hash
`c` / `s` -/
def genWith (c s : String) : Generation :=
  { fileName := "0001_root_2020-01-01_000000Z.mhl",
    rootHash := some [{ fmt := "md5", digest := c, shash := some s }],
    records := [{ path := "a.txt", entries := [{ fmt := "md5", digest := "md57", action := "original" }] },
                { path := "sub/b.txt", entries := [{ fmt := "md5", digest := "md53", action := "original" }] },
                { path := "sub", isDir := true,
                  entries := [{ fmt := "md5", digest := "md5313", shash := some "md5423" }] }] }

def storeWith (c s : String) : HistStore :=
  { gens := [genWith c s], chain := [⟨1, "0001_root_2020-01-01_000000Z.mhl"⟩] }

def treeWith (c s : String) : Node :=
  .dir "root" [.file "a.txt" [7], .dir "sub" [.file "b.txt" [1, 2]] none] (some (storeWith c s))

def okHist : Except Err Hist → Option Hist
  | .ok h => some h
  | .error _ => none

/-- what the toy layer computes for the root folder -/
example : (okHist (loadHistory (treeWith "x" "y"))).map (fun h => dhRootHashes envX (treeWith "x" "y") h {})
    = some [("md5", "md5730", "md5839")] := by decide +kernel

/-- recorded = computed: exit 0 -/
example : (verifyDh envX (treeWith "md5730" "md5839") {}).exitCode = 0 := by decide +kernel

theorem changed_root_hyps : ∃ h, loadHistory (treeWith "old" "md5839") = .ok h ∧
    (∃ g ∈ h.gens, ∃ es, g.gen.rootHash = some es ∧ es ≠ []) ∧
    (∀ g ∈ h.gens, ∀ e ∈ g.gen.rootHash.getD [], ∃ c' s',
      ((alookup ([] : RelPath) (dhFold envX (treeWith "old" "md5839") h {}).dirHashes).getD []).find?
        (fun x => x.1 == e.fmt) = some (e.fmt, c', s') ∧ compareDir e c' s' = 1) := by
  -- one evaluation of the load: the generations and the computed root hashes
  have key : (okHist (loadHistory (treeWith "old" "md5839"))).map (fun h =>
        (h.gens.map (fun g => (g.number, g.gen)), dhRootHashes envX (treeWith "old" "md5839") h {}))
      = some ([(1, genWith "old" "md5839")], [("md5", "md5730", "md5839")]) := by decide +kernel
  cases hl : loadHistory (treeWith "old" "md5839") with
  | error e => rw [hl] at key; cases key
  | ok h =>
    rw [hl] at key
    simp only [okHist, Option.map_some, Option.some.injEq, Prod.mk.injEq, dhRootHashes] at key
    obtain ⟨hgens, hd⟩ := key
    have hg : h.gens = [⟨1, genWith "old" "md5839"⟩] := by
      cases hh : h.gens with
      | nil => rw [hh] at hgens; cases hgens
      | cons a as =>
        obtain ⟨n, g⟩ := a
        rw [hh] at hgens
        cases as with
        | nil =>
          simp only [List.map_cons, List.map_nil, List.cons.injEq, Prod.mk.injEq, and_true] at hgens
          rw [hgens.1, hgens.2]
        | cons b bs => simp at hgens
    refine ⟨h, rfl, ?_, ?_⟩
    · exact ⟨_, by rw [hg]; exact List.mem_singleton.2 rfl, _, rfl, by simp⟩
    · intro g hgm e he
      rw [hg, List.mem_singleton] at hgm
      subst hgm
      simp only [genWith, Option.getD_some, List.mem_singleton] at he
      subst he
      rw [hd]
      exact ⟨"md5730", "md5839", by decide +kernel, by decide +kernel⟩

/-- the root folder's recorded content hash differs (a file directly in the root changed): exit 12 -/
example : (verifyDh envX (treeWith "old" "md5839") {}).err = some errDirVerifyFailed := by
  obtain ⟨h, hl, hsome, hdiff⟩ := changed_root_hyps
  exact root_change_detected envX _ {} h rfl rfl hl hsome hdiff

/-- only the structure hash differs: also 12 -/
example : (verifyDh envX (treeWith "md5730" "other") {}).exitCode = 12 := by decide +kernel

/-- with `-ro` the root comparison is logged but not counted -/
example : (verifyDh envX (treeWith "old" "md5839") { rootOnly := true }).exitCode = 0 ∧
    (verifyDh envX (treeWith "old" "md5839") { rootOnly := true }).report.dirMismatch = ["."] := by
  decide +kernel

/-- the hypotheses of `root_change_detected` hold on the changed tree -/
example : ∃ h, loadHistory (treeWith "old" "md5839") = .ok h ∧
    (∃ g ∈ h.gens, ∃ es, g.gen.rootHash = some es ∧ es ≠ []) ∧
    (∀ g ∈ h.gens, ∀ e ∈ g.gen.rootHash.getD [], ∃ c' s',
      ((alookup ([] : RelPath) (dhFold envX (treeWith "old" "md5839") h {}).dirHashes).getD []).find?
        (fun x => x.1 == e.fmt) = some (e.fmt, c', s') ∧ compareDir e c' s' = 1) := changed_root_hyps

/-- a `<roothash>` element WITHOUT any hash entry: "some generation has a root hash" alone does not give 12 (the
formats fall back to c4 and there is nothing to compare) — hence the `es ≠ []` in `root_change_detected` -/
theorem root_hash_without_entries :
    let t : Node := .dir "root" [.file "a.txt" [7]]
      (some { gens := [{ fileName := "0001_root_2020-01-01_000000Z.mhl", rootHash := some [] }],
              chain := [⟨1, "0001_root_2020-01-01_000000Z.mhl"⟩] })
    (verifyDh envX t {}).err = none := by decide +kernel

/-- `dhExit`: 12 needs every format failed -/
example : dhExit ["c4", "md5"] ["md5"] = none ∧ dhExit ["c4", "md5"] ["md5", "c4"] = some errDirVerifyFailed ∧
    dhExit ["c4"] [] = none := by decide +kernel

/-- a damaged chain: the error of loading, not an internal one -/
example : (verifyDh envX (.dir "root" [] (some { chainPresent := false })) {}).exitCode = 32 := by decide +kernel

end Examples

end MhlProps.C09
