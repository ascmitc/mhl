/-
C04 — Digests are always judged against the first recorded value.

About `MhlModel.sealEntries` / `decideAction` / `validateRecord` (the per-file core of `seal_file_path`,
`append_file_hash`, `_validate_new_hash_list`) and the lookups over the generations of one history.
`dig f` is the digest of the file's current content in format `f`; nothing is assumed about digests.
-/
import MhlProps.Proofs.SealLemmas

namespace MhlProps.C04
open MhlModel

/-! ### the decision `decideAction`, case by case: 'original' only in the first generation that records the path -/

/-- a digest is marked `original` exactly when no earlier generation of the history holds an `original` entry for
the path -/
theorem original_iff_first (gens : List LGen) (p fmt d : String) :
    decideAction gens p fmt d = "original" ↔ findOriginal gens p = none := by
  unfold decideAction
  cases findOriginal gens p with
  | none => simp
  | some e =>
    simp only [reduceCtorEq, iff_false]
    cases findFirstOfFormat gens p fmt with
    | none => simp
    | some e' => by_cases h : e'.digest = d <;> simp [h]

/-- for a format already recorded: `verified` exactly when the digest equals the EARLIEST recorded digest of that
format, `failed` otherwise -/
theorem verified_iff_equal_first (gens : List LGen) (p fmt d : String) (o e : Entry)
    (ho : findOriginal gens p = some o) (he : findFirstOfFormat gens p fmt = some e) :
    (decideAction gens p fmt d = "verified" ↔ d = e.digest) ∧
    (decideAction gens p fmt d = "failed" ↔ d ≠ e.digest) := by
  unfold decideAction
  simp only [ho, he]
  by_cases h : e.digest = d
  · simp [h]
  · have h' : ¬ d = e.digest := fun x => h x.symm
    simp [h, h']

/-- a digest in a format that is new for the file is provisionally `new` (turned into `verified` at commit) -/
theorem new_format_action (gens : List LGen) (p fmt d : String) (o : Entry)
    (ho : findOriginal gens p = some o) (he : findFirstOfFormat gens p fmt = none) :
    decideAction gens p fmt d = "new" := by
  unfold decideAction; simp [ho, he]

/-- a digest is marked `failed` only against a first entry of its format that differs from it -/
theorem failed_first (gens : List LGen) (p fmt d : String) (h : decideAction gens p fmt d = "failed") :
    ∃ e, findFirstOfFormat gens p fmt = some e ∧ e.digest ≠ d := by
  unfold decideAction at h
  cases ho : findOriginal gens p with
  | none => simp [ho] at h
  | some o =>
    cases hf : findFirstOfFormat gens p fmt with
    | none => simp [ho, hf] at h
    | some e => exact ⟨e, rfl, fun hd => by simp [ho, hf, hd] at h⟩

theorem decideAction_congr {gens gens' : List LGen} {p fmt : String} (ho : findOriginal gens' p = findOriginal gens p)
    (he : findFirstOfFormat gens' p fmt = findFirstOfFormat gens p fmt) (d : String) :
    decideAction gens' p fmt d = decideAction gens p fmt d := by
  unfold decideAction; rw [ho, he]

/-! ### a later generation never becomes the reference -/

theorem reference_is_monotone (gens more : List LGen) (p fmt : String) (e : Entry)
    (h : findFirstOfFormat gens p fmt = some e) : findFirstOfFormat (gens ++ more) p fmt = some e := by
  rw [findFirstOfFormat_eq_lookup] at *
  exact lookupEntry_mono more h

theorem original_is_monotone (gens more : List LGen) (p : String) (e : Entry)
    (h : findOriginal gens p = some e) : findOriginal (gens ++ more) p = some e := by
  rw [findOriginal_eq_lookup] at *
  exact lookupEntry_mono more h

/-- hence a (possibly failed) later generation does not influence how a digest is judged -/
theorem later_generation_irrelevant (gens more : List LGen) (p fmt d : String) (o e : Entry)
    (ho : findOriginal gens p = some o) (he : findFirstOfFormat gens p fmt = some e) :
    decideAction (gens ++ more) p fmt d = decideAction gens p fmt d :=
  decideAction_congr ((original_is_monotone gens more p o ho).trans ho.symm)
    ((reference_is_monotone gens more p fmt e he).trans he.symm) d

/-! ### gating of new formats -/

/-- the entries `seal_file_path` appends, split as the two loops produce them: `ents1` from the loop over the recorded
formats that are computed, `ents2` from the loop over the other formats, which runs only when no check of the first
failed (the witnesses are read off the definition; `mem_sealEntries`, SealLemmas, says the same without the order) -/
theorem sealEntries_shape (gens : List LGen) (p : String) (dig : String → String) (req : List String) :
    ∃ ents1 ents2 : List Entry, (sealEntries gens p dig req).1 = ents1 ++ ents2 ∧
      (∀ e ∈ ents1, e.fmt ∈ existingFormats gens p ∧ e.digest = dig e.fmt ∧
          e.action = decideAction gens p e.fmt e.digest) ∧
      (∀ e ∈ ents2, e.fmt ∉ existingFormats gens p ∧ e.digest = dig e.fmt ∧
          e.action = decideAction gens p e.fmt e.digest) ∧
      ((∃ e ∈ ents1, e.action = "failed") → ents2 = []) := by
  refine ⟨_, _, rfl, ?_, ?_, ?_⟩
  · intro e he
    simp only [List.mem_map, List.mem_filter] at he
    obtain ⟨f, ⟨hf, _⟩, rfl⟩ := he
    exact ⟨hf, rfl, rfl⟩
  · intro e he
    split at he
    · simp only [List.mem_map, List.mem_filter] at he
      obtain ⟨f, ⟨_, hf⟩, rfl⟩ := he
      refine ⟨?_, rfl, rfl⟩
      simpa using hf
    · simp at he
  · rintro ⟨e, he, hfail⟩
    split
    · next hv =>
      exfalso
      rw [List.all_eq_true] at hv
      have := hv e he
      simp [hfail] at this
    · rfl

/-- a digest in a format that is new for the file is recorded only in a run in which no check of an already
recorded format failed; when a check fails, nothing in a new format is recorded -/
theorem new_format_gated (gens : List LGen) (p : String) (dig : String → String) (req : List String)
    (hfail : ∃ e ∈ (sealEntries gens p dig req).1, e.action = "failed") :
    ∀ e ∈ (sealEntries gens p dig req).1, e.fmt ∈ existingFormats gens p := by
  obtain ⟨ents1, ents2, heq, h1, h2, hgate⟩ := sealEntries_shape gens p dig req
  rw [heq] at hfail ⊢
  obtain ⟨e, he, hf⟩ := hfail
  have hin1 : e ∈ ents1 := by
    refine (List.mem_append.1 he).resolve_right fun h => ?_
    -- an entry of the second loop is never `failed`: that needs a first entry of the format, which is then recorded
    obtain ⟨hne, -, hact⟩ := h2 e h
    obtain ⟨e', hff, -⟩ := failed_first gens p e.fmt e.digest (hact ▸ hf)
    rw [(findFirstOfFormat_none_iff gens p e.fmt).2 hne] at hff
    cases hff
  rw [hgate ⟨e, hin1, hf⟩, List.append_nil]
  exact fun x hx => (h1 x hx).1

/-! ### an unaltered file never fails, whatever formats are requested -/

/-- "the file is unaltered with respect to its references": the earliest recorded digest of every format equals the
digest of the current content in that format.  It holds of the empty history (`firstOk_nil`) and is kept by every
generation that records digests of the content (`firstOk_append_gen`). -/
def FirstOk (dig : String → String) (gens : List LGen) (p : String) : Prop :=
  ∀ fmt e, findFirstOfFormat gens p fmt = some e → e.digest = dig fmt

theorem firstOk_nil (dig : String → String) (p : String) : FirstOk dig [] p := by
  intro fmt e h; simp [findFirstOfFormat] at h

theorem action_of_firstOk (dig : String → String) (gens : List LGen) (p fmt : String)
    (h : FirstOk dig gens p) : decideAction gens p fmt (dig fmt) ≠ "failed" := fun hf =>
  let ⟨e, he, hne⟩ := failed_first gens p fmt (dig fmt) hf
  hne (h fmt e he)

/-- on an unaltered file no entry of the new generation is `failed`, for EVERY list of requested formats -/
theorem unaltered_no_failed (dig : String → String) (gens : List LGen) (p : String) (req : List String)
    (h : FirstOk dig gens p) : ∀ e ∈ (sealEntries gens p dig req).1, e.action ≠ "failed" := by
  intro e he
  rw [(sealEntries_entry gens p dig req e he).2]
  exact action_of_firstOk dig gens p e.fmt h

/-- and every requested format is reported as a success (this is what the exit code is computed from) -/
theorem unaltered_all_success (dig : String → String) (gens : List LGen) (p : String) (req : List String)
    (h : FirstOk dig gens p) : ∀ r ∈ (sealEntries gens p dig req).2, r.2.2 = true := by
  intro r hr
  unfold sealEntries at hr
  simp only [List.mem_append, List.mem_map, List.mem_filter] at hr
  rcases hr with ⟨f, _, rfl⟩ | ⟨f, _, rfl⟩
  · simpa using action_of_firstOk dig gens p f h
  · simp only [Bool.and_eq_true, List.all_eq_true, List.mem_map, List.mem_filter]
    refine ⟨?_, by simpa using action_of_firstOk dig gens p f h⟩
    rintro e ⟨f', _, rfl⟩
    simpa using action_of_firstOk dig gens p f' h

/-! ### validation before writing never aborts on an unaltered file; sequences of generations -/

theorem existing_ne_of_original (gens : List LGen) (p : String) (o : Entry)
    (h : findOriginal gens p = some o) : existingFormats gens p ≠ [] := by
  obtain ⟨g, hg, r, hf, hh⟩ := lookupEntry_some (findOriginal_eq_lookup gens p ▸ h)
  exact List.ne_nil_of_mem
    ((mem_existingFormats gens p o.fmt).mpr ⟨g, hg, r, hf, o, List.mem_of_find?_eq_some hh, rfl⟩)

theorem base_subset_toGen (existing req : List String) (x : String) (hx : x ∈ baseFormats existing req) :
    x ∈ formatsToGenerate existing req :=
  (mem_foldl_appendNew' req (baseFormats existing req) x).2 (Or.inl hx)

theorem base_subset_existing (existing req : List String) (x : String) (hx : x ∈ baseFormats existing req) :
    x ∈ existing := by
  unfold baseFormats at hx
  simp only at hx
  split at hx
  · exact List.mem_of_mem_take hx
  · exact (List.mem_filter.mp hx).1

theorem base_ne (existing req : List String) (h : existing ≠ []) : baseFormats existing req ≠ [] := by
  unfold baseFormats
  simp only
  split
  · cases existing with
    | nil => exact absurd rfl h
    | cons a as => simp
  · next hc => intro hnil; apply hc; rw [hnil]; rfl

theorem checked_ne (existing req : List String) (h : existing ≠ []) :
    existing.filter ((formatsToGenerate existing req).contains ·) ≠ [] := by
  obtain ⟨x, hx⟩ : ∃ x, x ∈ baseFormats existing req := by
    cases hl : baseFormats existing req with
    | nil => exact absurd hl (base_ne existing req h)
    | cons a as => exact ⟨a, by simp⟩
  intro hnil
  have : x ∈ existing.filter ((formatsToGenerate existing req).contains ·) := by
    simp only [List.mem_filter]
    exact ⟨base_subset_existing _ _ _ hx, by simpa using base_subset_toGen _ _ _ hx⟩
  rw [hnil] at this; simp at this

/-- once something is recorded for the file, a run checks a recorded format: its entry is appended whatever the
outcome -/
theorem checked_entry (gens : List LGen) (p : String) (dig : String → String) (req : List String)
    (hex : existingFormats gens p ≠ []) :
    ∃ f ∈ existingFormats gens p, ({ fmt := f, digest := dig f, action := decideAction gens p f (dig f) } : Entry) ∈
      (sealEntries gens p dig req).1 := by
  obtain ⟨f, hf⟩ := List.exists_mem_of_ne_nil _ (checked_ne (existingFormats gens p) req hex)
  obtain ⟨h1, h2⟩ := List.mem_filter.1 hf
  exact ⟨f, h1, mem_sealEntries.2 ⟨f, by simpa using h2, rfl, .inl h1⟩⟩

/-- on an unaltered file a digest in a format new for the file comes with a verified one: `new` is decided only
when an original is on record, then a recorded format is checked, and the check of an unaltered file verifies -/
theorem unaltered_new_verified (dig : String → String) (gens : List LGen) (p : String) (req : List String)
    (h : FirstOk dig gens p) (hnew : ∃ e ∈ (sealEntries gens p dig req).1, e.action = "new") :
    ∃ e ∈ (sealEntries gens p dig req).1, e.action = "verified" := by
  obtain ⟨en, hen, hact⟩ := hnew
  obtain ⟨o, ho⟩ : ∃ o, findOriginal gens p = some o := by
    cases ho : findOriginal gens p with
    | none =>
      rw [(sealEntries_entry gens p dig req en hen).2, (original_iff_first gens p en.fmt _).2 ho] at hact
      exact absurd hact (by decide)
    | some o => exact ⟨o, rfl⟩
  obtain ⟨f0, hf0, hmem⟩ := checked_entry gens p dig req (existing_ne_of_original gens p o ho)
  obtain ⟨e', hff⟩ : ∃ e', findFirstOfFormat gens p f0 = some e' := by
    cases hff : findFirstOfFormat gens p f0 with
    | none => exact absurd hf0 ((findFirstOfFormat_none_iff gens p f0).1 hff)
    | some e' => exact ⟨e', rfl⟩
  exact ⟨_, hmem, (verified_iff_equal_first gens p f0 (dig f0) o e' ho hff).1.2 (h f0 e' hff).symm⟩

/-- on an unaltered file the mandatory check before serialising succeeds and only turns `new` into `verified` -/
theorem unaltered_validate_ok (dig : String → String) (gens : List LGen) (p : String) (req : List String)
    (h : FirstOk dig gens p) (size : Option Nat) :
    ∃ r', validateRecord { path := p, size := size, entries := (sealEntries gens p dig req).1 } = .ok r' ∧
      r'.path = p ∧ (∀ e ∈ r'.entries, e.digest = dig e.fmt ∧ e.action ≠ "failed" ∧ e.action ≠ "new") := by
  have hnf := unaltered_no_failed dig gens p req h
  have hpass : entriesPass (sealEntries gens p dig req).1 = true :=
    (entriesPass_iff _).2 fun hnew => ⟨unaltered_new_verified dig gens p req h hnew, hnf⟩
  rw [validateRecord_eq, if_pos hpass]
  refine ⟨_, rfl, rfl, fun e he => ?_⟩
  obtain ⟨e0, he0, rfl⟩ := List.mem_map.1 he
  rw [relabel_digest, relabel_fmt]
  refine ⟨(sealEntries_entry gens p dig req e0 he0).1, fun hf => hnf e0 he0 ((relabel_failed e0).1 hf), ?_⟩
  by_cases hn : e0.action = "new"
  · rw [relabel_new e0 hn]; decide
  · rwa [relabel_of_not_new e0 hn]

/-- one `create` seen from one file: seal, validate, append the generation -/
def stepFile (dig : String → String) (p : String) (gens : List LGen) (req : List String) : Except Err (List LGen) :=
  match validateRecord { path := p, entries := (sealEntries gens p dig req).1 } with
  | .ok r => .ok (gens ++ [⟨latestGenerationNumber gens + 1, { fileName := "", records := [r] }⟩])
  | .error e => .error e

theorem firstOk_append_of (dig : String → String) (gens more : List LGen) (p : String) (h : FirstOk dig gens p)
    (hr : ∀ g ∈ more, ∀ r, g.gen.find p = some r → ∀ e ∈ r.entries, e.digest = dig e.fmt) :
    FirstOk dig (gens ++ more) p := by
  intro fmt e he
  rw [findFirstOfFormat_eq_lookup, lookupEntry_append, Option.or_eq_some_iff] at he
  rcases he with he | ⟨-, he⟩
  · exact h fmt e (findFirstOfFormat_eq_lookup gens p fmt ▸ he)
  · obtain ⟨g, hg, r, hf, hh⟩ := lookupEntry_some he
    have hfmt : e.fmt = fmt := by simpa using List.find?_some hh
    exact hfmt ▸ hr g hg r hf e (List.mem_of_find?_eq_some hh)

theorem firstOk_append_gen (dig : String → String) (gens : List LGen) (G : LGen) (p : String)
    (h : FirstOk dig gens p) (hr : ∀ r, G.gen.find p = some r → ∀ e ∈ r.entries, e.digest = dig e.fmt) :
    FirstOk dig (gens ++ [G]) p :=
  firstOk_append_of dig gens [G] p h fun _ hg => List.mem_singleton.1 hg ▸ hr

theorem firstOk_append_step (dig : String → String) (gens : List LGen) (p : String) (n : Nat) (r : Record)
    (hp : r.path = p) (h : FirstOk dig gens p) (hr : ∀ e ∈ r.entries, e.digest = dig e.fmt) :
    FirstOk dig (gens ++ [⟨n, { fileName := "", records := [r] }⟩]) p := by
  refine firstOk_append_gen dig gens _ p h fun r' hr' => ?_
  have hfind : ({ fileName := "", records := [r] } : Generation).find r.path = some r := by simp [Generation.find]
  rw [← hp, hfind] at hr'
  cases hr'; exact hr

/-- EVERY sequence of format choices over an unaltered file succeeds: no abort in any number of generations, and the
file stays unaltered with respect to its references, so that no entry is `failed` (`unaltered_no_failed`) — the
statement of the property's last sentence, for all lengths and all format lists at once -/
theorem unaltered_sequences_succeed (dig : String → String) (p : String) (reqs : List (List String))
    (gens : List LGen) (h : FirstOk dig gens p) :
    ∃ gens', reqs.foldlM (stepFile dig p) gens = .ok gens' ∧ FirstOk dig gens' p := by
  induction reqs generalizing gens with
  | nil => exact ⟨gens, rfl, h⟩
  | cons req rest ih =>
    obtain ⟨r', hv, hpath, hents⟩ := unaltered_validate_ok dig gens p req h none
    have hstep : stepFile dig p gens req
        = .ok (gens ++ [⟨latestGenerationNumber gens + 1, { fileName := "", records := [r'] }⟩]) := by
      unfold stepFile; rw [hv]
    have hok := firstOk_append_step dig gens p (latestGenerationNumber gens + 1) r' hpath h (fun e he => (hents e he).1)
    obtain ⟨g', hg', hf'⟩ := ih _ hok
    refine ⟨g', ?_, hf'⟩
    simp only [List.foldlM_cons, hstep]
    exact hg'

/-! ### non-vacuity; the sequence of DESIGN.md §8, D1 -/

/-- a toy digest function that depends on the format name only (every file "unaltered") -/
def digId : String → String := fun f => "d-" ++ f

/-- the two-generation sequence of DESIGN.md §8, D1 (the second generation asks for a format the first did not record)
goes through, and the third format is recorded as `verified` -/
example : Except.toOption (do
    let g1 ← stepFile digId "a.txt" [] ["md5", "xxh64"]
    let g2 ← stepFile digId "a.txt" g1 ["sha1", "xxh64"]
    pure (g2.map fun (g : LGen) => g.gen.records.map fun (r : Record) => r.entries.map fun (e : Entry) => (e.fmt, e.action)))
    = some [[[("md5", "original"), ("xxh64", "original")]], [[("xxh64", "verified"), ("sha1", "verified")]]] := by
  decide +kernel

/-- an altered file: the check fails, the failure is recorded and no new format is added -/
example : ((sealEntries [⟨1, { fileName := "", records := [{ path := "a", entries := [{ fmt := "md5", digest := "old", action := "original" }] }] }⟩]
      "a" (fun _ => "new") ["md5", "sha1"]).1.map fun e => (e.fmt, e.action)) = [("md5", "failed")] := by
  decide +kernel

end MhlProps.C04
