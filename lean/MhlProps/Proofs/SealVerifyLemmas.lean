/-
Folder-mode `create` on a tree whose only history is the one at the root.

A. how the run over unaltered files ends, with or without `-dr`: the theorems of C04nested about a run over consistent
   files, at a history without children, where the commit is the one `writeOne` (used by DescribesLemmas,
   RenameLemmas, C03e2e).
B. the generation a first run writes, at the level of its records (the fields `writeOne` fills: `writeOne_fields`,
   SealLemmas): `SealedGen`, which is what the look-ups over the history of this ONE generation need of `Records` (C02rec); the
   expected and the new paths of a history of one generation; the look-ups over a `SealedGen` (C03e2e, C17detect,
   C18e2e, C19seq).  That such a history describes the tree in the sense of the look-ups is `SealedGen.describes`
   (Proofs/DescribesLemmas.lean).
-/
import MhlProps.C02rec
import MhlProps.C04nested

namespace MhlModel

/-! ## A. folder-mode `create` over unaltered files -/

section flat
open MhlProps.C02rec MhlProps.C04 MhlProps.C04nested

theorem cRen_patterns (env : Env) (t : Node) (rootHist : Hist) (o : CreateOpts) :
    (cRen env t rootHist o).1.patterns = (cSession env t rootHist o).patterns :=
  cRen_session_inv (P := fun s => s.patterns = (cSession env t rootHist o).patterns) rfl fun s np nf hs =>
    (detectRenames_patterns env t rootHist s np nf).trans hs

/-- `nested_commit_ok`, `nested_no_failed`, `nested_root_writes` (C04nested) at a history without children: one
generation is written, from the session the detection leaves, and the exit code is decided by the missing list alone -/
theorem createFolder_flat_outcome (env : Env) (t : Node) (o : CreateOpts) (rootHist : Hist)
    (hl : loadHistory t = .ok rootHist) (hc : rootHist.children = []) (hdir : t.isDir = true)
    (hfirst : ∀ p, (p, false) ∈ visiblePaths (cHit env rootHist o) t →
      FirstOk (fun f => env.H f (fileContent t p)) rootHist.gens (posix p))
    (hrefs : ∀ g, rootHist.gens.getLast? = some g → g.gen.refs = []) :
    ∃ w, createFolder env t o =
        { err := createExit 0 (missingAfter (cHit env rootHist o) (cRen env t rootHist o).2.1) [],
          report := { mismatch := [],
                      missing := (missingAfter (cHit env rootHist o) (cRen env t rootHist o).2.1).map posix,
                      renamed := (cRen env t rootHist o).2.2 },
          written := [w] } ∧
      writeOne rootHist (cRen env t rootHist o).1 env.rootName env.stamp "in-place" none rootHist [] = .ok w := by
  have hcons : AllConsistent env t rootHist o := fun p hp => Or.inr (by
    unfold OwnerFirstOk owner_u ownerRel
    rw [route_flat rootHist hc]
    exact hfirst p hp)
  obtain ⟨ws, hcm, hws, -⟩ := nested_commit_ok hl hcons
  obtain ⟨hfail, hmism⟩ := nested_no_failed hcons
  obtain ⟨w0, hw0, -⟩ := nested_root_writes hl hcons hdir
  rcases commit_flat rootHist hc _ _ _ _ _ _ hcm with ⟨rfl, -⟩ | ⟨w, rfl, hw⟩
  · rw [hws] at hw0
    cases hw0
  · refine ⟨w, ?_, hw⟩
    rw [createFolder_eq_gen env t o rootHist hl, hcm, hfail, hmism,
      MhlProps.C04nested.cMissingHist_nil fun g hg ref href => by rw [hrefs g hg] at href; cases href]

theorem createFolder_flat_ok (env : Env) (t : Node) (o : CreateOpts) (rootHist : Hist)
    (hl : loadHistory t = .ok rootHist) (hc : rootHist.children = []) (hdr : o.detectRenaming = false)
    (hdir : t.isDir = true)
    (hfirst : ∀ p, (p, false) ∈ visiblePaths (cHit env rootHist o) t →
      FirstOk (fun f => env.H f (fileContent t p)) rootHist.gens (posix p))
    (hexp : ExpectedPresent env t rootHist o)
    (hrefs : ∀ g, rootHist.gens.getLast? = some g → g.gen.refs = []) :
    ∃ w, (createFolder env t o).err = none ∧ (createFolder env t o).written = [w] ∧
      (createFolder env t o).report.mismatch = [] ∧ (createFolder env t o).report.missing = [] ∧
      (createFolder env t o).report.renamed = [] ∧
      writeOne rootHist (cSession env t rootHist o) env.rootName env.stamp "in-place" none rootHist [] = .ok w := by
  obtain ⟨w, heq, hw⟩ := createFolder_flat_outcome env t o rootHist hl hc hdir hfirst hrefs
  rw [show missingAfter (cHit env rootHist o) (cRen env t rootHist o).2.1 = [] from cMissingGen_nil hexp,
    cRen_noDr env t rootHist o hdr] at heq
  rw [cRen_noDr env t rootHist o hdr] at hw
  refine ⟨w, ?_, ?_, ?_, ?_, ?_, hw⟩ <;> rw [heq] <;> rfl

theorem createFolder_fresh_ok (env : Env) (t : Node) (o : CreateOpts) (hl : loadHistory t = .ok emptyHist)
    (hdr : o.detectRenaming = false) (hdir : t.isDir = true) :
    ∃ w, (createFolder env t o).err = none ∧ (createFolder env t o).written = [w] ∧
      (createFolder env t o).report.mismatch = [] ∧ (createFolder env t o).report.missing = [] ∧
      writeOne emptyHist (cSession env t emptyHist o) env.rootName env.stamp "in-place" none emptyHist [] = .ok w := by
  obtain ⟨w, h1, h2, h3, h4, -, h6⟩ := createFolder_flat_ok env t o emptyHist hl rfl hdr hdir
    (fun p _ => firstOk_nil _ _)
    (fun p hp => by rw [expectedPaths_emptyHist] at hp; cases hp)
    (fun g hg => by cases hg)
  exact ⟨w, h1, h2, h3, h4, h6⟩

end flat

/-! ## B. the generation a first seal writes -/

section firstSeal
open MhlProps.C02rec MhlProps.C04

/-! ### the records of the first generation -/

/-- what the commands need to know about a generation sealed from the tree `t` as seen through `hit` -/
structure SealedGen (env : Env) (t : Node) (hit : RelPath → Bool) (formats : List String) (g : Generation) :
    Prop where
  nodup : (g.records.map (·.path)).Nodup
  paths : ∀ s, s ∈ g.records.map (·.path) ↔ ∃ x ∈ visiblePaths hit t, posix x.1 = s
  prev : ∀ r ∈ g.records, r.prev = none
  files : ∀ p, (p, false) ∈ visiblePaths hit t →
    ∃ r ∈ g.records, r.path = posix p ∧ r.entries = origEntries env (fileContent t p) formats

theorem first_seal_gen (env : Env) (t : Node) (o : CreateOpts) (hd : t.NamesDistinct) (hn : t.NamesOk)
    (hf : o.formats ≠ []) (w : Written)
    (hw : writeOne emptyHist (cSession env t emptyHist o) env.rootName env.stamp "in-place" none emptyHist [] = .ok w) :
    Records (visiblePaths (cHit env emptyHist o) t) (fileContent t)
      (fun p => origEntries env (fileContent t p) o.formats) w.gen :=
  (writeOne_flat_gen env t o emptyHist rfl rfl hd hn hf w hw).congr fun _ _ => writtenEntries_nil env _ _ _

/-- at a first seal: what is left of `Records` for the look-ups over the history of the one generation -/
theorem Records.sealedGen {env : Env} {t : Node} {hit : RelPath → Bool} {formats : List String} {g : Generation}
    (F : Records (visiblePaths hit t) (fileContent t) (fun p => origEntries env (fileContent t p) formats) g) :
    SealedGen env t hit formats g :=
  ⟨F.nodup, F.paths, F.prev, fun p hp => by
    obtain ⟨r, hr, hpath, -, -, hents⟩ := F.file p hp
    exact ⟨r, hr, hpath, hents⟩⟩

end firstSeal

/-! ### a history of one generation without nested histories: its expected paths, its new paths -/

/-- `splitPathL`, through which `splitPath` of a literal is evaluated, on the three forms of path text -/
example : splitPathL "sub/deep/y.txt" = ["sub", "deep", "y.txt"] ∧ splitPathL "." = [] ∧ splitPathL "" = [""] := by
  decide +kernel

theorem mem_expectedPaths_of_flat {H : Hist} (hc : H.children = []) (q : RelPath) :
    q ∈ expectedPaths H ↔ q ∈ expectedOfGens H.root H.gens := by
  obtain ⟨root, gens, chain, e, kids⟩ := H
  cases hc
  simp only [expectedPaths, allDescendants, descList, List.foldl_cons, List.foldl_nil, Hist.root, Hist.gens]
  rw [mem_foldl_appendNew']
  simp

theorem isNewPath_single {g : Generation} (k : Nat) (chain : List ChainEntry) (e : Bool) (p : RelPath) :
    isNewPath (.mk [] [⟨k, g⟩] chain e []) p = true ↔ posix p ∉ g.records.map (·.path) := by
  simp [isNewPath, Hist.gens]

/-! ### the look-ups over a sealed generation -/

section sealed
open MhlProps.C02rec MhlProps.C04
variable {env : Env} {t : Node} {hit : RelPath → Bool} {formats : List String} {g : Generation}

/-- the record of a visible file, as `find_media_hash_for_path` finds it -/
theorem SealedGen.find_file (hs : SealedGen env t hit formats g) (p : RelPath)
    (hp : (p, false) ∈ visiblePaths hit t) :
    ∃ r, g.find (posix p) = some r ∧ r ∈ g.records ∧ r.path = posix p ∧
      r.entries = origEntries env (fileContent t p) formats := by
  obtain ⟨r, hr, hpath, hents⟩ := hs.files p hp
  exact ⟨r, hpath ▸ Generation.find_of_mem hs.nodup hs.prev hr, hr, hpath, hents⟩

theorem SealedGen.recordedName_eq (hs : SealedGen env t hit formats g) (k : Nat) (s : String) :
    recordedName [⟨k, g⟩] s = s :=
  MhlProps.C17.nameStep_id ⟨k, g⟩ s fun r hr _ => hs.prev r hr

/-- the ORIGINAL entry verify compares a visible file with: the entry of the least requested format name, carrying
the digest of the content at seal time -/
theorem SealedGen.findOriginal_eq (hs : SealedGen env t hit formats g) (hf : formats ≠ []) (k : Nat)
    (p : RelPath) (hp : (p, false) ∈ visiblePaths hit t) :
    findOriginal [⟨k, g⟩] (posix p) = some (mkOrig env (fileContent t p) (firstFormat formats)) := by
  obtain ⟨r, hfind, -, -, hents⟩ := hs.find_file p hp
  rw [findOriginal_eq_lookup, lookupEntry_cons _ hfind, hents, origEntries_find_original env _ formats hf]
  rfl

theorem SealedGen.firstOk (hs : SealedGen env t hit formats g) (k : Nat)
    (p : RelPath) (hp : (p, false) ∈ visiblePaths hit t) :
    FirstOk (fun f => env.H f (fileContent t p)) [⟨k, g⟩] (posix p) := by
  obtain ⟨r, hfind, -, -, hents⟩ := hs.find_file p hp
  intro fmt e he
  obtain ⟨g', hg', r', hr', hmem, hfe⟩ := findFirstOfFormat_spec _ _ _ _ he
  obtain rfl := List.mem_singleton.1 hg'
  obtain rfl := Option.some.inj (hfind.symm.trans hr')
  rw [← hfe]
  exact (origEntries_spec env _ formats e (hents ▸ hmem)).2.1

theorem SealedGen.expected (hs : SealedGen env t hit formats g) (hn : t.NamesOk) (k : Nat) (chain : List ChainEntry)
    (e : Bool) (p : RelPath) (hp : p ∈ expectedPaths (.mk [] [⟨k, g⟩] chain e [])) :
    ∃ d, (p, d) ∈ visiblePaths hit t := by
  simp only [expectedPaths, allDescendants, descList, List.foldl_cons, List.foldl_nil, Hist.root, Hist.gens,
    expectedOfGens, List.filter_nil] at hp
  rw [mem_foldl_appendNew'] at hp
  rcases hp with hp | hp
  · cases hp
  · rw [mem_foldl_appendNew (fun r : Record => ([] : RelPath) ++ splitPath r.path)] at hp
    rcases hp with hp | ⟨r, hr, rfl⟩
    · cases hp
    · obtain ⟨x, hx, hxs⟩ := (hs.paths r.path).1 (List.mem_map_of_mem hr)
      obtain ⟨q, d⟩ := x
      refine ⟨d, ?_⟩
      rw [← hxs, List.nil_append, splitPath_posix (visible_names_ok hit t hn _ hx).2]
      exact hx

theorem SealedGen.expected_of_visible (hs : SealedGen env t hit formats g) (hn : t.NamesOk) (k : Nat)
    (chain : List ChainEntry) (e : Bool) (p : RelPath) (d : Bool) (hp : (p, d) ∈ visiblePaths hit t) :
    p ∈ expectedPaths (.mk [] [⟨k, g⟩] chain e []) := by
  rw [mem_expectedPaths_of_flat rfl]
  show p ∈ expectedOfGens [] [⟨k, g⟩]
  obtain ⟨r, hr, hpath⟩ := List.mem_map.1 ((hs.paths (posix p)).2 ⟨(p, d), hp, rfl⟩)
  have := MhlProps.C17.recorded_expected [] [] ⟨k, g⟩ [] r hr (by simp)
  rw [hpath, splitPath_posix (visible_names_ok hit t hn _ hp).2] at this
  simpa using this

end sealed

end MhlModel
