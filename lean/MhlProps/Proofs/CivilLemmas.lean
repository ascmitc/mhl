/- Lemmas about `MhlModel.Civil`: the year-of-era formula of `civil_from_days` (its numerator at the turn of a year,
extended to every day by monotonicity); the March-based coordinates (year `Y` beginning on the first of
March, month `mp` = 0 for March … 11 for February, day line `(153 * mp + 2) / 5`) in which `daysFromCivil`, the
validity of a date and the part of `civilFromDays` after the year is found are plain arithmetic, with one lemma for the
table of month lengths; the order of dates; the time of day and the six fields; and the character-level shape of the
texts. -/
import MhlModel.Civil
import MhlProps.Proofs.TimeLemmas

namespace MhlModel.Civil

open MhlModel.Time (pad2 pad2Chars offsetText offsetChars)

/-- days before the first of March of year `y`, counted from 0000-03-01.  `gOf 400 = 146097`, the days of an era of
400 years, after which the calendar repeats (`gOf_period`); for `0 ≤ y < 400` the last term is 0 and `gOf y` is the
first day (of the era) of year `y` of the era as `civilFromDays` writes it. -/
def gOf (y : Int) : Int := 365 * y + y / 4 - y / 100 + y / 400

/-- the calendar repeats after 400 years = 146097 days -/
theorem gOf_period (y era : Int) : gOf (y + era * 400) = gOf y + era * 146097 := by
  unfold gOf; omega

theorem gOf_mono (a b : Int) (h : a ≤ b) : gOf a ≤ gOf b := by
  unfold gOf; omega

theorem isLeap_iff (y : Int) : isLeap y = true ↔ (y % 4 = 0 ∧ (y % 100 ≠ 0 ∨ y % 400 = 0)) := by
  simp [isLeap]

/-- the length of the March-based year `Y`: its leap day is the 29th of February of the calendar year `Y + 1` -/
theorem gOf_succ (Y : Int) : gOf (Y + 1) - gOf Y = if isLeap (Y + 1) then 366 else 365 := by
  unfold gOf
  by_cases lp : isLeap (Y + 1) = true
  · rw [if_pos lp]; rw [isLeap_iff] at lp; omega
  · rw [if_neg lp]; rw [isLeap_iff] at lp; omega

/-! ### the year of the era -/

/-- the numerator of Hinnant's year-of-era formula: the day of the era less the leap days before it (one per 1460 =
4 · 365 days, none per 36524 = the days of a century, one on day 146096, the last of the era) -/
def nOf (doe : Int) : Int := doe - doe / 1460 + doe / 36524 - doe / 146096
def yoeOf (doe : Int) : Int := nOf doe / 365

/-- `x - x / 1460` is monotone, and so is `c - c / 4` at `c = x / 36524` (146096 = 4 · 36524) -/
theorem nOf_mono (a b : Int) (hab : a ≤ b) : nOf a ≤ nOf b := by
  have h1 : a - a / 1460 ≤ b - b / 1460 := by omega
  have h2 : a / 36524 - a / 146096 ≤ b / 36524 - b / 146096 := by omega
  unfold nOf; omega

/-- on the first day of year `y` of the era the numerator has reached `365 * y`: up to that day one day in 1460 was
taken off for each of the `y / 4` leap days and none was missed (the day number is `1461 * (y / 4)` plus less than
three years less `y / 100`), and one was given back for each of the `y / 100` centuries begun -/
theorem nOf_first (y : Int) (h0 : 0 ≤ y) (h1 : y < 400) : 365 * y ≤ nOf (gOf y) := by
  rw [show gOf y = 365 * y + y / 4 - y / 100 by unfold gOf; omega]
  have hd : (365 * y + y / 4 - y / 100) / 1460 = y / 4 := by omega
  have he : y / 100 ≤ (365 * y + y / 4 - y / 100) / 36524 := by omega
  have hf : (365 * y + y / 4 - y / 100) / 146096 = 0 := by omega
  unfold nOf; rw [hd, hf]; omega

/-- … and on the day before it has not; `y = 400` is the first year of the next era, the day before it the 400-year
leap day, which the last term of the numerator takes off -/
theorem nOf_last (y : Int) (h0 : 1 ≤ y) (h1 : y ≤ 400) : nOf (gOf y - 1) < 365 * y := by
  have hd : y / 4 ≤ (gOf y - 1) / 1460 := by unfold gOf; omega
  have he : (gOf y - 1) / 36524 ≤ y / 100 := by unfold gOf; omega
  have hf : y / 400 ≤ (gOf y - 1) / 146096 := by unfold gOf; omega
  unfold nOf; unfold gOf at *; omega

/-- the numerator counts the years begun: day `doe` of the era is on or after the first day of year `y` exactly if
the numerator has reached `365 * y` (the two values at the turn of the year, carried to every day by monotonicity) -/
theorem gOf_le_iff (y doe : Int) (hy0 : 0 ≤ y) (hy1 : y ≤ 400) (h0 : 0 ≤ doe) (h1 : doe < 146097) :
    gOf y ≤ doe ↔ 365 * y ≤ nOf doe := by
  constructor
  · intro h
    exact Int.le_trans (nOf_first y hy0 (by unfold gOf at h; omega)) (nOf_mono _ _ h)
  · intro h
    apply Decidable.byContradiction; intro hc
    have := nOf_mono doe (gOf y - 1) (by omega)
    have := nOf_last y (by unfold gOf at hc; omega) hy1
    omega

/-- the year-of-era formula is exact on the whole era: the computed year is in 0..399 (`gOf_le_iff` at 0 and at
400) and the day lies between the first day of that year and the first day of the next -/
theorem yoe_key (doe : Int) (h0 : 0 ≤ doe) (h1 : doe < 146097) :
    0 ≤ yoeOf doe ∧ yoeOf doe ≤ 399 ∧ gOf (yoeOf doe) ≤ doe ∧ doe < gOf (yoeOf doe + 1) := by
  have b0 : 365 * 0 ≤ nOf doe := (gOf_le_iff 0 doe (by omega) (by omega) h0 h1).1 h0
  have b1 : ¬ 365 * 400 ≤ nOf doe := mt (gOf_le_iff 400 doe (by omega) (by omega) h0 h1).2 (Int.not_le.2 h1)
  have hdef : 0 ≤ yoeOf doe ∧ yoeOf doe ≤ 399 ∧ 365 * yoeOf doe ≤ nOf doe ∧ ¬ 365 * (yoeOf doe + 1) ≤ nOf doe := by
    unfold yoeOf; omega
  generalize yoeOf doe = Y at *
  exact ⟨hdef.1, hdef.2.1, (gOf_le_iff Y doe hdef.1 (by omega) h0 h1).2 hdef.2.2.1,
    Int.not_le.1 (mt (gOf_le_iff (Y + 1) doe (by omega) (by omega) h0 h1).1 hdef.2.2.2)⟩

/-- the statement of `yoe_key` with `yoeOf`, `nOf` and `gOf` spelled out as they occur in `civilFromDays` -/
theorem yoe_key' (doe : Int) (h0 : 0 ≤ doe) (h1 : doe < 146097) :
    let yoe := (doe - doe / 1460 + doe / 36524 - doe / 146096) / 365
    0 ≤ yoe ∧ yoe ≤ 399 ∧ 365 * yoe + yoe / 4 - yoe / 100 ≤ doe ∧
      doe < 365 * (yoe + 1) + (yoe + 1) / 4 - (yoe + 1) / 100 + (yoe + 1) / 400 := by
  obtain ⟨k0, k1, k2, k3⟩ := yoe_key doe h0 h1
  refine ⟨k0, k1, ?_, k3⟩
  show 365 * yoeOf doe + yoeOf doe / 4 - yoeOf doe / 100 ≤ doe
  unfold gOf at k2; omega

/-! ### March-based coordinates -/

/-- the March-based month number (March = 0 … February = 11).  Month `mp` begins on day `(153 * mp + 2) / 5` of the
March-based year: 153 days make the five months March–July and again August–December. -/
def mpOf (m : Nat) : Int := if m > 2 then (m : Int) - 3 else (m : Int) + 9

/-- the March-based year of month `m` of the calendar year `y`: January and February belong to the year before -/
def yOf (y : Int) (m : Nat) : Int := if m ≤ 2 then y - 1 else y

/-- `daysFromCivil` without the split into eras -/
theorem daysFromCivil_eq (y : Int) (m d : Nat) :
    daysFromCivil y m d = gOf (yOf y m) + (153 * mpOf m + 2) / 5 + d - 1 - 719468 := by
  unfold daysFromCivil gOf mpOf yOf
  simp only []
  generalize (if m ≤ 2 then y - 1 else y) = Y
  generalize (153 * (if m > 2 then (m : Int) - 3 else (m : Int) + 9) + 2) / 5 = q
  omega

/-- a month ends where the next one begins on the March-based day line `(153 * mp + 2) / 5`, or where the year ends:
that is February, the last month of the March-based year -/
theorem daysInMonth_eq (y : Int) (m : Nat) (hm1 : 1 ≤ m) (hm12 : m ≤ 12) :
    (daysInMonth y m : Int) = min ((153 * (mpOf m + 1) + 2) / 5) (gOf (yOf y m + 1) -
      gOf (yOf y m)) - (153 * mpOf m + 2) / 5 := by
  have hL := gOf_succ (yOf y m)
  generalize gOf (yOf y m + 1) - gOf (yOf y m) = L at hL ⊢
  have hL' : 365 ≤ L := by rw [hL]; split <;> omega
  -- a row of the table: the next month begins on day `b ≤ 365 ≤ L`, so the end of the year does not cut the month short
  have row : ∀ a b c : Int, b ≤ 365 → a = b - c → a = min b L - c := fun a b c hb h => by omega
  unfold daysInMonth
  -- `split` names the alternatives of the `match` in `daysInMonth` in order: `h_2` is February (the only month whose
  -- end is the end of the March-based year), `h_13` the wildcard (no month); the other eleven are rows of the table
  split
  case h_2 =>
    rw [show yOf y 2 = y - 1 from rfl, Int.sub_add_cancel] at hL
    rw [hL, show mpOf 2 = 11 from rfl]
    cases isLeap y <;> rfl
  case h_13 => simp only [imp_false] at *; omega
  all_goals exact row _ _ _ (by decide) (by decide)

theorem daysInMonth_le (y : Int) (m : Nat) : daysInMonth y m ≤ 31 := by
  unfold daysInMonth
  split <;> (try split) <;> omega

/-- a date of the calendar -/
def validDate (c : Int × Nat × Nat) : Prop := 1 ≤ c.2.1 ∧ c.2.1 ≤ 12 ∧ 1 ≤ c.2.2 ∧ c.2.2 ≤ daysInMonth c.1 c.2.1

instance (c : Int × Nat × Nat) : Decidable (validDate c) := by unfold validDate; infer_instance

/-- a date of the calendar in March-based coordinates: its day of the year lies before the next month and before the
next year -/
theorem validDate_iff (y : Int) (m d : Nat) : validDate (y, m, d) ↔ 1 ≤ m ∧ m ≤ 12 ∧ 1 ≤ d ∧
    (153 * mpOf m + 2) / 5 + (d : Int) - 1 < (153 * (mpOf m + 1) + 2) / 5 ∧
    (153 * mpOf m + 2) / 5 + (d : Int) - 1 <
      gOf (yOf y m + 1) - gOf (yOf y m) := by
  unfold validDate
  simp only []
  constructor
  · intro ⟨h1, h2, h3, h4⟩
    have := daysInMonth_eq y m h1 h2
    omega
  · intro ⟨h1, h2, h3, h4, h5⟩
    have := daysInMonth_eq y m h1 h2
    omega

/-- `12 * y + m` numbers the months of all years in order; the March-based year and month are the same number
shifted by 3 -/
theorem mpOf_line (y : Int) (m : Nat) (hm1 : 1 ≤ m) (hm12 : m ≤ 12) :
    0 ≤ mpOf m ∧ mpOf m ≤ 11 ∧ 12 * yOf y m + mpOf m = 12 * y + m - 3 := by
  unfold mpOf yOf; omega

/-- the date of day `doy` (from 0) of the March-based year `Y`: the part of `civilFromDays` after the year is found -/
def dateOf (Y doy : Int) : Int × Nat × Nat :=
  let mp := (5 * doy + 2) / 153
  let d := doy - (153 * mp + 2) / 5 + 1
  let m := if mp < 10 then mp + 3 else mp - 9
  (if m ≤ 2 then Y + 1 else Y, m.toNat, d.toNat)

/-- the month formula of `civil_from_days` is to the day line what the year-of-era formula is to `gOf` (`gOf_le_iff`):
month `mp` has begun by day `doy` exactly if `mp` is at most the computed month -/
theorem line_le_iff (mp doy : Int) : (153 * mp + 2) / 5 ≤ doy ↔ mp ≤ (5 * doy + 2) / 153 := by omega

/-- read at 0, at 12 (day 367), at the computed month and at the next -/
theorem mp_of_doy (doy : Int) (h0 : 0 ≤ doy) (h1 : doy ≤ 365) :
    0 ≤ (5 * doy + 2) / 153 ∧ (5 * doy + 2) / 153 ≤ 11 ∧ (153 * ((5 * doy + 2) / 153) + 2) / 5 ≤ doy ∧
      doy < (153 * ((5 * doy + 2) / 153 + 1) + 2) / 5 := by
  generalize hmp : (5 * doy + 2) / 153 = mp
  have l0 := (line_le_iff 0 doy).1 h0
  have l12 := mt (line_le_iff 12 doy).2 (show ¬ (153 * 12 + 2) / 5 ≤ doy by omega)
  have l1 := (line_le_iff mp doy).2
  have l2 := mt (line_le_iff (mp + 1) doy).1
  omega

/-- the March-based coordinates of `dateOf Y doy`: year `Y`, the month that `mp_of_doy` finds, and `doy` is the first
day of that month plus the day of the month -/
theorem dateOf_march (Y doy : Int) (h0 : 0 ≤ doy) (h1 : doy ≤ 365) :
    1 ≤ (dateOf Y doy).2.1 ∧ (dateOf Y doy).2.1 ≤ 12 ∧ 1 ≤ (dateOf Y doy).2.2 ∧
    yOf (dateOf Y doy).1 (dateOf Y doy).2.1 = Y ∧
    (153 * mpOf (dateOf Y doy).2.1 + 2) / 5 + ((dateOf Y doy).2.2 : Int) - 1 = doy ∧
    doy < (153 * (mpOf (dateOf Y doy).2.1 + 1) + 2) / 5 := by
  obtain ⟨m0, m1, q0, q1⟩ := mp_of_doy doy h0 h1
  unfold dateOf mpOf yOf
  simp only []
  generalize (5 * doy + 2) / 153 = mp at *
  omega

theorem dateOf_spec (Y doy : Int) (h0 : 0 ≤ doy) (h1 : doy < gOf (Y + 1) - gOf Y) :
    validDate (dateOf Y doy) ∧
      daysFromCivil (dateOf Y doy).1 (dateOf Y doy).2.1 (dateOf Y doy).2.2 = gOf Y + doy - 719468 := by
  have hL := gOf_succ Y
  obtain ⟨a1, a2, a3, eY, ed, lt⟩ := dateOf_march Y doy h0 (by split at hL <;> omega)
  constructor
  · exact (validDate_iff (dateOf Y doy).1 (dateOf Y doy).2.1 (dateOf Y doy).2.2).2
      ⟨a1, a2, a3, by omega, by rw [eY]; omega⟩
  · rw [daysFromCivil_eq, eY]; omega

theorem civilFromDays_spec (z : Int) : ∃ Y doy : Int, gOf Y + doy = z + 719468 ∧ 0 ≤ doy ∧
    doy < gOf (Y + 1) - gOf Y ∧ civilFromDays z = dateOf Y doy := by
  have hz : 0 ≤ z + 719468 - (z + 719468) / 146097 * 146097 ∧
    z + 719468 - (z + 719468) / 146097 * 146097 < 146097 := by omega
  -- `civilFromDays` with its year-of-era formula read as `yoeOf` and its last four lines as `dateOf`
  have e : civilFromDays z = (let era := (z + 719468) / 146097; let doe := z + 719468 - era * 146097
      let yoe := yoeOf doe; dateOf (yoe + era * 400) (doe - (365 * yoe + yoe / 4 - yoe / 100))) := rfl
  simp only [] at e
  generalize (z + 719468) / 146097 = era at *
  generalize hdoe : z + 719468 - era * 146097 = doe at *
  obtain ⟨k0, k1, k2, k3⟩ := yoe_key doe hz.1 hz.2
  have g0 := gOf_period (yoeOf doe) era
  have g1 := gOf_period (yoeOf doe + 1) era
  have e0 : gOf (yoeOf doe) = 365 * yoeOf doe + yoeOf doe / 4 - yoeOf doe / 100 := by unfold gOf; omega
  refine ⟨_, _, ?_, ?_, ?_, e⟩
  · omega
  · omega
  · rw [show yoeOf doe + era * 400 + 1 = yoeOf doe + 1 + era * 400 by omega]; omega

theorem civilFromDays_valid (z : Int) : validDate (civilFromDays z) := by
  obtain ⟨Y, doy, _, h0, h1, e⟩ := civilFromDays_spec z
  rw [e]; exact (dateOf_spec Y doy h0 h1).1

/-! ### the order of dates -/

/-- the lexicographic (= chronological) order on (year, month, day) -/
def dateLt (a b : Int × Nat × Nat) : Prop :=
  a.1 < b.1 ∨ (a.1 = b.1 ∧ (a.2.1 < b.2.1 ∨ (a.2.1 = b.2.1 ∧ a.2.2 < b.2.2)))

instance (a b : Int × Nat × Nat) : Decidable (dateLt a b) := by unfold dateLt; infer_instance

theorem dateLt_trichotomy (a b : Int × Nat × Nat) : dateLt a b ∨ a = b ∨ dateLt b a := by
  obtain ⟨a1, a2, a3⟩ := a
  obtain ⟨b1, b2, b3⟩ := b
  unfold dateLt
  simp only [Prod.mk.injEq]
  omega

/-! ### time of day and the six fields -/

theorem hms_spec (s : Int) (h0 : 0 ≤ s) (h1 : s < 86400) :
    (hms s).1 < 24 ∧ (hms s).2.1 < 60 ∧ (hms s).2.2 < 60 ∧
      ((hms s).1 : Int) * 3600 + ((hms s).2.1 : Int) * 60 + ((hms s).2.2 : Int) = s := by
  unfold hms; simp only []
  rw [Int.toNat_of_nonneg (by omega : 0 ≤ s / 3600), Int.toNat_of_nonneg (by omega : 0 ≤ s % 3600 / 60),
    Int.toNat_of_nonneg (by omega : 0 ≤ s % 60)]
  omega

theorem fields_eq (t : Int) : fields t = ((civilFromDays (t / 86400)).1, (civilFromDays (t / 86400)).2.1,
    (civilFromDays (t / 86400)).2.2, (hms (t % 86400)).1, (hms (t % 86400)).2.1, (hms (t % 86400)).2.2) := rfl

theorem fields_ranges (t : Int) : 1 ≤ (fields t).2.1 ∧ (fields t).2.1 ≤ 12 ∧ 1 ≤ (fields t).2.2.1 ∧
    (fields t).2.2.1 ≤ 31 ∧ (fields t).2.2.2.1 < 24 ∧ (fields t).2.2.2.2.1 < 60 ∧ (fields t).2.2.2.2.2 < 60 := by
  rw [fields_eq]
  obtain ⟨v1, v2, v3, v4⟩ := civilFromDays_valid (t / 86400)
  have v5 := daysInMonth_le (civilFromDays (t / 86400)).1 (civilFromDays (t / 86400)).2.1
  obtain ⟨s1, s2, s3, _⟩ := hms_spec (t % 86400) (by omega) (by omega)
  simp only []
  exact ⟨v1, v2, v3, by omega, s1, s2, s3⟩

/-! ### the texts on characters -/

theorem toDigits_hundred (n : Nat) (h : 100 ≤ n) :
    Nat.toDigits 10 n = Nat.toDigits 10 (n / 100) ++ pad2Chars (n % 100) := by
  rw [Nat.toDigits_of_base_le (by omega) (by omega : 10 ≤ n),
    Nat.toDigits_of_base_le (by omega) (by omega : 10 ≤ n / 10), List.append_assoc]
  simp only [pad2Chars, List.cons_append, List.nil_append]
  rw [show n / 10 / 10 = n / 100 by omega, show n % 100 / 10 = n / 10 % 10 by omega,
    show n % 100 % 10 = n % 10 by omega]

theorem pad2_toDigits (k : Nat) (h : k < 100) :
    (if k < 10 then "0" else "").toList ++ Nat.toDigits 10 k = pad2Chars k := by
  have := Time.pad2_toList k h
  simpa [pad2] using this

/-- a year of four digits is two fields of two digits -/
theorem pad4_toList (y : Int) (h0 : 0 ≤ y) (h1 : y ≤ 9999) :
    (pad4 y).toList = pad2Chars (y.toNat / 100) ++ pad2Chars (y.toNat % 100) := by
  obtain ⟨n, rfl⟩ := Int.eq_ofNat_of_zero_le h0
  have e0 : ¬ ((n : Int) < 0) := by omega
  have hd : (toString n).toList = Nat.toDigits 10 n := by simp
  simp only [pad4, e0, if_false, Int.natAbs_natCast, Int.toNat_natCast, String.toList_append, hd]
  by_cases c : n < 100
  · rw [show n / 100 = 0 by omega, show n % 100 = n by omega, ← pad2_toDigits n c]
    by_cases c1 : n < 10 <;> simp [c, c1, pad2Chars]
  · rw [toDigits_hundred n (by omega), ← pad2_toDigits (n / 100) (by omega)]
    by_cases c1 : n < 1000 <;> simp [c, c1, show ¬ n < 10 by omega, show (n / 100 < 10) = (n < 1000) by simp; omega]

/-- "YYYY-MM-DD" `a` "HH" `b` "MM" `b` "SS" on characters: the stamp has `a = "_"` and no `b`, the ISO text has
`a = "T"` and `b = ":"` -/
def dateChars (a b : List Char) (f : Int × Nat × Nat × Nat × Nat × Nat) : List Char :=
  pad2Chars (f.1.toNat / 100) ++ (pad2Chars (f.1.toNat % 100) ++ (['-'] ++ (pad2Chars f.2.1 ++ (['-'] ++ (pad2Chars f.2.2.1 ++ (a ++ (pad2Chars f.2.2.2.1 ++
    (b ++ (pad2Chars f.2.2.2.2.1 ++ (b ++ pad2Chars f.2.2.2.2.2))))))))))

theorem fields_toList (t : Int) (h0 : 0 ≤ (fields t).1) (h1 : (fields t).1 ≤ 9999) :
    (pad4 (fields t).1).toList = pad2Chars ((fields t).1.toNat / 100) ++ pad2Chars ((fields t).1.toNat % 100) ∧
    (pad2 (fields t).2.1).toList = pad2Chars (fields t).2.1 ∧
    (pad2 (fields t).2.2.1).toList = pad2Chars (fields t).2.2.1 ∧
    (pad2 (fields t).2.2.2.1).toList = pad2Chars (fields t).2.2.2.1 ∧
    (pad2 (fields t).2.2.2.2.1).toList = pad2Chars (fields t).2.2.2.2.1 ∧
    (pad2 (fields t).2.2.2.2.2).toList = pad2Chars (fields t).2.2.2.2.2 := by
  obtain ⟨r1, r2, r3, r4, r5, r6, r7⟩ := fields_ranges t
  exact ⟨pad4_toList _ h0 h1, Time.pad2_toList _ (by omega), Time.pad2_toList _ (by omega),
    Time.pad2_toList _ (by omega), Time.pad2_toList _ (by omega), Time.pad2_toList _ (by omega)⟩

theorem stampOfEpoch_toList (t : Int) (h0 : 0 ≤ (fields t).1) (h1 : (fields t).1 ≤ 9999) :
    (stampOfEpoch t).toList = dateChars ['_'] [] (fields t) := by
  obtain ⟨p1, p2, p3, p4, p5, p6⟩ := fields_toList t h0 h1
  simp only [stampOfEpoch, String.toList_append, p1, p2, p3, p4, p5, p6]
  simp [dateChars]

theorem isoOfLocal_toList (l off : Int) (h0 : 0 ≤ (fields l).1) (h1 : (fields l).1 ≤ 9999)
    (ho : off.natAbs < 360000) :
    (isoOfLocal l off).toList = dateChars ['T'] [':'] (fields l) ++ offsetChars off := by
  obtain ⟨p1, p2, p3, p4, p5, p6⟩ := fields_toList l h0 h1
  simp only [isoOfLocal, String.toList_append, p1, p2, p3, p4, p5, p6, Time.offsetText_toList off ho]
  simp [dateChars]

/-- the texts of two instants with four-digit years agree only if all six fields do: every piece is a prefix code -/
theorem dateChars_inj (t₁ t₂ : Int) (h₁ : 0 ≤ (fields t₁).1 ∧ (fields t₁).1 ≤ 9999)
    (h₂ : 0 ≤ (fields t₂).1 ∧ (fields t₂).1 ≤ 9999) (a b : List Char)
    (e : dateChars a b (fields t₁) = dateChars a b (fields t₂)) : fields t₁ = fields t₂ := by
  have r₁ := fields_ranges t₁
  have r₂ := fields_ranges t₂
  generalize fields t₁ = f at *
  generalize fields t₂ = g at *
  obtain ⟨fy, fm, fd, fh, fi, fs⟩ := f
  obtain ⟨gy, gm, gd, gh, gi, gs⟩ := g
  simp only [dateChars] at *
  obtain ⟨y1, e⟩ := Time.pad2Chars_append_inj _ _ (by omega) (by omega) _ _ e
  obtain ⟨y2, e⟩ := Time.pad2Chars_sep_inj _ _ (by omega) (by omega) _ _ _ e
  obtain ⟨em, e⟩ := Time.pad2Chars_sep_inj _ _ (by omega) (by omega) _ _ _ e
  obtain ⟨ed, e⟩ := Time.pad2Chars_sep_inj _ _ (by omega) (by omega) _ _ _ e
  obtain ⟨eh, e⟩ := Time.pad2Chars_sep_inj _ _ (by omega) (by omega) _ _ _ e
  obtain ⟨ei, e⟩ := Time.pad2Chars_sep_inj _ _ (by omega) (by omega) _ _ _ e
  have es := Time.pad2Chars_inj _ _ (by omega) (by omega) e
  have ey : fy = gy := by omega
  subst ey em ed eh ei es
  rfl

end MhlModel.Civil
