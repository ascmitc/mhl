/-
The specification side of the directory hashes (`MhlModel/DirHash.lean`), for C07 and for DirHashImplLemmas (which
compares the commands with it through `kidOf_d`, `visKids_d`, `nodeHashes_dir`, `hashOfList_perm`).

* `hashOfList`: its pre-image is a function of the multiset of the digests, and determines it when the digests decode
  well (`DecodesWell`);
* `ByteArray.toList` in a form the kernel evaluates;
* `nodeHashes` of a directory through its visible children (`visKids_d`), under `Node.rename`, and its dependence on
  the ignore test and the position.
-/
import MhlModel.DirHash
import MhlProps.Proofs.ListLemmas

namespace MhlModel

/-! ## the pre-image of `hashOfList` -/

/-- the byte string that `hashOfList` feeds to the hash function -/
def preimage (D : DecodeFn) (fmt : String) (l : List String) : Bytes :=
  (isort strLe l).flatMap fun s => (D fmt s).getD []

theorem hashOfList_eq (H : HashFn) (D : DecodeFn) (fmt : String) (l : List String) :
    hashOfList H D fmt l = H fmt (preimage D fmt l) := rfl

@[simp] theorem preimage_nil (D : DecodeFn) (fmt : String) : preimage D fmt [] = [] := rfl

@[simp] theorem preimage_singleton (D : DecodeFn) (fmt : String) (s : String) :
    preimage D fmt [s] = (D fmt s).getD [] := by
  simp [preimage]

theorem preimage_perm (D : DecodeFn) (fmt : String) {l₁ l₂ : List String} (h : l₁.Perm l₂) :
    preimage D fmt l₁ = preimage D fmt l₂ := by
  unfold preimage
  rw [(isort_strLe_eq_iff_perm l₁ l₂).2 h]

theorem hashOfList_perm (H : HashFn) (D : DecodeFn) (fmt : String) {l₁ l₂ : List String} (h : l₁.Perm l₂) :
    hashOfList H D fmt l₁ = hashOfList H D fmt l₂ :=
  congrArg (H fmt) (preimage_perm D fmt h)

/-- `D fmt` decodes every string of `S` to exactly `L` bytes, and decodes different strings of `S` differently
(true of hex decoding on the digests of one format) -/
structure DecodesWell (D : DecodeFn) (fmt : String) (L : Nat) (S : List String) : Prop where
  len : ∀ s ∈ S, (D fmt s).map List.length = some L
  inj : ∀ s ∈ S, ∀ t ∈ S, D fmt s = D fmt t → s = t

instance (D : DecodeFn) (fmt : String) (L : Nat) (S : List String) : Decidable (DecodesWell D fmt L S) :=
  decidable_of_iff
    ((∀ s ∈ S, (D fmt s).map List.length = some L) ∧ (∀ s ∈ S, ∀ t ∈ S, D fmt s = D fmt t → s = t))
    ⟨fun ⟨a, b⟩ => ⟨a, b⟩, fun ⟨a, b⟩ => ⟨a, b⟩⟩

theorem DecodesWell.mono {D : DecodeFn} {fmt : String} {L : Nat} {S T : List String}
    (h : DecodesWell D fmt L S) (hsub : ∀ s ∈ T, s ∈ S) : DecodesWell D fmt L T :=
  ⟨fun s hs => h.len s (hsub s hs), fun s hs t ht => h.inj s (hsub s hs) t (hsub t ht)⟩

theorem DecodesWell.eq_some {D : DecodeFn} {fmt : String} {L : Nat} {S : List String}
    (h : DecodesWell D fmt L S) {s : String} (hs : s ∈ S) : ∃ b, D fmt s = some b ∧ b.length = L := by
  have := h.len s hs
  cases hd : D fmt s with
  | none => simp [hd] at this
  | some b => exact ⟨b, rfl, by simpa [hd] using this⟩

theorem perm_of_preimage_eq (D : DecodeFn) (fmt : String) (L : Nat) (hL : 0 < L) (l₁ l₂ : List String)
    (hD : DecodesWell D fmt L (l₁ ++ l₂)) (h : preimage D fmt l₁ = preimage D fmt l₂) : l₁.Perm l₂ := by
  rw [← isort_strLe_eq_iff_perm]
  have left : ∀ s ∈ isort strLe l₁, s ∈ l₁ ++ l₂ := fun s hs => List.mem_append_left _ ((mem_isort _ _ _).1 hs)
  have right : ∀ s ∈ isort strLe l₂, s ∈ l₁ ++ l₂ := fun s hs => List.mem_append_right _ ((mem_isort _ _ _).1 hs)
  have len : ∀ s ∈ l₁ ++ l₂, ((D fmt s).getD []).length = L := by
    intro s hs
    obtain ⟨b, hb, hl⟩ := hD.eq_some hs
    rw [hb, Option.getD_some, hl]
  refine flatMap_inj_of_fixed_length (fun s => (D fmt s).getD []) L hL _ _
    (fun s hs => len s (left s hs)) (fun s hs => len s (right s hs)) (fun s hs t ht hst => ?_) h
  obtain ⟨b, hb, -⟩ := hD.eq_some (left s hs)
  obtain ⟨b', hb', -⟩ := hD.eq_some (right t ht)
  apply hD.inj s (left s hs) t (right t ht)
  rw [hb, hb'] at hst ⊢
  exact congrArg some hst

theorem hashOfList_replace_ne (H : HashFn) (D : DecodeFn) (fmt : String) (L : Nat) (hL : 0 < L)
    (A B : List String) (x y : String) (hxy : x ≠ y)
    (hD : DecodesWell D fmt L ((A ++ x :: B) ++ (A ++ y :: B)))
    (hinj : H fmt (preimage D fmt (A ++ x :: B)) = H fmt (preimage D fmt (A ++ y :: B)) →
      preimage D fmt (A ++ x :: B) = preimage D fmt (A ++ y :: B)) :
    hashOfList H D fmt (A ++ x :: B) ≠ hashOfList H D fmt (A ++ y :: B) := by
  intro h
  have hp := perm_of_preimage_eq D fmt L hL _ _ hD (hinj h)
  rw [List.perm_append_left_iff] at hp
  have hp' : ([x] ++ B).Perm ([y] ++ B) := hp
  rw [List.perm_append_right_iff, List.singleton_perm_singleton] at hp'
  exact hxy hp'

/-! ## `ByteArray.toList` (defined by a well-founded loop) is the list of the underlying array; makes
`"lit".toUTF8.toList` evaluable by `decide` -/

theorem byteArray_toList_loop_eq (bs : ByteArray) (i : Nat) (r : List UInt8) :
    ByteArray.toList.loop bs i r = r.reverse ++ bs.data.toList.drop i := by
  fun_induction ByteArray.toList.loop bs i r with
  | case1 i r hlt ih =>
    have hlt' : i < bs.data.toList.length := hlt
    have hget : bs.get! i = bs.data.toList[i] := by
      show bs.data[i]! = _
      rw [getElem!_pos bs.data i hlt, Array.getElem_toList]
    rw [ih, List.drop_eq_getElem_cons hlt', List.reverse_cons, List.append_assoc, hget]
    rfl
  | case2 i r hge => rw [List.drop_eq_nil_of_le (Nat.le_of_not_lt hge), List.append_nil]

theorem byteArray_toList_eq (bs : ByteArray) : bs.toList = bs.data.toList :=
  byteArray_toList_loop_eq bs 0 []

/-- `bindName` with the kernel-evaluable reading of the UTF-8 bytes (for `decide` on concrete trees) -/
def bindNameC (H : HashFn) (D : DecodeFn) (fmt : String) (k : KidHash) : String :=
  H fmt (k.name.toUTF8.data.toList ++ (D fmt k.bind).getD [])

theorem bindName_eq_bindNameC (H : HashFn) (D : DecodeFn) (fmt : String) :
    bindName H D fmt = bindNameC H D fmt := by
  funext k
  rw [bindName, bindNameC, byteArray_toList_eq]

/-! ## `nodeHashes` of a directory through its visible children -/

/-- the `KidHash` of one child of the directory at `here` -/
def kidOf_d (H : HashFn) (D : DecodeFn) (fmt : String) (hit : RelPath → Bool) (here : RelPath) (c : Node) : KidHash :=
  ⟨c.name, (nodeHashes H D fmt hit (here ++ [c.name]) c).1, (nodeHashes H D fmt hit (here ++ [c.name]) c).2⟩

/-- the visible children of the directory at `here`, with their digests -/
def visKids_d (H : HashFn) (D : DecodeFn) (fmt : String) (hit : RelPath → Bool) (here : RelPath)
    (cs : List Node) : List KidHash :=
  (cs.map (kidOf_d H D fmt hit here)).filter fun k => !hit (here ++ [k.name])

section
variable (H : HashFn) (D : DecodeFn) (fmt : String) (hit : RelPath → Bool) (here : RelPath)

theorem kidHashes_eq_map (cs : List Node) : kidHashes H D fmt hit here cs = cs.map (kidOf_d H D fmt hit here) := by
  induction cs with
  | nil => rw [kidHashes]; rfl
  | cons c cs ih => rw [kidHashes, ih]; rfl

theorem nodeHashes_dir (n : String) (cs : List Node) (h : Option HistStore) :
    nodeHashes H D fmt hit here (.dir n cs h) =
      (hashOfList H D fmt ((visKids_d H D fmt hit here cs).map (·.content)),
       hashOfList H D fmt ((visKids_d H D fmt hit here cs).map (bindName H D fmt))) := by
  rw [nodeHashes, kidHashes_eq_map]; rfl

theorem nodeHashes_file (n : String) (c : Bytes) : nodeHashes H D fmt hit here (.file n c) = (H fmt c, H fmt c) := by
  rw [nodeHashes]

theorem visKids_d_append (l₁ l₂ : List Node) :
    visKids_d H D fmt hit here (l₁ ++ l₂) = visKids_d H D fmt hit here l₁ ++ visKids_d H D fmt hit here l₂ := by
  simp [visKids_d]

theorem visKids_d_cons (c : Node) (cs : List Node) :
    visKids_d H D fmt hit here (c :: cs) =
      (if hit (here ++ [c.name]) then [] else [kidOf_d H D fmt hit here c]) ++ visKids_d H D fmt hit here cs := by
  simp only [visKids_d, List.map_cons, List.filter_cons, kidOf_d]
  cases hit (here ++ [c.name]) <;> simp

theorem visKids_d_insert_visible (pre post : List Node) (y : Node) (hy : hit (here ++ [y.name]) = false) :
    visKids_d H D fmt hit here (pre ++ y :: post) =
      visKids_d H D fmt hit here pre ++ kidOf_d H D fmt hit here y :: visKids_d H D fmt hit here post := by
  rw [visKids_d_append, visKids_d_cons, hy]
  rfl

theorem visKids_d_perm {cs₁ cs₂ : List Node} (h : cs₁.Perm cs₂) :
    (visKids_d H D fmt hit here cs₁).Perm (visKids_d H D fmt hit here cs₂) :=
  (h.map _).filter _

@[simp] theorem Node.name_rename (n' : String) (t : Node) : (t.rename n').name = n' := by
  cases t <;> rfl

theorem nodeHashes_rename (n' : String) (t : Node) : nodeHashes H D fmt hit here (t.rename n') = nodeHashes H D fmt hit here t := by
  cases t with
  | file n c => simp only [Node.rename]; rw [nodeHashes, nodeHashes]
  | dir n cs h => simp only [Node.rename]; rw [nodeHashes, nodeHashes]

end

/-! ## `nodeHashes` depends on the ignore test only at or below the node, and on the position only through it -/

mutual
theorem nodeHashes_congr (H : HashFn) (D : DecodeFn) (fmt : String) (hit₁ hit₂ : RelPath → Bool) :
    ∀ (t : Node) (here₁ here₂ : RelPath), (∀ p, hit₁ (here₁ ++ p) = hit₂ (here₂ ++ p)) →
      nodeHashes H D fmt hit₁ here₁ t = nodeHashes H D fmt hit₂ here₂ t
  | .file _ _, _, _, _ => by rw [nodeHashes, nodeHashes]
  | .dir n cs h, here₁, here₂, hh => by
    rw [nodeHashes, nodeHashes, kidHashes_congr H D fmt hit₁ hit₂ cs here₁ here₂ hh]
    simp only [hh]
theorem kidHashes_congr (H : HashFn) (D : DecodeFn) (fmt : String) (hit₁ hit₂ : RelPath → Bool) :
    ∀ (cs : List Node) (here₁ here₂ : RelPath), (∀ p, hit₁ (here₁ ++ p) = hit₂ (here₂ ++ p)) →
      kidHashes H D fmt hit₁ here₁ cs = kidHashes H D fmt hit₂ here₂ cs
  | [], _, _, _ => by rw [kidHashes, kidHashes]
  | c :: cs, here₁, here₂, hh => by
    rw [kidHashes, kidHashes, kidHashes_congr H D fmt hit₁ hit₂ cs here₁ here₂ hh,
      nodeHashes_congr H D fmt hit₁ hit₂ c (here₁ ++ [c.name]) (here₂ ++ [c.name])
        (fun p => by simpa [List.append_assoc] using hh ([c.name] ++ p))]
end

end MhlModel
