/-
Folder-mode `create`, piece by piece.  A: routing and the walk on a history without nested histories (the bridge by
which nested theorems are read at one history).  B: paths and their POSIX texts (`posix` is injective on well-formed
names, `splitPath` its inverse).  C, D: `Session.Flat`, the entries of a folder record (`dirEnts`), what `sealEntries`
always gives.  E to G: the items a traversal records (`recItems`: the visible paths and the root folder) and the record
made for one (`RecFor`).  H: one step of `commit` as an equation and the commit of one history.  I: the run in named
pieces (`cHit`, `cSession` in namespace `MhlProps.C02rec`; `cState`, `cRen`, `cMissing` in `MhlModel`) with the equation
for what `createFolder` returns (`createFolder_eq_gen`; by cases `createFolder_cases`; without `-dr` `createFolder_eq`).
-/
import MhlModel.Commands
import MhlProps.C02
import MhlProps.C04
import Mathlib.Data.List.Perm.Basic
import Mathlib.Data.List.Nodup

namespace MhlModel

/-! ## A. no nested histories -/

theorem allDescendants_flat (h : Hist) (hc : h.children = []) : allDescendants h = [] := by
  cases h with
  | mk r g c e cs =>
    simp only [Hist.children] at hc
    subst hc
    simp [allDescendants, descList]

theorem route_flat (h : Hist) (hc : h.children = []) (p : RelPath) : route h p = (h, p) := by
  unfold route
  simp [allDescendants_flat h hc]

theorem parentRoot_flat (h : Hist) (hc : h.children = []) (r : RelPath) : parentRoot h r = none := by
  unfold parentRoot
  simp [allDescendants_flat h hc, hc]

theorem walkPost_flat (h : Hist) (hc : h.children = []) : walkPost h = [h] := by
  cases h with
  | mk r g c e cs =>
    simp only [Hist.children] at hc
    subst hc
    simp [walkPost, walkPostList]

/-! ## B. `posix` is injective on paths made of well-formed names -/

theorem posix_nil : posix [] = "." := rfl

theorem posix_ne_nil {p : RelPath} (h : p ≠ []) : posix p = "/".intercalate p := by
  unfold posix
  cases p with
  | nil => exact absurd rfl h
  | cons a as => simp

theorem posix_toList_split {p : RelPath} (hne : p ≠ []) (hp : ∀ s ∈ p, '/' ∉ s.toList) :
    (posix p).toList.splitOn '/' = p.map String.toList := by
  rw [posix_ne_nil hne, String.toList_intercalate]
  have : ("/" : String).toList = ['/'] := by decide
  rw [this, List.splitOn_intercalate]
  · intro l hl
    obtain ⟨s, hs, rfl⟩ := List.mem_map.1 hl
    exact hp s hs
  · simpa using hne

theorem posix_eq_dot {p : RelPath} (hp : ∀ s ∈ p, NameOk s) : posix p = "." ↔ p = [] := by
  constructor
  · intro h
    by_cases hne : p = []
    · exact hne
    · exfalso
      have h1 := posix_toList_split hne (fun s hs => (hp s hs).1)
      rw [h] at h1
      have h2 : (".".toList.splitOn '/') = [['.']] := by decide
      rw [h2] at h1
      cases p with
      | nil => exact hne rfl
      | cons a as =>
        cases as with
        | nil =>
          simp only [List.map_cons, List.map_nil, List.cons.injEq, and_true] at h1
          have : a = "." := by
            apply String.toList_inj.1
            rw [← h1]; decide
          exact (hp a (by simp)).2 this
        | cons b bs => simp at h1
  · rintro rfl; rfl

theorem posix_inj_left {p q : RelPath} (hp : ∀ s ∈ p, NameOk s) (hpne : p ≠ [])
    (hq : ∀ s ∈ q, '/' ∉ s.toList) (h : posix p = posix q) : p = q := by
  by_cases hqe : q = []
  · subst hqe
    exact absurd ((posix_eq_dot hp).1 h) hpne
  · have h1 := posix_toList_split hpne (fun s hs => (hp s hs).1)
    have h2 := posix_toList_split hqe hq
    rw [h, h2] at h1
    exact ((List.map_inj_right (fun a b hab => String.toList_inj.1 hab)).1 h1).symm

theorem posix_inj {p q : RelPath} (hp : ∀ s ∈ p, NameOk s) (hq : ∀ s ∈ q, NameOk s)
    (h : posix p = posix q) : p = q := by
  by_cases hpe : p = []
  · subst hpe
    exact ((posix_eq_dot hq).1 h.symm).symm
  · exact posix_inj_left hp hpe (fun s hs => (hq s hs).1) h

theorem splitPath_posix {p : RelPath} (hp : ∀ s ∈ p, NameOk s) : splitPath (posix p) = p := by
  unfold splitPath
  by_cases hne : p = []
  · subst hne; rfl
  · have hdot : (posix p == ".") = false := by
      simpa using fun h => hne ((posix_eq_dot hp).1 h)
    rw [hdot]
    simp only [Bool.false_eq_true, if_false]
    rw [splitOn_slash, posix_toList_split hne (fun s hs => (hp s hs).1), List.map_map]
    conv => rhs; rw [← List.map_id p]
    apply List.map_congr_left
    intro s _
    simp

example : splitPath (posix ["sub", "deep", "y.txt"]) = ["sub", "deep", "y.txt"] :=
  splitPath_posix (by decide)

/-! ## C. the session of a flat history (at most one list, the one of the root history); directory entries -/

def Session.Flat (s : Session) : Prop := s.lists = [] ∨ ∃ nl, s.lists = [nl] ∧ nl.root = []

/-- the entries `appendDirHashes` adds to the record of a folder -/
def dirEnts (hashes : List (String × String × String)) : List Entry :=
  hashes.map fun (f, c, st) => { fmt := f, digest := c, shash := some st }

theorem dirEnts_action (hashes : List (String × String × String)) : ∀ e ∈ dirEnts hashes, e.action = "" := by
  intro e he
  obtain ⟨x, -, rfl⟩ := List.mem_map.1 he
  rfl

/-! ## D. facts about `sealEntries` -/

theorem sealEntries_ne_nil (gens : List LGen) (p : String) (dig : String → String) (req : List String)
    (hreq : req ≠ []) : (sealEntries gens p dig req).1 ≠ [] := by
  by_cases hex : existingFormats gens p = []
  · obtain ⟨f, hf⟩ := List.exists_mem_of_ne_nil _ hreq
    exact List.ne_nil_of_mem (mem_sealEntries.2 ⟨f, mem_formatsToGenerate _ req f hf, rfl,
      .inr fun f' hf' => by rw [hex] at hf'; cases hf'⟩)
  · obtain ⟨f, -, hf⟩ := MhlProps.C04.checked_entry gens p dig req hex
    exact List.ne_nil_of_mem hf

theorem sealEntries_digest (gens : List LGen) (p : String) (dig : String → String) (req : List String) :
    ∀ e ∈ (sealEntries gens p dig req).1, e.digest = dig e.fmt := fun e he =>
  (sealEntries_entry gens p dig req e he).1

theorem sealEntries_requested (gens : List LGen) (p : String) (dig : String → String) (req : List String)
    (hnf : ∀ e ∈ (sealEntries gens p dig req).1, e.action ≠ "failed") :
    ∀ f ∈ req, ∃ e ∈ (sealEntries gens p dig req).1, e.fmt = f := fun f hf =>
  ⟨_, mem_sealEntries.2 ⟨f, mem_formatsToGenerate _ req f hf, rfl, .inr fun f' h1 h2 =>
    hnf _ (mem_sealEntries.2 ⟨f', h2, rfl, .inl h1⟩)⟩, rfl⟩

/-! ## E. the record of a visited item -/

/-- the record `create` makes for the visited item `x = (path, is_dir)` -/
def RecFor (env : Env) (t : Node) (h : Hist) (fmts : List String) (x : RelPath × Bool) (r : Record) : Prop :=
  r.path = posix x.1 ∧ r.isDir = x.2 ∧ r.prev = none ∧
  (x.2 = false → r.size = some (fileContent t x.1).length ∧
     r.entries = (sealEntries h.gens (posix x.1) (fun f => env.H f (fileContent t x.1)) fmts).1) ∧
  (x.2 = true → r.size = none ∧ ∀ e ∈ r.entries, e.action = "")

/-- the items that get a record in `records` (the root folder `[]` gets the root record instead) -/
def nonRoot (L : List (RelPath × Bool)) : List (RelPath × Bool) := L.filter fun x => !x.1.isEmpty

theorem nonRoot_append (L M : List (RelPath × Bool)) : nonRoot (L ++ M) = nonRoot L ++ nonRoot M := by
  simp [nonRoot]

theorem mem_nonRoot (L : List (RelPath × Bool)) (x : RelPath × Bool) : x ∈ nonRoot L ↔ x ∈ L ∧ x.1 ≠ [] := by
  simp [nonRoot]

/-! ## F. the items a traversal records -/

/-- the items one visit records: its files in listing order, then the folder itself -/
def visitItems (v : Visit) : List (RelPath × Bool) :=
  (v.children.flatMap fun c => if c.2 then [] else [(v.folder ++ [c.1], false)]) ++ [(v.folder, true)]

/-- the items a traversal records, in the order the records are created -/
def recItems (vs : List Visit) : List (RelPath × Bool) := vs.flatMap visitItems

theorem recItems_append (a b : List Visit) : recItems (a ++ b) = recItems a ++ recItems b := by
  simp [recItems]

/-! ## G. the recorded items are the visible paths (and the root folder) -/

/-- records are created in a different order than `visiblePaths` lists the entries (a folder's record is made when the
folder itself is yielded, before its parent lists it), but they are the same items.  Per folder both sides are a
`flatMap` over the visible children of the child's subtree and the child's own entry; they differ only in where the
entry stands (`flatMap_append_perm`). -/
theorem recItems_perm (hit : RelPath → Bool) (t : Node) : ∀ here : RelPath,
    (recItems (traverse hit here t)).Perm
      (visFrom hit here t ++ (if t.isDir then [(here, true)] else [])) := by
  induction t using Node.induct with
  | file n c => intro here; simp [traverse, recItems, Node.isDir]
  | dir n cs h ih =>
    intro here
    rw [traverse_dir, recItems_append, visFrom_dir]
    simp only [Node.isDir, if_true]
    have h1 : recItems ((visKids hit here cs).flatMap (·.visits)) =
        (visKids hit here cs).flatMap fun k => recItems k.visits := by
      simp [recItems, List.flatMap_assoc]
    have h2 : recItems [⟨here, (visKids hit here cs).map fun k => (k.name, k.isDir)⟩] =
        ((visKids hit here cs).flatMap fun k => if k.isDir then [] else [(here ++ [k.name], false)]) ++
          [(here, true)] := by
      simp [recItems, visitItems, List.flatMap_map]
    rw [h1, h2, ← List.append_assoc]
    refine List.Perm.append ?_ (List.Perm.refl _)
    have h3 : (visKids hit here cs).map (fun k => (here ++ [k.name], k.isDir)) =
        (visKids hit here cs).flatMap fun k => [(here ++ [k.name], k.isDir)] := by
      induction visKids hit here cs with
      | nil => rfl
      | cons a as ih' => simp [ih']
    rw [h3]
    refine (List.flatMap_append_perm _ _ _).trans (List.Perm.trans ?_ (List.flatMap_append_perm _ _ _).symm)
    refine List.Perm.flatMap_left _ ?_
    intro k hk
    obtain ⟨c, hc, -, rfl⟩ := (mem_visKids _ _ _ _).1 hk
    have := ih c hc (here ++ [c.name])
    simp only [kidOf]
    change (recItems (traverse hit (here ++ [c.name]) c) ++ _).Perm (visFrom hit (here ++ [c.name]) c ++ _)
    by_cases hd : c.isDir = true
    · simp only [hd, if_true, List.append_nil] at this ⊢
      exact this
    · have hd' : c.isDir = false := by simpa using hd
      simp only [hd', Bool.false_eq_true, if_false, List.append_nil] at this ⊢
      exact List.Perm.append this (List.Perm.refl _)

theorem isDir_of_visible {hit : RelPath → Bool} {t : Node} {x : RelPath × Bool} (hx : x ∈ visiblePaths hit t) :
    t.isDir = true := by
  cases t with
  | file n c => simp [visiblePaths, traverse] at hx
  | dir n cs h => rfl

open MhlProps.C02 in
theorem visible_names_ok (hit : RelPath → Bool) (t : Node) (hn : t.NamesOk) (x : RelPath × Bool)
    (hx : x ∈ visiblePaths hit t) : x.1 ≠ [] ∧ ∀ s ∈ x.1, NameOk s := by
  obtain ⟨p, d⟩ := x
  obtain ⟨-, hne, hs⟩ := visible_relative hit t p d hx
  exact ⟨hne, fun s hsm => hn s (hs s hsm)⟩

theorem visible_prefix (hit : RelPath → Bool) (t : Node) {p q : RelPath} {d : Bool}
    (hp : (p, d) ∈ visiblePaths hit t) (hq : q <+: p) (hq0 : q ≠ []) {n : Node} (hat : t.at? q = some n) :
    (q, n.isDir) ∈ visiblePaths hit t := by
  rw [MhlProps.C02.visible_iff] at hp ⊢
  refine ⟨Node.mem_paths_of_at t [] q n hq0 hat, ?_⟩
  intro k hk0 hk
  obtain ⟨r, rfl⟩ := hq
  have := hp.2 k hk0 (by simp; omega)
  rwa [List.take_append_of_le_length hk] at this

open MhlProps.C02 in
/-- a path is visible as a file or as a folder, not as both: the tree decides -/
theorem visiblePaths_fst_nodup (hit : RelPath → Bool) (t : Node) (hd : t.NamesDistinct) :
    ((visiblePaths hit t).map (·.1)).Nodup := by
  refine List.Nodup.map_on ?_ (visible_nodup hit t hd)
  rintro ⟨p, d⟩ hx ⟨q, e⟩ hy (rfl : p = q)
  obtain ⟨c, hc, rfl⟩ := visible_on_disk hit t hd p d hx
  obtain ⟨c', hc', rfl⟩ := visible_on_disk hit t hd p e hy
  rw [hc] at hc'
  cases hc'
  rfl

theorem visibleFiles_nodup (hit : RelPath → Bool) (t : Node) (hd : t.NamesDistinct) :
    (((visiblePaths hit t).filter fun x => !x.2).map (·.1)).Nodup :=
  List.Nodup.sublist (List.Sublist.map _ List.filter_sublist) (visiblePaths_fst_nodup hit t hd)

theorem recItems_fst_nodup (hit : RelPath → Bool) (t : Node) (hd : t.NamesDistinct) :
    ((recItems (traverse hit [] t)).map (·.1)).Nodup := by
  have hperm := recItems_perm hit t []
  rw [← visiblePaths_eq] at hperm
  rw [(hperm.map (·.1)).nodup_iff, List.map_append, List.nodup_append]
  refine ⟨visiblePaths_fst_nodup hit t hd, by split <;> simp, ?_⟩
  intro a ha b hb hab
  obtain ⟨x, hx, rfl⟩ := List.mem_map.1 ha
  have hb0 : b = [] := by
    split at hb
    · simpa using hb
    · simp at hb
  exact (MhlProps.C02.visible_relative hit t x.1 x.2 hx).2.1 (hab.trans hb0)

/-! ## H. commit of a flat history -/

/-- one step of `commit`: the history writes, with the generations of its direct children as references, iff it has a
list in the session or one of those children wrote -/
theorem commitStep_eq (rootHist : Hist) (s : Session) (rn stamp process : String) (cb : Option String)
    (acc : List Written) (h : Hist) :
    commitStep rootHist s rn stamp process cb acc h =
      if (s.lists.any fun l => l.root == h.root) = true ∨
          (acc.filter fun w => parentRoot rootHist w.histRoot == some h.root) ≠ [] then
        (writeOne rootHist s rn stamp process cb h
          (acc.filter fun w => parentRoot rootHist w.histRoot == some h.root)).map fun w => acc ++ [w]
      else .ok acc := by
  unfold commitStep
  dsimp only
  generalize (acc.filter fun w => parentRoot rootHist w.histRoot == some h.root) = refs
  generalize writeOne rootHist s rn stamp process cb h refs = r
  cases s.lists.any fun l => l.root == h.root <;> cases refs <;> cases r <;> rfl

theorem commit_flat_eq (h : Hist) (hc : h.children = []) (s : Session) (rn stamp process : String)
    (cb : Option String) :
    commit h s rn stamp process cb =
      if (s.lists.any fun l => l.root == h.root) = true then (writeOne h s rn stamp process cb h []).map fun w => [w]
      else .ok [] := by
  unfold commit
  rw [walkPost_flat h hc, List.foldlM_cons]
  simp only [List.foldlM_nil, bind_pure, commitStep_eq, List.filter_nil, ne_eq, not_true_eq_false, or_false,
    List.nil_append]

theorem commit_flat (h : Hist) (hc : h.children = []) (s : Session) (rn stamp process : String)
    (cb : Option String) (ws : List Written) (hcm : commit h s rn stamp process cb = .ok ws) :
    (ws = [] ∧ s.lists.any (fun l => l.root == h.root) = false) ∨
      ∃ w, ws = [w] ∧ writeOne h s rn stamp process cb h [] = .ok w := by
  rw [commit_flat_eq h hc] at hcm
  split at hcm
  · cases hw : writeOne h s rn stamp process cb h [] with
    | error e => rw [hw] at hcm; cases hcm
    | ok w => rw [hw] at hcm; cases hcm; exact Or.inr ⟨w, rfl, rfl⟩
  · next hin => cases hcm; exact Or.inl ⟨rfl, by simpa using hin⟩

end MhlModel

/-! ## I. the run of a folder-mode `create` in named pieces (`cHit`, `cSession` in namespace `MhlProps.C02rec`) -/

namespace MhlProps.C02rec
open MhlModel

/-- the matcher of a folder-mode `create` run -/
def cHit (env : Env) (rootHist : Hist) (o : CreateOpts) : RelPath → Bool :=
  env.hit (setPatterns (latestIgnore rootHist.gens) o.ignoreCli o.ignoreFile)

/-- the session folder-mode `create` commits (without `-dr`) -/
def cSession (env : Env) (t : Node) (rootHist : Hist) (o : CreateOpts) : Session :=
  ((traverse (cHit env rootHist o) [] t).foldl
    (createVisit env t rootHist (isort strLe o.formats) o.noDirHashes)
    { session := { patterns := setPatterns (latestIgnore rootHist.gens) o.ignoreCli o.ignoreFile } }).session

end MhlProps.C02rec

namespace MhlModel
open MhlProps.C02rec

/-- the state after the traversal of a folder-mode `create` (its session is `cSession`) -/
def cState (env : Env) (t : Node) (rootHist : Hist) (o : CreateOpts) : CreateState :=
  (traverse (cHit env rootHist o) [] t).foldl
    (createVisit env t rootHist (isort strLe o.formats) o.noDirHashes)
    { session := { patterns := setPatterns (latestIgnore rootHist.gens) o.ignoreCli o.ignoreFile } }

/-- nested histories referenced by the latest generation whose folder vanished -/
def cMissingHist (t : Node) (rootHist : Hist) : List RelPath :=
  match rootHist.gens.getLast? with
  | none => []
  | some g => g.gen.refs.filterMap fun ref =>
      let p := (splitPath ref).dropLast.dropLast
      match t.at? p with
      | some n => if n.hist.isSome then none else some p
      | none => some p

/-- the missing paths of a folder-mode `create` without `-dr` -/
def cMissing (env : Env) (t : Node) (rootHist : Hist) (o : CreateOpts) : List RelPath :=
  missingAfter (cHit env rootHist o)
    ((expectedPaths rootHist).filter fun p => !(cState env t rootHist o).found.contains p)

theorem cState_session (env : Env) (t : Node) (rootHist : Hist) (o : CreateOpts) :
    (cState env t rootHist o).session = cSession env t rootHist o := rfl

/-- the expected paths the traversal did not come across -/
def cNotFound_u (env : Env) (t : Node) (rootHist : Hist) (o : CreateOpts) : List RelPath :=
  (expectedPaths rootHist).filter fun p => !(cState env t rootHist o).found.contains p

/-- session, not-found paths and renames after the optional rename detection (`-dr`).
D19: the detection visits the not-found paths in the sorted order of their path strings (`sorted(not_found_paths)`),
not in the order of `cNotFound_u env t rootHist o`. -/
def cRen (env : Env) (t : Node) (rootHist : Hist) (o : CreateOpts) :
    Session × List RelPath × List (String × String) :=
  if o.detectRenaming then
    let r := detectRenames env t rootHist (cState env t rootHist o).session (cState env t rootHist o).newPaths
      (isort (fun a b => strLe (posix a) (posix b)) (cNotFound_u env t rootHist o))
    (r.1, (cNotFound_u env t rootHist o).filter fun p => !r.2.1.contains p, r.2.2)
  else ((cState env t rootHist o).session, cNotFound_u env t rootHist o, [])

theorem cRen_noDr (env : Env) (t : Node) (rootHist : Hist) (o : CreateOpts) (hdr : o.detectRenaming = false) :
    cRen env t rootHist o = (cSession env t rootHist o, cNotFound_u env t rootHist o, []) := by
  unfold cRen
  rw [if_neg (by simp [hdr])]
  rfl

theorem cRen_dr {env : Env} {t : Node} {rootHist : Hist} {o : CreateOpts} (hdr : o.detectRenaming = true)
    {s' : Session} {fo : List RelPath} {ren : List (String × String)}
    (hdet : detectRenames env t rootHist (cState env t rootHist o).session (cState env t rootHist o).newPaths
      (isort (fun a b => strLe (posix a) (posix b)) (cNotFound_u env t rootHist o)) = (s', fo, ren)) :
    cRen env t rootHist o = (s', (cNotFound_u env t rootHist o).filter fun p => !fo.contains p, ren) := by
  unfold cRen
  rw [if_pos hdr]
  simp only [hdet]

theorem cRen_session_inv {P : Session → Prop} {env : Env} {t : Node} {rootHist : Hist} {o : CreateOpts}
    (h0 : P (cState env t rootHist o).session)
    (hdet : ∀ s np nf, P s → P (detectRenames env t rootHist s np nf).1) : P (cRen env t rootHist o).1 := by
  unfold cRen
  split
  · exact hdet _ _ _ h0
  · exact h0

theorem mem_cRen_notFound {env : Env} {t : Node} {rootHist : Hist} {o : CreateOpts} {p : RelPath}
    (hp : p ∈ (cRen env t rootHist o).2.1) : p ∈ cNotFound_u env t rootHist o := by
  unfold cRen at hp
  split at hp
  · exact (List.mem_filter.1 hp).1
  · exact hp

theorem create_eq_createFolder (env : Env) (t : Node) (o : CreateOpts) (hsf : o.singleFiles = []) :
    create env t o = createFolder env t o := by
  simp [create, hsf]

/-- What folder-mode `create` returns once the history loaded: everything in terms of the state after the traversal
(`cState`), the outcome of the optional rename detection (`cRen`) and the commit of its session. -/
theorem createFolder_eq_gen (env : Env) (t : Node) (o : CreateOpts) (rootHist : Hist)
    (hl : loadHistory t = .ok rootHist) :
    createFolder env t o =
      match commit rootHist (cRen env t rootHist o).1 env.rootName env.stamp "in-place" with
      | .error e => { err := some e }
      | .ok written =>
        { err := createExit (cState env t rootHist o).failed
            (missingAfter (cHit env rootHist o) (cRen env t rootHist o).2.1) (cMissingHist t rootHist),
          report := { mismatch := (cState env t rootHist o).mismatch,
                      missing := (missingAfter (cHit env rootHist o) (cRen env t rootHist o).2.1).map posix,
                      renamed := (cRen env t rootHist o).2.2 },
          written := written } := by
  unfold createFolder
  simp only [hl]
  cases hdr : o.detectRenaming
  · unfold cRen
    simp only [hdr, Bool.false_eq_true, if_false]
    rfl
  · unfold cRen
    simp only [hdr, if_true]
    rfl

theorem createFolder_cases (env : Env) (t : Node) (o : CreateOpts) (rootHist : Hist)
    (hl : loadHistory t = .ok rootHist) :
    (∃ e, commit rootHist (cRen env t rootHist o).1 env.rootName env.stamp "in-place" = .error e ∧
      createFolder env t o = { err := some e }) ∨
    (commit rootHist (cRen env t rootHist o).1 env.rootName env.stamp "in-place" = .ok (createFolder env t o).written ∧
      (createFolder env t o).err = createExit (cState env t rootHist o).failed
        (missingAfter (cHit env rootHist o) (cRen env t rootHist o).2.1) (cMissingHist t rootHist)) := by
  rw [createFolder_eq_gen env t o rootHist hl]
  cases commit rootHist (cRen env t rootHist o).1 env.rootName env.stamp "in-place" with
  | error e => exact Or.inl ⟨e, rfl, rfl⟩
  | ok ws => exact Or.inr ⟨rfl, rfl⟩

theorem createFolder_written_commit (env : Env) (t : Node) (o : CreateOpts) (rootHist : Hist)
    (hl : loadHistory t = .ok rootHist) {w : Written} (hw : w ∈ (createFolder env t o).written) :
    commit rootHist (cRen env t rootHist o).1 env.rootName env.stamp "in-place" =
      .ok (createFolder env t o).written := by
  rcases createFolder_cases env t o rootHist hl with ⟨e, -, h⟩ | ⟨h, -⟩
  · rw [h] at hw; cases hw
  · exact h

theorem createFolder_eq (env : Env) (t : Node) (o : CreateOpts) (rootHist : Hist)
    (hl : loadHistory t = .ok rootHist) (hdr : o.detectRenaming = false) (ws : List Written)
    (hcm : commit rootHist (cSession env t rootHist o) env.rootName env.stamp "in-place" = .ok ws) :
    createFolder env t o =
      { err := createExit (cState env t rootHist o).failed (cMissing env t rootHist o) (cMissingHist t rootHist),
        report := { mismatch := (cState env t rootHist o).mismatch,
                    missing := (cMissing env t rootHist o).map posix, renamed := [] },
        written := ws } := by
  rw [createFolder_eq_gen env t o rootHist hl, cRen_noDr env t rootHist o hdr, hcm]
  rfl

end MhlModel
