/-
Grafting: a tree that already has a history, put as a folder into a bigger tree.  `rerootH pre h` is the history `h`
seen from a command root `pre` components higher; the nested histories found from `pre ++ here` are those found from
`here`, re-rooted (`findChildren_reroot`); a path below the graft is routed as in the sub-tree on its own
(`graft_route`).  Used by C04nested (a history made on its own keeps its verdicts inside the bigger tree).
-/
import MhlProps.Proofs.HistLemmas

namespace MhlModel
open MhlProps.C08

/-! ### a history seen from a higher command root (`rerootH`) -/

mutual
/-- the same history seen from a command root `pre` components higher: every root gets the prefix -/
def rerootH (pre : RelPath) : Hist → Hist
  | .mk r g c e cs => .mk (pre ++ r) g c e (rerootL pre cs)
def rerootL (pre : RelPath) : List Hist → List Hist
  | [] => []
  | c :: cs => rerootH pre c :: rerootL pre cs
end

theorem rerootL_eq_map (pre : RelPath) (cs : List Hist) : rerootL pre cs = cs.map (rerootH pre) := by
  induction cs with
  | nil => rfl
  | cons c cs ih => rw [rerootL, ih]; rfl

theorem rerootH_root (pre : RelPath) (h : Hist) : (rerootH pre h).root = pre ++ h.root := by
  cases h; rfl
theorem rerootH_gens (pre : RelPath) (h : Hist) : (rerootH pre h).gens = h.gens := by
  cases h; rfl
theorem rerootH_chain (pre : RelPath) (h : Hist) : (rerootH pre h).chain = h.chain := by
  cases h; rfl
theorem rerootH_children (pre : RelPath) (h : Hist) : (rerootH pre h).children = h.children.map (rerootH pre) := by
  cases h; simp [rerootH, Hist.children, rerootL_eq_map]

theorem buildHist_reroot (pre here : RelPath) (store : Option HistStore) (kids : List Hist) :
    buildHist (pre ++ here) store (kids.map (rerootH pre)) = rerootH pre (buildHist here store kids) := by
  unfold buildHist
  cases store <;> simp [rerootH, rerootL_eq_map]

theorem histsAt_reroot_of (pre p : RelPath) (c : Node)
    (ih : nestedHists (pre ++ p) c = (nestedHists p c).map (rerootH pre)) :
    histsAt (pre ++ p) c = (histsAt p c).map (rerootH pre) := by
  unfold histsAt
  rw [ih]
  cases c.hist with
  | none => rfl
  | some s => simp only [List.map_cons, List.map_nil, buildHist_reroot]

theorem nestedHists_reroot (pre : RelPath) (t : Node) :
    ∀ here, nestedHists (pre ++ here) t = (nestedHists here t).map (rerootH pre) := by
  induction t using Node.induct with
  | file n c => intro here; rfl
  | dir n cs h ih =>
    intro here
    rw [nestedHists_sortNodes, nestedHists_sortNodes, List.map_flatMap]
    exact flatMap_congr_mem fun c hc => by
      rw [List.append_assoc]; exact histsAt_reroot_of pre _ c (ih c (mem_sortNodes.1 hc) _)

theorem findChildren_reroot (pre here : RelPath) (t : Node) :
    findChildren (pre ++ here) t = (findChildren here t).map (List.map (rerootH pre)) := by
  rw [findChildren_eq, findChildren_eq, nestedHists_reroot, ofFaults_map]

/-- `nestedHists_reroot` for the `childPair` of every child of a list (`childPair_eq`); the proofs use
`nestedHists_reroot` -/
theorem childPairList_reroot (pre here : RelPath) : (cs : List Node) →
    cs.map (childPair (pre ++ here)) =
      (cs.map (childPair here)).map fun x => (x.1, x.2.map (List.map (rerootH pre))) := by
  intro cs
  rw [List.map_map]
  exact List.map_congr_left fun c _ => by
    simp only [Function.comp, childPair_eq, ofFaults_map, List.append_assoc,
      histsAt_reroot_of pre _ c (nestedHists_reroot pre c _)]

/-- the defining equation of `allDescendants`; `allDescendants_eq` (HistLemmas) is the form the proofs use -/
theorem allDescendants_eq_u (h : Hist) : allDescendants h = descList h.children := by
  cases h; rw [allDescendants]; rfl

theorem allDescendants_reroot (pre : RelPath) (h : Hist) :
    allDescendants (rerootH pre h) = (allDescendants h).map (rerootH pre) :=
  allDescendants_map _ (rerootH_children pre) h

theorem descList_reroot (pre : RelPath) : (cs : List Hist) →
    descList (rerootL pre cs) = (descList cs).map (rerootH pre) := fun cs => by
  rw [rerootL_eq_map]; exact descList_map _ (rerootH_children pre) cs

/-! ### the pick of the longest root among re-rooted candidates; one contributing element -/

theorem foldl_pickStep_graft (pre : RelPath) (c : Hist) (M : List Hist)
    (hlen : ∀ m ∈ M, c.root.length < (rerootH pre m).root.length) :
    (M.map (rerootH pre)).foldl pickStep (some c) =
      some (match M.foldl pickStep none with
        | none => c
        | some y => rerootH pre y) := by
  cases M with
  | nil => rfl
  | cons a as =>
    rw [List.map_cons, List.foldl_cons, List.foldl_cons]
    have h1 : pickStep (some c) (rerootH pre a) = (some a).map (rerootH pre) := by
      have := hlen a (by simp)
      simp [pickStep, this]
    have h2 : pickStep none a = some a := rfl
    obtain ⟨y, hy, -⟩ := foldl_pickStep_some as a
    rw [h1, h2, foldl_pickStep_map (rerootH pre) (fun a b => by
      rw [rerootH_root, rerootH_root, List.length_append, List.length_append]; omega), hy]
    rfl

/-! ### the graft -/

/-- the sub-tree `inner` put in place of the child named `n` of the folder `outer` -/
def graft (outer : Node) (n : String) (inner : Node) : Node := Node.updateAt (fun _ => inner) outer [n]

theorem graft_dir (rn : String) (cs : List Node) (hs : Option HistStore) (n : String) (inner : Node) :
    graft (.dir rn cs hs) n inner = .dir rn (cs.map fun c => if c.name == n then inner else c) hs := by
  unfold graft
  rw [updateAt_dir_cons, updateKids_eq_map]
  simp only [updateAt_nil]

theorem graft_kids (cs : List Node) (inner : Node) (hmem : ∃ c ∈ cs, c.name = inner.name) :
    inner ∈ (cs.map fun c => if c.name == inner.name then inner else c) ∧
    (∀ c' ∈ (cs.map fun c => if c.name == inner.name then inner else c), c'.name = inner.name → c' = inner) ∧
    (cs.map fun c => if c.name == inner.name then inner else c).map Node.name = cs.map Node.name := by
  refine ⟨?_, ?_, ?_⟩
  · obtain ⟨c, hc, hcn⟩ := hmem
    exact List.mem_map.2 ⟨c, hc, by simp [hcn]⟩
  · intro c' hc' hcn
    obtain ⟨c0, -, rfl⟩ := List.mem_map.1 hc'
    split
    · rfl
    · next hne =>
      rw [if_neg hne] at hcn
      simp [hcn] at hne
  · rw [List.map_map]
    apply List.map_congr_left
    intro c _
    simp only [Function.comp]
    split
    · next h => exact (by simpa using h : c.name = inner.name).symm
    · rfl

theorem graft_route (rn : String) (cs : List Node) (hs : Option HistStore) (inner : Node) (s : HistStore)
    (hst : inner.hist = some s) (hnd : (cs.map Node.name).Nodup) (hmem : ∃ c ∈ cs, c.name = inner.name)
    (hin hout : Hist) (hlin : loadHistory inner = .ok hin)
    (hlout : loadHistory (graft (.dir rn cs hs) inner.name inner) = .ok hout) (q : RelPath) :
    route hout (inner.name :: q) = (rerootH [inner.name] (route hin q).1, (route hin q).2) := by
  obtain ⟨hmem', huniq, hnames⟩ := graft_kids cs inner hmem
  generalize hn : inner.name = n at *
  rw [graft_dir] at hlout
  generalize (cs.map fun c => if c.name == n then inner else c) = cs' at *
  obtain ⟨-, rfl⟩ := (loadHistory_eq_ok _ hout).1 hlout
  obtain ⟨-, rfl⟩ := (loadHistory_eq_ok _ hin).1 hlin
  -- the histories found at the graft: the inner history, re-rooted
  have hat : histsAt ([] ++ [n]) inner = [rerootH [n] (loaded inner)] := by
    have := histsAt_reroot_of [n] [] inner (nestedHists_reroot [n] inner [])
    rw [List.append_nil] at this
    rw [List.nil_append, this]
    unfold histsAt loaded
    rw [hst]
    rfl
  -- the candidates: those found at the other children cannot match
  rw [route_unfold, route_unfold]
  conv => lhs; rw [loaded, buildHist_desc, nestedHists_sortNodes, descList_flatMap, List.filter_flatMap]
  have hnd' : (sortNodes cs').Nodup := (((sortNodes_perm cs').map Node.name).nodup_iff.2 (hnames ▸ hnd)).of_map _
  rw [flatMap_unique _ _ inner hnd' (mem_sortNodes.2 hmem') (by
      intro c' hc' hne
      have hcn : c'.name ≠ n := fun h => hne (huniq c' (mem_sortNodes.1 hc') h)
      rw [List.filter_eq_nil_iff]
      intro d hd
      have hbelow := histsAt_root_prefix _ c' d hd
      rw [List.nil_append] at hbelow
      have : isPrefixOf d.root (n :: q) = false := by
        rw [Bool.eq_false_iff, Ne, isPrefixOf_iff]
        intro hp
        have h2 := hbelow.trans hp
        rw [List.cons_prefix_cons] at h2
        exact hcn h2.1
      simp [this]), hn, hat]
  simp only [descList_singleton, allDescendants_reroot]
  have hroot_in : (loaded inner).root = [] := buildHist_root _ _ _
  -- the history at the graft is a candidate; the deeper ones are the re-rooted candidates of the inner tree
  have hc0 : (!(rerootH [n] (loaded inner)).root.isEmpty &&
      isPrefixOf (rerootH [n] (loaded inner)).root (n :: q)) = true := by
    rw [rerootH_root, hroot_in]
    simp [isPrefixOf]
  rw [List.filter_cons, if_pos hc0, List.filter_map]
  have hfilt : (allDescendants (loaded inner)).filter
        ((fun c => !c.root.isEmpty && isPrefixOf c.root (n :: q)) ∘ rerootH [n]) =
      (allDescendants (loaded inner)).filter fun c => !c.root.isEmpty && isPrefixOf c.root q := by
    apply List.filter_congr
    intro d hd
    have hne : d.root ≠ [] := nestedHists_root_ne [] inner d (by rwa [loaded, buildHist_desc] at hd)
    simp only [Function.comp, rerootH_root]
    have h1 : ([n] ++ d.root).isEmpty = false := by simp
    have h2 : d.root.isEmpty = false := by cases hr : d.root <;> simp_all
    rw [h1, h2]
    simp only [Bool.not_false, Bool.true_and]
    rw [Bool.eq_iff_iff, isPrefixOf_iff, isPrefixOf_iff]
    simp
  rw [hfilt, List.foldl_cons]
  have hstart : pickStep none (rerootH [n] (loaded inner)) = some (rerootH [n] (loaded inner)) := rfl
  rw [hstart, foldl_pickStep_graft [n] (rerootH [n] (loaded inner))]
  · cases hres : ((allDescendants (loaded inner)).filter fun c => !c.root.isEmpty && isPrefixOf c.root q).foldl
        pickStep none with
    | none =>
      simp only [rerootH_root, hroot_in]
      rfl
    | some y =>
      simp only [rerootH_root]
      rfl
  · intro m hm
    have hm' := (List.mem_filter.1 hm).2
    rw [rerootH_root, rerootH_root, hroot_in]
    have : m.root ≠ [] := by
      intro h0
      simp [h0] at hm'
    have : 0 < m.root.length := List.length_pos_iff.2 this
    simp
    omega

end MhlModel
