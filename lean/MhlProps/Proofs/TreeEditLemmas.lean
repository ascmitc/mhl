/-
Editing a tree with `Node.updateAt`: what is at a path afterwards; what the traversal and `fileContent` see after a
file was removed or added, what `fileContent` sees after the content of a file was replaced (what the traversal sees
then is in LoadLemmas: `updateAt_setContent`, `visiblePaths_setContentAt`); which tree-wide properties survive
(`KidsProp`).

Two inductions along the path of an update.  `Node.updateAt_rel`: every child of the name is updated, a relation
between a tree and its update is proved wherever the update is applied (`OnPath`) and for the children of a folder
replaced one for one; no distinct names.  `Node.updateAt_relAt`: sibling names are distinct along the path
(`Node.DistinctAlong`), the relation is proved at the node the path leads to and for one child replaced.
-/
import MhlModel.Commands
import MhlProps.C02

namespace MhlModel

/-! ### `Node.updateAt`: names, folders, children -/

theorem updateAt_nil (f : Node → Node) (t : Node) : Node.updateAt f t [] = f t := by
  cases t <;> simp [Node.updateAt]

theorem updateAt_dir_cons (f : Node → Node) (rn : String) (cs : List Node) (hs : Option HistStore) (n : String)
    (rest : RelPath) :
    Node.updateAt f (.dir rn cs hs) (n :: rest) = .dir rn (Node.updateKids f n rest cs) hs := by
  simp [Node.updateAt]

theorem updateKids_eq_map (f : Node → Node) (n : String) (rest : RelPath) (cs : List Node) :
    Node.updateKids f n rest cs = cs.map fun c => if c.name == n then Node.updateAt f c rest else c := by
  induction cs with
  | nil => simp [Node.updateKids]
  | cons c cs ih => simp [Node.updateKids, ih]

theorem Node.updateAt_name (f : Node → Node) (hf : ∀ x, (f x).name = x.name) (t : Node) (p : RelPath) :
    (Node.updateAt f t p).name = t.name := by
  cases p with
  | nil => cases t <;> simp [Node.updateAt, hf]
  | cons n rest => cases t <;> simp [Node.updateAt, Node.name]

theorem findChild_updateKids_ne (f : Node → Node) (hf : ∀ x, (f x).name = x.name) (n m : String)
    (rest : RelPath) (cs : List Node) (hnm : m ≠ n) :
    findChild (Node.updateKids f n rest cs) m = findChild cs m := by
  induction cs with
  | nil => simp [Node.updateKids]
  | cons c cs ih =>
    unfold findChild at ih ⊢
    simp only [Node.updateKids]
    by_cases hc : c.name = n
    · subst hc
      have h1 : ((Node.updateAt f c rest).name == m) = false := by
        rw [Node.updateAt_name f hf]; exact beq_false_of_ne (Ne.symm hnm)
      have h2 : (c.name == m) = false := beq_false_of_ne (Ne.symm hnm)
      simp only [beq_self_eq_true, if_true, List.find?_cons, h1, h2]
      exact ih
    · have : (c.name == n) = false := by simp [hc]
      simp only [this, Bool.false_eq_true, if_false, List.find?_cons]
      cases c.name == m
      · exact ih
      · rfl

theorem findChild_updateKids_eq (f : Node → Node) (hf : ∀ x, (f x).name = x.name) (n : String)
    (rest : RelPath) (cs : List Node) :
    findChild (Node.updateKids f n rest cs) n = (findChild cs n).map fun c => Node.updateAt f c rest := by
  induction cs with
  | nil => simp [Node.updateKids, findChild]
  | cons c cs ih =>
    unfold findChild at ih ⊢
    simp only [Node.updateKids]
    by_cases hc : c.name = n
    · have h1 : ((Node.updateAt f c rest).name == n) = true := by
        rw [Node.updateAt_name f hf]; simp [hc]
      simp [hc, h1]
    · have : (c.name == n) = false := by simp [hc]
      simp only [this, Bool.false_eq_true, if_false, List.find?_cons]
      exact ih

theorem updateAt_isDir (f : Node → Node) (hf : ∀ x, (f x).isDir = x.isDir) (t : Node) (p : RelPath) :
    (Node.updateAt f t p).isDir = t.isDir := by
  cases p with
  | nil => rw [updateAt_nil, hf]
  | cons n rest => cases t <;> simp [Node.updateAt, Node.isDir]

theorem updateAt_hist (f : Node → Node) (hf : ∀ x, (f x).hist = x.hist) (t : Node) (p : RelPath) :
    (Node.updateAt f t p).hist = t.hist := by
  cases p with
  | nil => rw [updateAt_nil, hf]
  | cons n rest => cases t <;> simp [Node.updateAt, Node.hist]

/-! ### paths and `Node.at?` -/

theorem at?_below_file {t : Node} {a : RelPath} {nm : String} {c : Bytes} (ha : t.at? a = some (.file nm c))
    (m : String) (rest : RelPath) : t.at? (a ++ m :: rest) = none := by
  rw [Node.at?_append, ha]
  simp [Node.at?]

theorem at?_below_none {t : Node} {b : RelPath} (hb : t.at? b = none) (rest : RelPath) : t.at? (b ++ rest) = none := by
  rw [Node.at?_append, hb]
  rfl

theorem at?_file_prefix (t : Node) (a b : RelPath) (nm : String) (c : Bytes) (ha : t.at? a = some (.file nm c))
    (hp : a <+: b) (x : Node) (hb : t.at? b = some x) : a = b := by
  obtain ⟨r, rfl⟩ := hp
  rw [Node.at?_append, ha] at hb
  cases r with
  | nil => simp
  | cons m r => simp [Node.at?] at hb

/-! ### the node at a path after an update -/

theorem updateAt_at?_prefix (f : Node → Node) (hf : ∀ x, (f x).name = x.name) (t : Node) (p r : RelPath) :
    (Node.updateAt f t (p ++ r)).at? p = (t.at? p).map fun n => Node.updateAt f n r := by
  induction p generalizing t with
  | nil => simp [Node.at?_nil]
  | cons m p' ih =>
    cases t with
    | file nm c => simp [Node.updateAt, Node.at?]
    | dir nm cs h =>
      simp only [List.cons_append, Node.updateAt, Node.at?_dir_cons]
      rw [findChild_updateKids_eq f hf]
      cases findChild cs m with
      | none => rfl
      | some c => simpa using ih c

theorem updateAt_at?_self (f : Node → Node) (hf : ∀ x, (f x).name = x.name) (t : Node) (p : RelPath) :
    (Node.updateAt f t p).at? p = (t.at? p).map f := by
  simpa [updateAt_nil] using updateAt_at?_prefix f hf t p []

theorem updateAt_at?_below (f : Node → Node) (hf : ∀ x, (f x).name = x.name) (t : Node) (q rest : RelPath) :
    (Node.updateAt f t q).at? (q ++ rest) = ((t.at? q).map f).bind (·.at? rest) := by
  rw [Node.at?_append, updateAt_at?_self f hf]

theorem updateAt_at?_disjoint (f : Node → Node) (hf : ∀ x, (f x).name = x.name) (t : Node) (p q : RelPath)
    (h : ¬ p <+: q) (h' : ¬ q <+: p) :
    (Node.updateAt f t p).at? q = t.at? q := by
  induction q generalizing t p with
  | nil => exact absurd (List.nil_prefix) h'
  | cons m q' ih =>
    cases p with
    | nil => exact absurd (List.nil_prefix) h
    | cons n rest =>
      cases t with
      | file nm c => simp [Node.updateAt]
      | dir nm cs hs =>
        simp only [Node.updateAt, Node.at?]
        by_cases hmn : m = n
        · subst hmn
          rw [findChild_updateKids_eq f hf]
          cases findChild cs m with
          | none => rfl
          | some c =>
            have h1 : ¬ rest <+: q' := fun hp => h (List.cons_prefix_cons.2 ⟨rfl, hp⟩)
            have h2 : ¬ q' <+: rest := fun hp => h' (List.cons_prefix_cons.2 ⟨rfl, hp⟩)
            exact ih c rest h1 h2
        · rw [findChild_updateKids_ne f hf n m rest cs hmn]

/-- no distinctness of sibling names is needed: `at?` and `updateKids` agree on the first child of a given name -/
theorem updateAt_at?_hist (f : Node → Node) (hf : ∀ x, (f x).name = x.name) (t : Node) (p q : RelPath)
    (h : ¬ p <+: q) :
    ((Node.updateAt f t p).at? q).map Node.hist = (t.at? q).map Node.hist := by
  rcases prefix_trichotomy p q with h1 | ⟨m, rest, rfl⟩ | ⟨h1, h2⟩
  · exact absurd h1 h
  · rw [updateAt_at?_prefix f hf, Option.map_map]
    congr 1; funext n
    cases n <;> simp [Node.updateAt, Node.hist]
  · rw [updateAt_at?_disjoint f hf t p q h1 h2]

theorem updateAt_at?_other_file (f : Node → Node) (hf : ∀ x, (f x).name = x.name) (t : Node) (p q : RelPath)
    (nm : String) (c : Bytes) (nm' : String) (c' : Bytes) (hp : t.at? p = some (.file nm c))
    (hq : t.at? q = some (.file nm' c')) (hne : q ≠ p) :
    (Node.updateAt f t p).at? q = some (.file nm' c') := by
  rw [updateAt_at?_disjoint f hf t p q, hq]
  · exact fun h => hne (at?_file_prefix t p q nm c hp h _ hq).symm
  · exact fun h => hne (at?_file_prefix t q p nm' c' hq h _ hp)

/-- the tree has a node at `p`, a folder (`d = true`) or a file -/
def Has (T : Node) (p : RelPath) (d : Bool) : Prop := ∃ n, T.at? p = some n ∧ n.isDir = d

theorem updateAt_has_prefix (f : Node → Node) (hfn : ∀ x, (f x).name = x.name) (hfd : ∀ x, (f x).isDir = x.isDir)
    (t : Node) (p r : RelPath) (d : Bool) : Has (Node.updateAt f t (p ++ r)) p d ↔ Has t p d := by
  unfold Has
  rw [updateAt_at?_prefix f hfn]
  cases t.at? p with
  | none => simp
  | some n0 => simp [updateAt_isDir f hfd]

/-! ### replacing the content of a file, removing and adding a node -/

def setContent (c' : Bytes) : Node → Node
  | .file n _ => .file n c'
  | d => d

theorem setContent_name (c' : Bytes) (x : Node) : (setContent c' x).name = x.name := by
  cases x <;> rfl

theorem fileContent_updateAt_setContent (c' : Bytes) (t : Node) (p : RelPath) (nm : String) (c : Bytes)
    (h : t.at? p = some (.file nm c)) :
    (Node.updateAt (setContent c') t p).at? p = some (.file nm c') ∧
      fileContent (Node.updateAt (setContent c') t p) p = c' := by
  have := updateAt_at?_self (setContent c') (setContent_name c') t p
  rw [h] at this
  refine ⟨this, ?_⟩
  unfold fileContent
  rw [this]
  rfl

def removeChild (n : String) : Node → Node
  | .dir nm cs h => .dir nm (cs.filter fun c => c.name != n) h
  | x => x

/-- add the child `x` to a folder (at the end of the stored order; the commands sort by name) -/
def addChild (x : Node) : Node → Node
  | .dir nm cs h => .dir nm (cs ++ [x]) h
  | y => y

/-- move the file named `na` in the folder `pa` to the folder `pb` under the name `nb`, with content `c`: the node
is removed from `pa` and a file node `nb` with the content is added to `pb` -/
def moveFile (t : Node) (pa : RelPath) (na : String) (pb : RelPath) (nb : String) (c : Bytes) : Node :=
  Node.updateAt (addChild (.file nb c)) (Node.updateAt (removeChild na) t pa) pb

theorem removeChild_name (n : String) (x : Node) : (removeChild n x).name = x.name := by cases x <;> rfl
theorem removeChild_isDir (n : String) (x : Node) : (removeChild n x).isDir = x.isDir := by cases x <;> rfl
theorem removeChild_hist (n : String) (x : Node) : (removeChild n x).hist = x.hist := by cases x <;> rfl
theorem addChild_name (y x : Node) : (addChild y x).name = x.name := by cases x <;> rfl
theorem addChild_isDir (y x : Node) : (addChild y x).isDir = x.isDir := by cases x <;> rfl
theorem addChild_hist (y x : Node) : (addChild y x).hist = x.hist := by cases x <;> rfl

theorem removeChild_at? (na : String) (n : Node) (m : String) (rest : RelPath) :
    (removeChild na n).at? (m :: rest) = if m = na then none else n.at? (m :: rest) := by
  cases n with
  | file nm c => simp [removeChild, Node.at?]
  | dir nm cs h =>
    simp only [removeChild, Node.at?_dir_cons]
    have : findChild (cs.filter fun c => c.name != na) m = if m = na then none else findChild cs m := by
      unfold findChild
      rw [List.find?_filter]
      by_cases hm : m = na
      · subst hm
        simp only [if_true]
        rw [List.find?_eq_none]
        intro x _
        by_cases hx : x.name = m <;> simp [hx]
      · simp only [hm, if_false]
        congr 1
        funext x
        by_cases hx : x.name = m
        · simp [hx, hm]
        · simp [hx]
    rw [this]
    split <;> simp

theorem addChild_at? (x : Node) (nm : String) (cs : List Node) (h : Option HistStore) (m : String)
    (rest : RelPath) :
    (addChild x (.dir nm cs h)).at? (m :: rest) =
      match findChild cs m with
      | some c => c.at? rest
      | none => if x.name = m then x.at? rest else none := by
  simp only [addChild, Node.at?_dir_cons]
  unfold findChild
  rw [List.find?_append]
  cases hf : cs.find? (fun c => c.name == m) with
  | some c => simp
  | none =>
    by_cases hx : x.name = m
    · simp [hx]
    · simp [hx]

section remove
variable (t0 : Node) (pa : RelPath) (na : String) (nmA : String) (cA : Bytes)
  (ha : t0.at? (pa ++ [na]) = some (.file nmA cA))
include ha

/-- three cases of `p` against the folder path `pa`: above it (excluded by `hp`), below it (look at the node there:
`removeChild_at?`), beside it (unchanged) -/
theorem removeAt_at? (p : RelPath) (hp : ¬ p <+: pa) :
    (Node.updateAt (removeChild na) t0 pa).at? p = if p = pa ++ [na] then none else t0.at? p := by
  rcases prefix_trichotomy p pa with h | ⟨m, rest, rfl⟩ | ⟨h1, h2⟩
  · exact absurd h hp
  · rw [updateAt_at?_below _ (removeChild_name na)]
    have h0 : t0.at? (pa ++ m :: rest) = (t0.at? pa).bind (·.at? (m :: rest)) := Node.at?_append _ _ _
    cases hpa : t0.at? pa with
    | none =>
      rw [hpa] at h0
      simp only [Option.map_none, Option.bind_none]
      split
      · rfl
      · exact h0.symm
    | some n =>
      rw [hpa] at h0
      simp only [Option.map_some, Option.bind_some, removeChild_at?]
      by_cases hm : m = na
      · subst hm
        simp only [if_true]
        cases rest with
        | nil => simp
        | cons m' rest' =>
          have : t0.at? (pa ++ m :: m' :: rest') = none := by
            have := at?_below_file ha m' rest'
            simpa using this
          rw [this]
          simp
      · have hne : pa ++ m :: rest ≠ pa ++ [na] := by
          intro h
          have := List.append_cancel_left h
          simp only [List.cons.injEq] at this
          exact hm this.1
        simp only [hm, if_false, hne]
        exact h0.symm
  · rw [updateAt_at?_disjoint _ (removeChild_name na) t0 pa p h2 h1]
    have hne : p ≠ pa ++ [na] := by
      rintro rfl
      exact h2 (List.prefix_append _ _)
    simp [hne]

theorem removeAt_has (p : RelPath) (d : Bool) :
    Has (Node.updateAt (removeChild na) t0 pa) p d ↔ Has t0 p d ∧ p ≠ pa ++ [na] := by
  by_cases hp : p <+: pa
  · obtain ⟨r, rfl⟩ := hp
    have hne : p ≠ (p ++ r) ++ [na] := by
      intro h
      have := congrArg List.length h
      simp at this
    rw [updateAt_has_prefix _ (removeChild_name na) (removeChild_isDir na)]
    exact ⟨fun h => ⟨h, hne⟩, fun h => h.1⟩
  · unfold Has
    rw [removeAt_at? t0 pa na nmA cA ha p hp]
    by_cases hpa : p = pa ++ [na]
    · simp [hpa]
    · simp [hpa]

theorem removeAt_file (p : RelPath) (nm : String) (c : Bytes) (hpf : t0.at? p = some (.file nm c))
    (hne : p ≠ pa ++ [na]) : (Node.updateAt (removeChild na) t0 pa).at? p = some (.file nm c) := by
  have hp : ¬ p <+: pa := by
    rintro ⟨r, rfl⟩
    have : t0.at? (p ++ (r ++ [na])) = some (.file nmA cA) := by simpa using ha
    cases hr : r ++ [na] with
    | nil => simp at hr
    | cons m rest =>
      rw [hr, at?_below_file hpf m rest] at this
      cases this
  rw [removeAt_at? t0 pa na nmA cA ha p hp, if_neg hne, hpf]

theorem removeAt_none (p : RelPath) (hpn : t0.at? p = none) :
    (Node.updateAt (removeChild na) t0 pa).at? p = none := by
  cases h : (Node.updateAt (removeChild na) t0 pa).at? p with
  | none => rfl
  | some n =>
    have := (removeAt_has t0 pa na nmA cA ha p n.isDir).1 ⟨n, h, rfl⟩
    obtain ⟨⟨n0, h0, -⟩, -⟩ := this
    rw [hpn] at h0
    cases h0

end remove

section add
variable (t1 : Node) (pb : RelPath) (nb : String) (c : Bytes)
  (hpb : Has t1 pb true) (hfresh : t1.at? (pb ++ [nb]) = none)
include hpb hfresh

/-- the same three cases of `p` against `pb`, with `addChild_at?` for the node there -/
theorem addAt_at? (p : RelPath) (hp : ¬ p <+: pb) :
    (Node.updateAt (addChild (.file nb c)) t1 pb).at? p =
      if p = pb ++ [nb] then some (.file nb c) else t1.at? p := by
  obtain ⟨nB, hnB, hdirB⟩ := hpb
  rcases prefix_trichotomy p pb with h | ⟨m, rest, rfl⟩ | ⟨h1, h2⟩
  · exact absurd h hp
  · rw [updateAt_at?_below _ (addChild_name _), hnB]
    simp only [Option.map_some, Option.bind_some]
    have h0 : t1.at? (pb ++ m :: rest) = nB.at? (m :: rest) := by rw [Node.at?_append, hnB]; rfl
    have hf0 : nB.at? [nb] = none := by
      have : t1.at? (pb ++ [nb]) = nB.at? [nb] := by rw [Node.at?_append, hnB]; rfl
      rw [← this]; exact hfresh
    cases nB with
    | file _ _ => cases hdirB
    | dir nm cs h =>
      rw [addChild_at?]
      rw [Node.at?_dir_cons] at h0 hf0
      have hfn : findChild cs nb = none := by
        cases hfc : findChild cs nb with
        | none => rfl
        | some x => rw [hfc] at hf0; simp [Node.at?_nil] at hf0
      by_cases hm : m = nb
      · subst hm
        rw [hfn]
        simp only [Node.name, if_true]
        cases rest with
        | nil => simp [Node.at?_nil]
        | cons m' rest' =>
          rw [h0, hfn]
          simp [Node.at?]
      · have hne : pb ++ m :: rest ≠ pb ++ [nb] := by
          intro h
          have := List.append_cancel_left h
          simp only [List.cons.injEq] at this
          exact hm this.1
        rw [if_neg hne, h0]
        cases hfc : findChild cs m with
        | some x => rfl
        | none =>
          have : ¬ nb = m := fun h => hm h.symm
          simp [Node.name, this]
  · rw [updateAt_at?_disjoint _ (addChild_name _) t1 pb p h2 h1]
    have hne : p ≠ pb ++ [nb] := by
      rintro rfl
      exact h2 (List.prefix_append _ _)
    simp [hne]

theorem addAt_has (p : RelPath) (d : Bool) :
    Has (Node.updateAt (addChild (.file nb c)) t1 pb) p d ↔ Has t1 p d ∨ (p = pb ++ [nb] ∧ d = false) := by
  by_cases hp : p <+: pb
  · obtain ⟨r, rfl⟩ := hp
    have hne : p ≠ (p ++ r) ++ [nb] := by
      intro h
      have := congrArg List.length h
      simp at this
    rw [updateAt_has_prefix _ (addChild_name _) (addChild_isDir _)]
    exact ⟨Or.inl, fun h => h.elim id fun h' => absurd h'.1 hne⟩
  · unfold Has
    rw [addAt_at? t1 pb nb c hpb hfresh p hp]
    by_cases hpe : p = pb ++ [nb]
    · subst hpe
      simp only [if_true, Option.some.injEq, hfresh, reduceCtorEq, false_and, exists_false, true_and, false_or]
      constructor
      · rintro ⟨n, rfl, hd⟩; exact hd.symm
      · rintro rfl; exact ⟨_, rfl, rfl⟩
    · simp [hpe]

theorem addAt_file (p : RelPath) (nm : String) (c' : Bytes) (hpf : t1.at? p = some (.file nm c')) :
    (Node.updateAt (addChild (.file nb c)) t1 pb).at? p = some (.file nm c') := by
  have hp : ¬ p <+: pb := by
    rintro ⟨r, rfl⟩
    obtain ⟨nB, hnB, hdirB⟩ := hpb
    cases r with
    | nil =>
      rw [List.append_nil, hpf] at hnB
      cases hnB
      cases hdirB
    | cons m rest =>
      rw [at?_below_file hpf m rest] at hnB
      cases hnB
  have hne : p ≠ pb ++ [nb] := by
    rintro rfl
    rw [hfresh] at hpf
    cases hpf
  rw [addAt_at? t1 pb nb c hpb hfresh p hp, if_neg hne, hpf]

theorem addAt_dst : (Node.updateAt (addChild (.file nb c)) t1 pb).at? (pb ++ [nb]) = some (.file nb c) := by
  have hp : ¬ (pb ++ [nb]) <+: pb := by
    intro h
    have := h.length_le
    simp at this
    omega
  rw [addAt_at? t1 pb nb c hpb hfresh _ hp, if_pos rfl]

end add

/-! ### the induction for an update of every child of the name (`OnPath`, `Node.updateAt_rel`) -/

/-- the condition `C` holds for every node `Node.updateAt f t q` applies `f` to -/
def OnPath (C : Node → Prop) : Node → RelPath → Prop
  | t, [] => C t
  | .file _ _, _ :: _ => True
  | .dir _ cs _, m :: rest => ∀ c ∈ cs, c.name = m → OnPath C c rest

theorem onPath_nil (C : Node → Prop) (t : Node) : OnPath C t [] ↔ C t := by
  cases t <;> simp [OnPath]

theorem onPath_of_forall (C : Node → Prop) (h : ∀ n, C n) : ∀ (q : RelPath) (t : Node), OnPath C t q := by
  intro q
  induction q with
  | nil => intro t; exact (onPath_nil C t).2 (h t)
  | cons m rest ih =>
    intro t
    cases t with
    | file _ _ => simp [OnPath]
    | dir nm cs hs =>
      simp only [OnPath]
      intro c _ _
      exact ih c

theorem onPath_of_at? (C : Node → Prop) : ∀ (q : RelPath) (t : Node), t.NamesDistinct →
    (∀ n, t.at? q = some n → C n) → OnPath C t q := by
  intro q
  induction q with
  | nil => intro t _ h; exact (onPath_nil C t).2 (h t (Node.at?_nil t))
  | cons m rest ih =>
    intro t hd h
    cases t with
    | file _ _ => simp [OnPath]
    | dir nm cs hs =>
      simp only [OnPath]
      intro c hc hname
      rw [Node.namesDistinct_dir] at hd
      apply ih c (hd.2 c hc)
      intro n hn
      apply h n
      rw [Node.at?_dir_cons, ← hname, findChild_of_mem hd.1 hc]
      exact hn

theorem OnPath.imp {C C' : Node → Prop} (h : ∀ n, C n → C' n) : ∀ (q : RelPath) (t : Node), OnPath C t q → OnPath C' t q
  | [], t, hon => (onPath_nil C' t).2 (h t ((onPath_nil C t).1 hon))
  | _ :: _, .file _ _, _ => trivial
  | _ :: rest, .dir _ _ _, hon => fun c hc hn => OnPath.imp h rest c (hon c hc hn)

/-- A relation between a node and its update that holds
wherever `f` is applied, holds between a node and itself, and is kept when the children of a folder are replaced one
for one holds between `t` and `Node.updateAt f t q`.  No distinct names are needed: `Node.updateKids` updates every
child of the name. -/
theorem Node.updateAt_rel {R : Node → Node → Prop} (f : Node → Node) (hrefl : ∀ t, R t t)
    (hdir : ∀ n h cs (g : Node → Node), (∀ c ∈ cs, R c (g c)) → R (.dir n cs h) (.dir n (cs.map g) h)) :
    ∀ (q : RelPath) (t : Node), OnPath (fun d => R d (f d)) t q → R t (Node.updateAt f t q)
  | [], t, hon => by rw [updateAt_nil]; exact (onPath_nil _ t).1 hon
  | _ :: _, .file _ _, _ => hrefl _
  | m :: rest, .dir nm cs hs, hon => by
    rw [updateAt_dir_cons, updateKids_eq_map]
    refine hdir nm hs cs _ fun c hc => ?_
    split
    · next hname => exact Node.updateAt_rel f hrefl hdir rest c (hon c hc (by simpa using hname))
    · exact hrefl c

/-! ### tree-wide properties under an update -/

/-- a property `Good` of trees that is, for a folder, the condition `L` on the (name, `ascmhl` folder) pairs of its
children plus the property of every child -/
structure KidsProp (Good : Node → Prop) (L : List (String × Option HistStore) → Prop) : Prop where
  file : ∀ n c, Good (.file n c)
  dir : ∀ nm cs h, Good (.dir nm cs h) ↔ L (cs.map fun c => (c.name, c.hist)) ∧ ∀ c ∈ cs, Good c

/-- `Node.updateAt_rel` at the relation `R c c' :=` name and `ascmhl` folder kept `∧ (Good c → Good c')` -/
theorem updateAt_good {Good : Node → Prop} {L : List (String × Option HistStore) → Prop} (hK : KidsProp Good L)
    (f : Node → Node) (hfn : ∀ x, (f x).name = x.name) (hfh : ∀ x, (f x).hist = x.hist) :
    ∀ (q : RelPath) (t : Node), Good t → OnPath (fun n => Good n → Good (f n)) t q →
      Good (Node.updateAt f t q) := fun q t hg hon =>
  (Node.updateAt_rel (R := fun c c' => c'.name = c.name ∧ c'.hist = c.hist ∧ (Good c → Good c')) f
    (fun _ => ⟨rfl, rfl, id⟩)
    (fun n h cs g hk => ⟨rfl, rfl, fun hg => by
      rw [hK.dir] at hg ⊢
      rw [List.map_map, List.map_congr_left (g := fun c => (c.name, c.hist)) fun c hc => by
        simp only [Function.comp, (hk c hc).1, (hk c hc).2.1]]
      exact ⟨hg.1, fun c' hc' => by
        obtain ⟨c, hc, rfl⟩ := List.mem_map.1 hc'
        exact (hk c hc).2.2 (hg.2 c hc)⟩⟩)
    q t (hon.imp (fun d h => ⟨hfn d, hfh d, h⟩) q t)).2.2 hg

theorem namesDistinct_kids : KidsProp Node.NamesDistinct fun ks => (ks.map (·.1)).Nodup where
  file _ _ := trivial
  dir nm cs h := by
    rw [Node.namesDistinct_dir, List.map_map]
    rfl

theorem namesOk_kids : KidsProp Node.NamesOk fun ks => ∀ k ∈ ks, NameOk k.1 where
  file _ _ := by intro s hs; simp [Node.descNames] at hs
  dir nm cs h := by
    unfold Node.NamesOk
    constructor
    · intro hall
      refine ⟨fun k hk => ?_, fun c hc s hs => hall s ((Node.mem_descNames_dir _ _ _ _).2 ⟨c, hc, Or.inr hs⟩)⟩
      obtain ⟨c, hc, rfl⟩ := List.mem_map.1 hk
      exact hall c.name ((Node.mem_descNames_dir _ _ _ _).2 ⟨c, hc, Or.inl rfl⟩)
    · rintro ⟨h1, h2⟩ s hs
      obtain ⟨c, hc, rfl | hs⟩ := (Node.mem_descNames_dir _ _ _ _).1 hs
      · exact h1 (c.name, c.hist) (List.mem_map.2 ⟨c, hc, rfl⟩)
      · exact h2 c hc s hs

theorem removeAt_good {Good : Node → Prop} {L : List (String × Option HistStore) → Prop} (hK : KidsProp Good L)
    (hsub : ∀ ks ks' : List (String × Option HistStore), ks'.Sublist ks → L ks → L ks') (na : String) (q : RelPath)
    (t : Node) (hg : Good t) : Good (Node.updateAt (removeChild na) t q) := by
  refine updateAt_good hK _ (removeChild_name na) (removeChild_hist na) q t hg (onPath_of_forall _ ?_ q t)
  intro n hn
  cases n with
  | file _ _ => exact hn
  | dir nm cs h =>
    rw [removeChild, hK.dir] at *
    exact ⟨hsub _ _ (List.Sublist.map _ List.filter_sublist) hn.1, fun c hc => hn.2 c ((List.mem_filter.1 hc).1)⟩

theorem setContentAt_good {Good : Node → Prop} {L : List (String × Option HistStore) → Prop} (hK : KidsProp Good L)
    (c' : Bytes) (q : RelPath) (t : Node) (hg : Good t) : Good (Node.updateAt (setContent c') t q) := by
  refine updateAt_good hK _ (setContent_name c') (fun x => by cases x <;> rfl) q t hg (onPath_of_forall _ ?_ q t)
  intro n hn
  cases n with
  | file n _ => exact hK.file n c'
  | dir _ _ _ => exact hn

theorem addAt_good {Good : Node → Prop} {L : List (String × Option HistStore) → Prop} (hK : KidsProp Good L)
    (nb : String) (c : Bytes)
    (hadd : ∀ ks : List (String × Option HistStore), nb ∉ ks.map (·.1) → L ks → L (ks ++ [(nb, none)]))
    (q : RelPath) (t : Node) (hd : t.NamesDistinct) (hfresh : t.at? (q ++ [nb]) = none) (hg : Good t) :
    Good (Node.updateAt (addChild (.file nb c)) t q) := by
  refine updateAt_good hK _ (addChild_name _) (addChild_hist _) q t hg (onPath_of_at? _ q t hd ?_)
  intro n hnq hn
  cases n with
  | file _ _ => exact hn
  | dir nm cs h =>
    have hnot : nb ∉ (cs.map fun c => (c.name, c.hist)).map (·.1) := by
      have : t.at? (q ++ [nb]) = (Node.dir nm cs h).at? [nb] := by rw [Node.at?_append, hnq]; rfl
      rw [this, Node.at?_dir_cons] at hfresh
      intro hin
      simp only [List.map_map, List.mem_map, Function.comp] at hin
      obtain ⟨c0, hc0, hname⟩ := hin
      cases hfc : findChild cs nb with
      | none =>
        have := List.find?_eq_none.1 hfc c0 hc0
        simp [hname] at this
      | some x => rw [hfc] at hfresh; simp [Node.at?_nil] at hfresh
    rw [addChild, hK.dir] at *
    have hmap : ((cs ++ [Node.file nb c]).map fun c => (c.name, c.hist)) =
        (cs.map fun c => (c.name, c.hist)) ++ [(nb, none)] := by simp [Node.name, Node.hist]
    rw [hmap]
    refine ⟨hadd _ hnot hn.1, fun c0 hc0 => ?_⟩
    rcases List.mem_append.1 hc0 with h1 | h1
    · exact hn.2 c0 h1
    · rw [List.mem_singleton.1 h1]
      exact hK.file nb c

theorem namesDistinct_removeAt (na : String) (q : RelPath) (t : Node) (hd : t.NamesDistinct) :
    (Node.updateAt (removeChild na) t q).NamesDistinct :=
  removeAt_good namesDistinct_kids (fun _ _ h hn => hn.sublist (h.map _)) na q t hd

theorem namesDistinct_addAt (nb : String) (c : Bytes) (q : RelPath) (t : Node) (hd : t.NamesDistinct)
    (hfresh : t.at? (q ++ [nb]) = none) : (Node.updateAt (addChild (.file nb c)) t q).NamesDistinct := by
  refine addAt_good namesDistinct_kids nb c (fun ks hnot hn => ?_) q t hd hfresh hd
  rw [List.map_append, List.nodup_append]
  refine ⟨hn, by simp, ?_⟩
  intro x hx y hy hxy
  simp only [List.map_cons, List.map_nil, List.mem_singleton] at hy
  exact hnot (hy ▸ hxy ▸ hx)

/-! ### what the traversal comes across in an edited tree, and below a visible folder -/

theorem visible_removeAt (hit : RelPath → Bool) (t0 : Node) (hd : t0.NamesDistinct) (pa : RelPath) (na nmA : String)
    (cA : Bytes) (ha : t0.at? (pa ++ [na]) = some (.file nmA cA)) (q : RelPath) (d : Bool) :
    (q, d) ∈ visiblePaths hit (Node.updateAt (removeChild na) t0 pa) ↔
      (q, d) ∈ visiblePaths hit t0 ∧ q ≠ pa ++ [na] := by
  rw [MhlProps.C02.visible_iff_at hit _ (namesDistinct_removeAt na pa t0 hd) q d,
    MhlProps.C02.visible_iff_at hit _ hd q d]
  have := removeAt_has t0 pa na nmA cA ha q d
  unfold Has at this
  rw [this]
  constructor
  · rintro ⟨⟨hne, hh, hq⟩, hfree⟩
    exact ⟨⟨⟨hne, hh⟩, hfree⟩, hq⟩
  · rintro ⟨⟨⟨hne, hh⟩, hfree⟩, hq⟩
    exact ⟨⟨hne, hh, hq⟩, hfree⟩

theorem visible_addAt (hit : RelPath → Bool) (t1 : Node) (hd : t1.NamesDistinct) (pb : RelPath) (nb : String)
    (c : Bytes) (hpb : Has t1 pb true) (hfresh : t1.at? (pb ++ [nb]) = none) (q : RelPath) (d : Bool) :
    (q, d) ∈ visiblePaths hit (Node.updateAt (addChild (.file nb c)) t1 pb) ↔
      (q, d) ∈ visiblePaths hit t1 ∨
        (q = pb ++ [nb] ∧ d = false ∧ ∀ k, 0 < k → k ≤ (pb ++ [nb]).length → hit ((pb ++ [nb]).take k) = false) := by
  rw [MhlProps.C02.visible_iff_at hit _ (namesDistinct_addAt nb c pb t1 hd hfresh) q d,
    MhlProps.C02.visible_iff_at hit _ hd q d]
  have := addAt_has t1 pb nb c hpb hfresh q d
  unfold Has at this
  rw [this]
  constructor
  · rintro ⟨⟨hne, hh | ⟨rfl, rfl⟩⟩, hfree⟩
    · exact Or.inl ⟨⟨hne, hh⟩, hfree⟩
    · exact Or.inr ⟨rfl, rfl, hfree⟩
  · rintro (⟨⟨hne, hh⟩, hfree⟩ | ⟨rfl, rfl, hfree⟩)
    · exact ⟨⟨hne, Or.inl hh⟩, hfree⟩
    · exact ⟨⟨by simp, Or.inr ⟨rfl, rfl⟩⟩, hfree⟩

/-- a name that is not matched, below a visible folder (or the root): no prefix of its path is matched, which is what
`visible_addAt` asks of a file added there -/
theorem unmatched_below_visible (hit : RelPath → Bool) (t : Node) (pb : RelPath) (nb : String)
    (hpb : pb = [] ∨ (pb, true) ∈ visiblePaths hit t) (hhit : hit (pb ++ [nb]) = false) :
    ∀ k, 0 < k → k ≤ (pb ++ [nb]).length → hit ((pb ++ [nb]).take k) = false := by
  intro k hk0 hk
  by_cases hk' : k ≤ pb.length
  · rw [List.take_append_of_le_length hk']
    rcases hpb with rfl | hv
    · simp at hk'; omega
    · exact ((MhlProps.C02.visible_iff hit t pb true).1 hv).2 k hk0 hk'
  · have : k = (pb ++ [nb]).length := by simp at hk ⊢; omega
    rw [this, List.take_length]
    exact hhit

/-! ### the files of an edited tree -/

theorem visible_file_at (hit : RelPath → Bool) (t : Node) (hd : t.NamesDistinct) {q : RelPath}
    (hq : (q, false) ∈ visiblePaths hit t) : ∃ nm c, t.at? q = some (.file nm c) := by
  obtain ⟨c0, hat, hfile⟩ := MhlProps.C02.visible_on_disk _ _ hd q false hq
  cases c0 with
  | dir _ _ _ => cases hfile
  | file nm c => exact ⟨nm, c, hat⟩

theorem fileContent_removeAt (t0 : Node) (pa : RelPath) (na nmA : String) (cA : Bytes)
    (ha : t0.at? (pa ++ [na]) = some (.file nmA cA)) (q : RelPath) (nm : String) (c : Bytes)
    (hq : t0.at? q = some (.file nm c)) (hne : q ≠ pa ++ [na]) :
    fileContent (Node.updateAt (removeChild na) t0 pa) q = fileContent t0 q := by
  unfold fileContent
  rw [removeAt_file t0 pa na nmA cA ha q nm c hq hne, hq]

theorem fileContent_addAt (t1 : Node) (pb : RelPath) (nb : String) (c : Bytes) (hpb : Has t1 pb true)
    (hfresh : t1.at? (pb ++ [nb]) = none) (q : RelPath) (nm : String) (c' : Bytes)
    (hq : t1.at? q = some (.file nm c')) :
    fileContent (Node.updateAt (addChild (.file nb c)) t1 pb) q = fileContent t1 q := by
  unfold fileContent
  rw [addAt_file t1 pb nb c hpb hfresh q nm c' hq, hq]

/-! ### the induction along a path with distinct sibling names (`Node.updateAt_relAt`) -/

theorem updateKids_of_ne (f : Node → Node) (n : String) (rest : RelPath) :
    ∀ cs : List Node, (∀ c ∈ cs, c.name ≠ n) → Node.updateKids f n rest cs = cs
  | [], _ => by rw [Node.updateKids]
  | c :: cs, h => by
    rw [Node.updateKids, updateKids_of_ne f n rest cs (fun x hx => h x (by simp [hx]))]
    have : (c.name == n) = false := beq_false_of_ne (h c (by simp))
    simp [this]

theorem updateKids_split (f : Node → Node) (n : String) (rest : RelPath) :
    ∀ (cs : List Node) (c : Node), (cs.map Node.name).Nodup → findChild cs n = some c →
      ∃ pre post, cs = pre ++ c :: post ∧ Node.updateKids f n rest cs = pre ++ Node.updateAt f c rest :: post
  | [], _, _, h => by simp [findChild] at h
  | x :: cs, c, hnd, h => by
    simp only [List.map_cons, List.nodup_cons, List.mem_map, not_exists, not_and] at hnd
    unfold findChild at h
    rw [List.find?_cons] at h
    cases hx : x.name == n with
    | true =>
      rw [hx] at h
      cases h
      have hxn : x.name = n := by simpa using hx
      refine ⟨[], cs, rfl, ?_⟩
      rw [Node.updateKids, hx, updateKids_of_ne f n rest cs (fun y hy he => hnd.1 y hy (he.trans hxn.symm))]
      rfl
    | false =>
      rw [hx] at h
      obtain ⟨pre, post, h1, h2⟩ := updateKids_split f n rest cs c hnd.2 h
      refine ⟨x :: pre, post, by rw [h1]; rfl, ?_⟩
      rw [Node.updateKids, hx, h2]
      rfl

/-- sibling names are pairwise distinct in every folder ALONG the path `r` (all that `Node.updateAt` and `Node.at?`
need to agree on which child is meant) -/
def Node.DistinctAlong : Node → RelPath → Prop
  | _, [] => True
  | .file _ _, _ :: _ => True
  | .dir _ cs _, n :: rest => (cs.map Node.name).Nodup ∧ ∀ c ∈ cs, c.name = n → Node.DistinctAlong c rest

theorem Node.NamesDistinct.distinctAlong : ∀ (r : RelPath) (t : Node), t.NamesDistinct → t.DistinctAlong r
  | [], t, _ => by cases t <;> trivial
  | _ :: _, .file _ _, _ => trivial
  | n :: rest, .dir nm cs h, hd => by
    rw [Node.namesDistinct_dir] at hd
    exact ⟨hd.1, fun c hc _ => Node.NamesDistinct.distinctAlong rest c (hd.2 c hc)⟩

theorem Node.updateAt_of_none (f : Node → Node) : ∀ (r : RelPath) (t : Node), t.DistinctAlong r → t.at? r = none →
    Node.updateAt f t r = t
  | [], t, _, h => by rw [Node.at?_nil] at h; cases h
  | _ :: _, .file _ _, _, _ => rfl
  | n :: rest, .dir nm cs h, hd, hat => by
    rw [updateAt_dir_cons]
    congr 1
    rw [Node.at?_dir_cons] at hat
    cases hc : findChild cs n with
    | none =>
      refine updateKids_of_ne f n rest cs fun c hc' he => ?_
      have := findChild_of_mem hd.1 hc'
      rw [he, hc] at this; cases this
    | some c =>
      rw [hc] at hat
      obtain ⟨pre, post, hsplit, hupd⟩ := updateKids_split f n rest cs c hd.1 hc
      rw [hupd, Node.updateAt_of_none f rest c (hd.2 c (List.mem_of_find?_eq_some hc) (findChild_some hc).2) hat,
        ← hsplit]

/-- A relation between a tree and its update (indexed by the path of the node) that holds at the node `d` the path
leads to and is kept when ONE child of a folder is replaced holds between `t` and `Node.updateAt f t r` -/
theorem Node.updateAt_relAt (R : RelPath → Node → Node → Prop) (f : Node → Node)
    (step : ∀ p n pre c c' post h, ((pre ++ c :: post).map Node.name).Nodup → R (p ++ [c.name]) c c' →
      R p (.dir n (pre ++ c :: post) h) (.dir n (pre ++ c' :: post) h)) :
    ∀ (r p : RelPath) (t d : Node), t.DistinctAlong r → t.at? r = some d → R (p ++ r) d (f d) →
      R p t (Node.updateAt f t r)
  | [], p, t, d, _, hat, hR => by
    rw [Node.at?_nil] at hat; cases hat
    rw [updateAt_nil]; rwa [List.append_nil] at hR
  | n :: rest, _, .file _ _, d, _, hat, _ => by simp [Node.at?] at hat
  | n :: rest, p, .dir nm cs h, d, hd, hat, hR => by
    rw [Node.at?_dir_cons] at hat
    cases hc : findChild cs n with
    | none => rw [hc] at hat; cases hat
    | some c =>
      rw [hc] at hat
      obtain ⟨pre, post, hsplit, hupd⟩ := updateKids_split f n rest cs c hd.1 hc
      have hn := (findChild_some hc).2
      rw [updateAt_dir_cons, hupd, hsplit]
      refine step p nm pre c _ post h (hsplit ▸ hd.1) (Node.updateAt_relAt R f step rest _ c d
        (hd.2 c (List.mem_of_find?_eq_some hc) hn) hat ?_)
      rwa [hn, List.append_assoc]

/-! ### the `ascmhl` folder of the root folder matters neither to `fileContent` nor to the traversal -/

theorem fileContent_root_hist (rn : String) (cs : List Node) (h h' : Option HistStore) (p : RelPath) :
    fileContent (.dir rn cs h) p = fileContent (.dir rn cs h') p := by
  cases p with
  | nil => simp [fileContent, Node.at?]
  | cons n rest => simp [fileContent, Node.at?_dir_cons]

theorem visiblePaths_root_hist (hit : RelPath → Bool) (rn : String) (cs : List Node) (h h' : Option HistStore) :
    visiblePaths hit (.dir rn cs h) = visiblePaths hit (.dir rn cs h') := by
  unfold visiblePaths
  rw [traverse_dir, traverse_dir]

end MhlModel
