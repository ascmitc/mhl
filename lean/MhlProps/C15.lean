/-
C15 — An interrupted `create` never damages what was already recorded.

About `MhlModel/Crash.lean`: the write protocol of one history's commit (`HistCommit.ops`: manifest written to
`<name>.tmp`, atomically replaced into place, then the chain written to `ascmhl_chain.xml.tmp`, atomically replaced),
of a whole `create` (`createOps`, children before parents) and the states a kill can leave (`crashStates`: every
prefix of the operations, the last write possibly torn at any byte).

Trusted base (of the model): kill, not power loss; `os.replace` is atomic.

What is shown; the docstrings refer to these numbers.  1–7 are about one history's commit (`WfStale`: stale
temporaries of an earlier crash allowed; `WfCommit`: a clean folder), 8 about a whole `create`:
1. every file that is none of the commit's four paths (every earlier manifest, every media file) is byte-identical in
   every crash state
2. the chain file is the old one or the complete new one
3. the new manifest is absent or complete
4. the new chain is there only together with the complete new manifest
5. only the two temporaries can hold partial content; 5a. the loader does not look at them
6. the commit run to its end: new manifest, new chain, no temporaries
7. the residual (DESIGN.md §8, D6b): which crash states make every command refuse with exit 32; the first `create` in
   a folder has such a window (7a right behind the mkdir, 7a' with the complete manifest in place, 7a'' every state
   until the chain is in place); 7b. a later one has none
8. several histories, children before parents: 1–4 for every history, a parent's chain is new only when its children
   are complete, the end
2–4 and the statements about the temporaries are read off one table, `crash_rows`: a commit is two files written
through a temporary (`atomicWrite_crash`).  8 is the same per history, the other histories' operations framed out
(`multi_split`, `multi_frames`).
-/
import MhlProps.Proofs.CrashLemmas

namespace MhlProps.C15
open MhlModel.Crash MhlProps.CrashLemmas

/-! ### the four paths of one history's commit: manifest `mp`, chain `cp`, their temporaries `mt`, `ct` -/

def mp (c : HistCommit) : String := c.folder ++ c.manifestName
def cp (c : HistCommit) : String := c.folder ++ chainName
def mt (c : HistCommit) : String := c.folder ++ c.manifestName ++ ".tmp"
def ct (c : HistCommit) : String := c.folder ++ chainName ++ ".tmp"
def newManifest (c : HistCommit) : Bytes := c.manifestChunks.flatten
def newChain (c : HistCommit) : Bytes := c.chainChunks.flatten

def mkdirOps (c : HistCommit) : List Op := if c.folderExists then [] else [.mkdir c.folder]
/-- `manifestTail`: the operations of a commit behind the `create` of the manifest's temporary, `chainTail`: those
behind the `create` of the chain's; only `CrashRun.rest_eq` is stated with them, the proofs here go through `ops_eq` -/
def chainTail (c : HistCommit) : List Op :=
  c.chainChunks.map (Op.write (ct c)) ++ [.replace (ct c) (cp c)]
def manifestTail (c : HistCommit) : List Op :=
  c.manifestChunks.map (Op.write (mt c)) ++ (.replace (mt c) (mp c) :: .create (ct c) :: chainTail c)

theorem ops_eq (c : HistCommit) : c.ops = mkdirOps c ++
    (atomicWrite (mt c) (mp c) c.manifestChunks ++ atomicWrite (ct c) (cp c) c.chainChunks) := by
  simp [HistCommit.ops, mkdirOps, atomicWrite, mt, mp, ct, cp]

structure Distinct (c : HistCommit) : Prop where
  mp_cp : mp c ≠ cp c
  mp_mt : mp c ≠ mt c
  mp_ct : mp c ≠ ct c
  cp_mt : cp c ≠ mt c
  cp_ct : cp c ≠ ct c
  mt_ct : mt c ≠ ct c

theorem distinct_of_names (c : HistCommit) (h1 : c.manifestName ≠ chainName)
    (h2 : c.manifestName.endsWith ".tmp" = false) : Distinct c := by
  have h2' : c.manifestName ≠ chainName ++ ".tmp" := fun h => by
    rw [h, endsWith_append] at h2; cases h2
  refine ⟨?_, ?_, ?_, ?_, ?_, ?_⟩
  · intro h; exact h1 ((String.append_right_inj _).1 h)
  · exact ne_append_tmp _
  · intro h
    unfold mp ct at h
    rw [String.append_assoc] at h
    exact h2' ((String.append_right_inj _).1 h)
  · intro h
    unfold cp mt at h
    rw [String.append_assoc] at h
    exact tmp_ne_chainName _ ((String.append_right_inj _).1 h).symm
  · exact ne_append_tmp _
  · intro h
    exact h1 ((String.append_right_inj _).1 ((String.append_left_inj _).1 h))

/-- in particular every real manifest name (`NNNN_…​.mhl`) gives distinct paths -/
theorem distinct_of_mhl_name (c : HistCommit) (h : c.manifestName.endsWith ".mhl" = true) : Distinct c := by
  apply distinct_of_names
  · intro he
    rw [he, endsWith_iff_suffix] at h
    revert h; decide +kernel
  · cases h' : c.manifestName.endsWith ".tmp" with
    | false => rfl
    | true => rw [not_endsWith_mhl_of_tmp h'] at h; cases h

/-- stale temporaries of an earlier crash are allowed -/
structure WfStale (fs : Fs) (c : HistCommit) : Prop where
  distinct : Distinct c
  mp_fresh : fsGet fs (mp c) = none
  dir : c.folderExists = true → c.folder ∈ fs.dirs

structure WfCommit (fs : Fs) (c : HistCommit) : Prop extends WfStale fs c where
  mt_fresh : fsGet fs (mt c) = none
  ct_fresh : fsGet fs (ct c) = none

/-! ### what the paths hold while a commit runs, as views: before it `fsGet fs`, then `vB`, `vC`, `vD`, `vE` -/

/-- manifest temporary holds `x` -/
def vB (fs : Fs) (c : HistCommit) (x : Bytes) : String → Option Bytes := upd (fsGet fs) (mt c) (some x)
/-- manifest in place, its temporary gone -/
def vC (fs : Fs) (c : HistCommit) : String → Option Bytes :=
  upd (upd (fsGet fs) (mt c) none) (mp c) (some (newManifest c))
/-- manifest in place, chain temporary holds `y` -/
def vD (fs : Fs) (c : HistCommit) (y : Bytes) : String → Option Bytes := upd (vC fs c) (ct c) (some y)
/-- everything in place, no temporaries -/
def vE (fs : Fs) (c : HistCommit) : String → Option Bytes :=
  upd (upd (vC fs c) (ct c) none) (cp c) (some (newChain c))

theorem touches_mkdirOps (c : HistCommit) (q : String) : ∀ op ∈ mkdirOps c, q ∉ touches op := by
  intro op hop
  unfold mkdirOps at hop
  split at hop
  · simp at hop
  · simp only [List.mem_singleton] at hop; subst hop; simp [touches]

theorem view_mkdirOps (fs : Fs) (c : HistCommit) : fsGet (applyOps fs (mkdirOps c)) = fsGet fs :=
  funext fun q => fsGet_applyOps_of_not_touched _ _ _ (touches_mkdirOps c q)

theorem dirs_mkdirOps {fs : Fs} {c : HistCommit} (h : c.folderExists = true → c.folder ∈ fs.dirs) :
    c.folder ∈ (applyOps fs (mkdirOps c)).dirs := by
  unfold mkdirOps
  by_cases he : c.folderExists = true
  · simpa [he] using h he
  · simpa [he] using mem_dirs_mkdir fs c.folder

theorem view_manifest_done (fs : Fs) (c : HistCommit) :
    fsGet (applyOps (applyOps fs (mkdirOps c)) (atomicWrite (mt c) (mp c) c.manifestChunks)) = vC fs c := by
  rw [atomicWrite_final, view_mkdirOps]; rfl

theorem final_view (fs : Fs) (c : HistCommit) : fsGet (applyOps fs c.ops) = vE fs c := by
  rw [ops_eq, applyOps_append, applyOps_append, atomicWrite_final, view_manifest_done]; rfl

theorem Distinct.ne (D : Distinct c) :
    (mp c ≠ cp c ∧ cp c ≠ mp c) ∧ (mp c ≠ mt c ∧ mt c ≠ mp c) ∧ (mp c ≠ ct c ∧ ct c ≠ mp c) ∧
    (cp c ≠ mt c ∧ mt c ≠ cp c) ∧ (cp c ≠ ct c ∧ ct c ≠ cp c) ∧ (mt c ≠ ct c ∧ ct c ≠ mt c) :=
  ⟨⟨D.mp_cp, D.mp_cp.symm⟩, ⟨D.mp_mt, D.mp_mt.symm⟩, ⟨D.mp_ct, D.mp_ct.symm⟩, ⟨D.cp_mt, D.cp_mt.symm⟩,
    ⟨D.cp_ct, D.cp_ct.symm⟩, ⟨D.mt_ct, D.mt_ct.symm⟩⟩

/-- simp set that evaluates a view at a path using the distinctness facts `D` -/
local macro "views" D:term : tactic => `(tactic| simp [vB, vC, vD, vE, upd_apply, Distinct.ne $D])

/-- what a state shows at the four paths: manifest, chain, manifest temporary, chain temporary -/
structure Shows (c : HistCommit) (st : Fs) (m k a b : Option Bytes) : Prop where
  mp : fsGet st (mp c) = m
  cp : fsGet st (cp c) = k
  mt : fsGet st (mt c) = a
  ct : fsGet st (ct c) = b

section rows
variable {fs st : Fs} {c : HistCommit} (D : Distinct c)
include D

theorem shows_vB {x : Bytes} (h : fsGet st = vB fs c x) :
    Shows c st (fsGet fs (mp c)) (fsGet fs (cp c)) (some x) (fsGet fs (ct c)) := by
  constructor <;> rw [h] <;> views D

theorem shows_vC (h : fsGet st = vC fs c) :
    Shows c st (some (newManifest c)) (fsGet fs (cp c)) none (fsGet fs (ct c)) := by
  constructor <;> rw [h] <;> views D

theorem shows_vD {y : Bytes} (h : fsGet st = vD fs c y) :
    Shows c st (some (newManifest c)) (fsGet fs (cp c)) none (some y) := by
  constructor <;> rw [h] <;> views D

theorem shows_vE (h : fsGet st = vE fs c) : Shows c st (some (newManifest c)) (some (newChain c)) none none := by
  constructor <;> rw [h] <;> views D

end rows

def paths (c : HistCommit) : List String := [mp c, cp c, mt c, ct c]

theorem not_mem_paths {c : HistCommit} {q : String} :
    q ∉ paths c ↔ q ≠ mp c ∧ q ≠ cp c ∧ q ≠ mt c ∧ q ≠ ct c := by simp [paths]

theorem mp_mem_paths (c : HistCommit) : mp c ∈ paths c := by simp [paths]
theorem cp_mem_paths (c : HistCommit) : cp c ∈ paths c := by simp [paths]

theorem touches_ops (c : HistCommit) : ∀ op ∈ c.ops, ∀ q ∈ touches op, q ∈ paths c := by
  intro op hop q hq
  rw [ops_eq, List.mem_append, List.mem_append] at hop
  rcases hop with h | h | h
  · exact absurd hq (touches_mkdirOps c q op h)
  · rcases touches_atomicWrite op h q hq with rfl | rfl <;> simp [paths]
  · rcases touches_atomicWrite op h q hq with rfl | rfl <;> simp [paths]

theorem not_touched_of_not_mem_paths {c : HistCommit} {q : String} (hq : q ∉ paths c) :
    ∀ op ∈ c.ops, q ∉ touches op :=
  fun op hop h => hq (touches_ops c op hop q h)

/-! ## One history -/

section single
variable {fs st : Fs} {c : HistCommit}

/-- 1, for the absence of a file as for its content -/
theorem other_paths_untouched (hst : st ∈ crashStates fs c.ops) {p : String} (hp : p ∉ paths c) :
    fsGet st p = fsGet fs p :=
  fsGet_crash_of_not_touched hst (not_touched_of_not_mem_paths hp)

/-- 1. every previously committed manifest — in this and in every other folder — and every media file is
byte-identical in every crash state -/
theorem old_files_intact (hst : st ∈ crashStates fs c.ops) (p : String) (b : Bytes)
    (hb : fsGet fs p = some b) (hcp : p ≠ cp c) (hmt : p ≠ mt c) (hct : p ≠ ct c) (hmp : p ≠ mp c) :
    fsGet st p = some b := by
  rw [other_paths_untouched hst (not_mem_paths.2 ⟨hmp, hcp, hmt, hct⟩), hb]

/-- previously committed manifests of THIS folder are among them: an old manifest has another name than the new
one, the chain and the temporaries -/
theorem old_manifest_intact (hw : WfStale fs c) (hst : st ∈ crashStates fs c.ops) (n : String) (b : Bytes)
    (hb : fsGet fs (c.folder ++ n) = some b) (hn1 : n ≠ chainName) (hn2 : n.endsWith ".tmp" = false) :
    fsGet st (c.folder ++ n) = some b := by
  have hne : ∀ m : String, n ≠ m ++ ".tmp" := fun m h => by
    rw [h, endsWith_append] at hn2; cases hn2
  apply old_files_intact hst _ _ hb
  · intro h; exact hn1 ((String.append_right_inj _).1 h)
  · intro h; unfold mt at h; rw [String.append_assoc] at h
    exact hne _ ((String.append_right_inj _).1 h)
  · intro h; unfold ct at h; rw [String.append_assoc] at h
    exact hne _ ((String.append_right_inj _).1 h)
  · intro h; rw [h, hw.mp_fresh] at hb; cases hb

/-- In every crash state the four paths show one of five rows: nothing written; the manifest's temporary holds a
prefix; the manifest is in place; the chain's temporary holds a prefix; everything is in place. Stale temporaries
of an earlier crash allowed. 2–4 and the statements about the temporaries are read off this table. -/
theorem crash_rows (hw : WfStale fs c) (hst : st ∈ crashStates fs c.ops) :
    Shows c st (fsGet fs (mp c)) (fsGet fs (cp c)) (fsGet fs (mt c)) (fsGet fs (ct c)) ∨
    (∃ x, x <+: newManifest c ∧ Shows c st (fsGet fs (mp c)) (fsGet fs (cp c)) (some x) (fsGet fs (ct c))) ∨
    Shows c st (some (newManifest c)) (fsGet fs (cp c)) none (fsGet fs (ct c)) ∨
    (∃ y, y <+: newChain c ∧ Shows c st (some (newManifest c)) (fsGet fs (cp c)) none (some y)) ∨
    Shows c st (some (newManifest c)) (some (newChain c)) none none := by
  have D := hw.distinct
  have start : ∀ {st}, fsGet st = fsGet fs →
      Shows c st (fsGet fs (mp c)) (fsGet fs (cp c)) (fsGet fs (mt c)) (fsGet fs (ct c)) :=
    fun h => ⟨by rw [h], by rw [h], by rw [h], by rw [h]⟩
  rw [ops_eq, mem_crashStates_append, mem_crashStates_append] at hst
  rcases hst with h0 | h1 | h2
  · exact .inl (start (funext fun q => fsGet_crash_of_not_touched h0 (touches_mkdirOps c q)))
  · -- the manifest through its temporary, from a state that looks like `fs`
    rcases atomicWrite_crash h1 with h | ⟨x, hx, h⟩ | h <;> rw [view_mkdirOps] at h
    · exact .inl (start h)
    · exact .inr (.inl ⟨x, hx, shows_vB D h⟩)
    · exact .inr (.inr (.inl (shows_vC D h)))
  · -- the chain through its temporary, from a state that looks like `vC`
    rcases atomicWrite_crash h2 with h | ⟨y, hy, h⟩ | h <;> rw [view_manifest_done] at h
    · exact .inr (.inr (.inl (shows_vC D h)))
    · exact .inr (.inr (.inr (.inl ⟨y, hy, shows_vD D h⟩)))
    · exact .inr (.inr (.inr (.inr (shows_vE D h))))

/-- properties 2–4 for one history -/
structure CrashOk (fs : Fs) (c : HistCommit) (st : Fs) : Prop where
  /-- 2. old or complete new chain -/
  chain : fsGet st (cp c) = fsGet fs (cp c) ∨ fsGet st (cp c) = some (newChain c)
  /-- 3. new manifest absent or complete -/
  manifest : fsGet st (mp c) = none ∨ fsGet st (mp c) = some (newManifest c)
  /-- 4. new chain only with the complete manifest -/
  link : fsGet st (cp c) = some (newChain c) → fsGet fs (cp c) ≠ some (newChain c) →
    fsGet st (mp c) = some (newManifest c)

theorem CrashOk.of_absent (hk : fsGet st (cp c) = fsGet fs (cp c)) (hm : fsGet st (mp c) = none) :
    CrashOk fs c st :=
  ⟨.inl hk, .inl hm, fun hn hne => absurd (hk ▸ hn) hne⟩

theorem CrashOk.of_manifest (hk : fsGet st (cp c) = fsGet fs (cp c) ∨ fsGet st (cp c) = some (newChain c))
    (hm : fsGet st (mp c) = some (newManifest c)) : CrashOk fs c st :=
  ⟨hk, .inr hm, fun _ _ => hm⟩

theorem crashOk_single (hw : WfStale fs c) (hst : st ∈ crashStates fs c.ops) : CrashOk fs c st := by
  rcases crash_rows hw hst with h | ⟨_, _, h⟩ | h | ⟨_, _, h⟩ | h
  · exact .of_absent h.cp (h.mp.trans hw.mp_fresh)
  · exact .of_absent h.cp (h.mp.trans hw.mp_fresh)
  · exact .of_manifest (.inl h.cp) h.mp
  · exact .of_manifest (.inl h.cp) h.mp
  · exact .of_manifest (.inr h.cp) h.mp

/-- 5a. the loader never looks at a temporary: a name ending in ".tmp" is neither `*.mhl` nor the chain -/
theorem isLoaded_tmp (n : String) : isLoaded (n ++ ".tmp") = false := by
  unfold isLoaded
  rw [Bool.or_eq_false_iff]
  exact ⟨not_endsWith_mhl_of_tmp (endsWith_append n ".tmp"), by simpa using tmp_ne_chainName n⟩

/-- `isLoaded_tmp` at the two names `only_tmp_is_partial` speaks of -/
theorem isLoaded_manifest_tmp (c : HistCommit) : isLoaded (c.manifestName ++ ".tmp") = false := isLoaded_tmp _
theorem isLoaded_chain_tmp : isLoaded (chainName ++ ".tmp") = false := isLoaded_tmp _

/-- 5. every file of a crash state is an old file with its old content, the complete new manifest, the complete new
chain, or one of the two temporaries (which the loader ignores, `isLoaded_tmp`). Stale temporaries allowed. -/
theorem only_tmp_is_partial_stale (hw : WfStale fs c) (hst : st ∈ crashStates fs c.ops) (q : String)
    (_hq : fsGet st q ≠ none) :
    fsGet st q = fsGet fs q ∨ (q = mp c ∧ fsGet st q = some (newManifest c)) ∨
      (q = cp c ∧ fsGet st q = some (newChain c)) ∨ q = mt c ∨ q = ct c := by
  by_cases h1 : q = mp c
  · subst h1
    rcases (crashOk_single hw hst).manifest with h | h
    · left; rw [h, hw.mp_fresh]
    · right; left; exact ⟨rfl, h⟩
  by_cases h2 : q = cp c
  · subst h2
    rcases (crashOk_single hw hst).chain with h | h
    · left; exact h
    · right; right; left; exact ⟨rfl, h⟩
  by_cases h3 : q = mt c
  · right; right; right; left; exact h3
  by_cases h4 : q = ct c
  · right; right; right; right; exact h4
  left; exact other_paths_untouched hst (not_mem_paths.2 ⟨h1, h2, h3, h4⟩)

/-- 6. the complete commit: new manifest, new chain, no temporaries — also when stale temporaries were there before
(`create` truncates them, the replace removes them) -/
theorem final_shows (hw : WfStale fs c) :
    Shows c (applyOps fs c.ops) (some (newManifest c)) (some (newChain c)) none none :=
  shows_vE hw.distinct (final_view fs c)

/-- stale temporaries make no difference to the result: two starting states that agree except on the temporaries
end up with the same content everywhere -/
theorem stale_same_result {fs' : Fs} (hw : WfStale fs c)
    (hsame : ∀ q, q ≠ mt c → q ≠ ct c → fsGet fs' q = fsGet fs q) :
    ∀ q, fsGet (applyOps fs' c.ops) q = fsGet (applyOps fs c.ops) q := by
  have D := hw.distinct
  intro q
  rw [final_view, final_view]
  by_cases h3 : q = mt c
  · subst h3; views D
  by_cases h4 : q = ct c
  · subst h4; views D
  simp [vE, vC, upd_apply, h3, h4, hsame q h3 h4]

/-! #### the same on a clean folder (`WfCommit`: no stale temporaries) -/

/-- 2. the chain file is the old one or the complete new one, never partial -/
theorem chain_atomic (hw : WfCommit fs c) (hst : st ∈ crashStates fs c.ops) :
    fsGet st (cp c) = fsGet fs (cp c) ∨ fsGet st (cp c) = some (newChain c) :=
  (crashOk_single hw.toWfStale hst).chain

/-- 3. the new manifest is absent or complete -/
theorem manifest_all_or_nothing (hw : WfCommit fs c) (hst : st ∈ crashStates fs c.ops) :
    fsGet st (mp c) = none ∨ fsGet st (mp c) = some (newManifest c) :=
  (crashOk_single hw.toWfStale hst).manifest

/-- 4. the new chain is there only together with the complete new manifest -/
theorem new_chain_implies_manifest (hw : WfCommit fs c) (hst : st ∈ crashStates fs c.ops)
    (hnew : fsGet st (cp c) = some (newChain c)) (hne : fsGet fs (cp c) ≠ some (newChain c)) :
    fsGet st (mp c) = some (newManifest c) :=
  (crashOk_single hw.toWfStale hst).link hnew hne

/-- on a clean folder a temporary that exists holds a prefix of the new content -/
theorem manifest_tmp_prefix (hw : WfCommit fs c) (hst : st ∈ crashStates fs c.ops) (x : Bytes)
    (hx : fsGet st (mt c) = some x) : x <+: newManifest c := by
  rcases crash_rows hw.toWfStale hst with h | ⟨y, hy, h⟩ | h | ⟨_, _, h⟩ | h <;> rw [h.mt] at hx
  · rw [hw.mt_fresh] at hx; cases hx
  · cases hx; exact hy
  all_goals cases hx

theorem chain_tmp_prefix (hw : WfCommit fs c) (hst : st ∈ crashStates fs c.ops) (y : Bytes)
    (hy : fsGet st (ct c) = some y) : y <+: newChain c := by
  rcases crash_rows hw.toWfStale hst with h | ⟨_, _, h⟩ | h | ⟨z, hz, h⟩ | h <;> rw [h.ct] at hy
  · rw [hw.ct_fresh] at hy; cases hy
  · rw [hw.ct_fresh] at hy; cases hy
  · rw [hw.ct_fresh] at hy; cases hy
  · cases hy; exact hz
  · cases hy

/-- 5 and 5a together: only the temporaries can hold partial content, and the loader ignores both -/
theorem only_tmp_is_partial (hw : WfCommit fs c) (hst : st ∈ crashStates fs c.ops) (q : String)
    (hq : fsGet st q ≠ none) :
    (fsGet st q = fsGet fs q ∨ (q = mp c ∧ fsGet st q = some (newManifest c)) ∨
      (q = cp c ∧ fsGet st q = some (newChain c)) ∨ q = mt c ∨ q = ct c) ∧
    isLoaded (c.manifestName ++ ".tmp") = false ∧ isLoaded (chainName ++ ".tmp") = false :=
  ⟨only_tmp_is_partial_stale hw.toWfStale hst q hq, isLoaded_manifest_tmp c, isLoaded_chain_tmp⟩

/-- 6. the commit run to its end, itself a crash state -/
theorem final_state (hw : WfCommit fs c) :
    applyOps fs c.ops ∈ crashStates fs c.ops ∧
    fsGet (applyOps fs c.ops) (mp c) = some (newManifest c) ∧
    fsGet (applyOps fs c.ops) (cp c) = some (newChain c) ∧
    fsGet (applyOps fs c.ops) (mt c) = none ∧
    fsGet (applyOps fs c.ops) (ct c) = none ∧
    (∀ q, q ∉ paths c → fsGet (applyOps fs c.ops) q = fsGet fs q) ∧
    c.folder ∈ (applyOps fs c.ops).dirs :=
  have h := final_shows hw.toWfStale
  ⟨applyOps_mem_crashStates _ _, h.mp, h.cp, h.mt, h.ct,
    fun q hq => fsGet_applyOps_of_not_touched _ _ _ (not_touched_of_not_mem_paths hq),
    by rw [ops_eq, applyOps_append]; exact mem_dirs_applyOps _ (dirs_mkdirOps hw.dir)⟩

/-! ### 7. the residual: the very first `create` in a folder has a refusing window, later ones have none -/

theorem refuses32_iff (s : Fs) (folder : String) :
    refuses32 s folder = true ↔ folder ∈ s.dirs ∧ fsGet s (folder ++ chainName) = none := by
  simp [refuses32]

theorem refuses32_mkdir {fs : Fs} {folder : String} (hnone : fsGet fs (folder ++ chainName) = none) :
    refuses32 (applyOp fs (.mkdir folder)) folder = true :=
  (refuses32_iff _ _).2 ⟨mem_dirs_mkdir _ _, by rw [fsGet_mkdir]; exact hnone⟩

/-- 7a. the residual that is documented and stays: on the first `create` in a folder (the ascmhl folder does not
exist, no chain) a kill right after the `mkdir` leaves a state in which every command refuses with exit 32, although
nothing recorded is lost -/
theorem first_create_window (hex : c.folderExists = false) (hnone : fsGet fs (cp c) = none) :
    ∃ st ∈ crashStates fs c.ops, refuses32 st c.folder = true := by
  refine ⟨applyOp fs (.mkdir c.folder), ?_, refuses32_mkdir hnone⟩
  rw [ops_eq, mkdirOps, hex]
  exact applyOps_mem_crashStates_of_prefix (pre := [.mkdir c.folder]) (List.prefix_append _ _)

/-- 7a'. … and so does a kill after the manifest was moved into place but before the chain is: the new manifest is
completely there, yet every command refuses -/
theorem first_create_window_manifest (hw : WfStale fs c) (hnone : fsGet fs (cp c) = none) :
    ∃ st ∈ crashStates fs c.ops,
      fsGet st (mp c) = some (newManifest c) ∧ refuses32 st c.folder = true := by
  have hs := shows_vC hw.distinct (view_manifest_done fs c)
  refine ⟨_, ?_, hs.mp, (refuses32_iff _ _).2 ⟨mem_dirs_applyOps _ (dirs_mkdirOps hw.dir), hs.cp.trans hnone⟩⟩
  rw [ops_eq, ← List.append_assoc, ← applyOps_append]
  exact applyOps_mem_crashStates_of_prefix (List.prefix_append _ _)

/-- 7. the refusing window of a commit: the crash states in which the folder is there, there was no chain file before
and the complete one is not yet in place (2: the chain file is the one from before or the complete one) -/
theorem crash_refuses_iff (hw : WfStale fs c) (hst : st ∈ crashStates fs c.ops) :
    refuses32 st c.folder = true ↔
      c.folder ∈ st.dirs ∧ fsGet fs (cp c) = none ∧ fsGet st (cp c) ≠ some (newChain c) := by
  rw [refuses32_iff]
  show _ ∧ fsGet st (cp c) = none ↔ _
  rcases (crashOk_single hw hst).chain with h | h <;> rw [h]
  · exact ⟨fun ⟨hd, hn⟩ => ⟨hd, hn, by rw [hn]; nofun⟩, fun ⟨hd, hn, _⟩ => ⟨hd, hn⟩⟩
  · exact ⟨fun ⟨_, hn⟩ => (nomatch hn), fun ⟨_, _, hn⟩ => absurd rfl hn⟩

/-- 7a''. on the first create EVERY crash state in which the folder exists refuses, except the completed one -/
theorem first_create_refuses_until_done (hw : WfStale fs c) (hnone : fsGet fs (cp c) = none)
    (hst : st ∈ crashStates fs c.ops) (hdir : c.folder ∈ st.dirs)
    (hnot : fsGet st (cp c) ≠ some (newChain c)) : refuses32 st c.folder = true :=
  (crash_refuses_iff hw hst).2 ⟨hdir, hnone, hnot⟩

/-- 7b. with at least one prior generation (the chain file exists) no crash state refuses -/
theorem later_create_never_refuses (hw : WfStale fs c) (hsome : fsGet fs (cp c) ≠ none)
    (hst : st ∈ crashStates fs c.ops) : refuses32 st c.folder = false := by
  rw [← Bool.not_eq_true, crash_refuses_iff hw hst]
  exact fun h => hsome h.2.1

end single

/-! ## 8. Several histories (children before parents) -/

theorem createOps_nil : createOps [] = [] := rfl
theorem createOps_cons (c : HistCommit) (cs : List HistCommit) : createOps (c :: cs) = c.ops ++ createOps cs := by
  simp [createOps]
theorem createOps_append (a b : List HistCommit) : createOps (a ++ b) = createOps a ++ createOps b := by
  simp [createOps]
theorem createOps_singleton (c : HistCommit) : createOps [c] = c.ops := by
  simp [createOps]

/-- 8, seen from one history `c`: the kill comes before its commit, inside it, or behind it -/
theorem multi_split {fs st : Fs} {l1 l2 : List HistCommit} {c : HistCommit} :
    st ∈ crashStates fs (createOps (l1 ++ c :: l2)) ↔
      st ∈ crashStates fs (createOps l1) ∨ st ∈ crashStates (applyOps fs (createOps l1)) c.ops ∨
        st ∈ crashStates (applyOps (applyOps fs (createOps l1)) c.ops) (createOps l2) := by
  rw [createOps_append, createOps_cons, mem_crashStates_append, mem_crashStates_append]

/-- 8. every crash state of a whole `create` is: some complete commits of a prefix of the histories, then a crash
state of the next one -/
theorem crashStates_createOps {fs st : Fs} {cs : List HistCommit} :
    st ∈ crashStates fs (createOps cs) ↔
      st = fs ∨ ∃ done c rest, cs = done ++ c :: rest ∧
        st ∈ crashStates (applyOps fs (createOps done)) c.ops := by
  constructor
  · intro hst
    induction cs generalizing fs with
    | nil => exact .inl (by simpa [createOps_nil] using hst)
    | cons c cs ih =>
      rw [createOps_cons, mem_crashStates_append] at hst
      rcases hst with h | h
      · exact .inr ⟨[], c, cs, rfl, h⟩
      · rcases ih h with rfl | ⟨done, c', rest, rfl, h'⟩
        · exact .inr ⟨[], c, cs, rfl, applyOps_mem_crashStates _ _⟩
        · exact .inr ⟨c :: done, c', rest, rfl, by rw [createOps_cons, applyOps_append]; exact h'⟩
  · rintro (rfl | ⟨done, c, rest, rfl, h⟩)
    · exact self_mem_crashStates _ _
    · exact multi_split.2 (.inr (.inl h))

def Disj (c c' : HistCommit) : Prop := ∀ p ∈ paths c, p ∉ paths c'

theorem Disj.symm {c c' : HistCommit} (h : Disj c c') : Disj c' c :=
  fun p hp hp' => h p hp' hp

structure MultiWf (fs : Fs) (cs : List HistCommit) : Prop where
  wf : ∀ c ∈ cs, WfStale fs c
  disj : cs.Pairwise Disj

def Complete (c : HistCommit) (st : Fs) : Prop :=
  fsGet st (mp c) = some (newManifest c) ∧ fsGet st (cp c) = some (newChain c)

theorem touches_createOps {cs : List HistCommit} {q : String} (hq : ∀ c ∈ cs, q ∉ paths c) :
    ∀ op ∈ createOps cs, q ∉ touches op := by
  intro op hop
  obtain ⟨c, hc, hop⟩ := List.mem_flatMap.1 hop
  exact not_touched_of_not_mem_paths (hq c hc) op hop

theorem multi_final_other_paths {fs : Fs} {cs : List HistCommit} {q : String} (hq : ∀ c ∈ cs, q ∉ paths c) :
    fsGet (applyOps fs (createOps cs)) q = fsGet fs q :=
  fsGet_applyOps_of_not_touched _ _ _ (touches_createOps hq)

theorem MultiWf.after {fs : Fs} {done rest : List HistCommit} (hm : MultiWf fs (done ++ rest)) :
    MultiWf (applyOps fs (createOps done)) rest := by
  have hp := List.pairwise_append.1 hm.disj
  refine ⟨fun c hc => ?_, hp.2.1⟩
  have hw := hm.wf c (List.mem_append_right _ hc)
  have hv := multi_final_other_paths (fs := fs) fun d hd => (hp.2.2 d hd c hc).symm _ (mp_mem_paths c)
  exact ⟨hw.distinct, hv.trans hw.mp_fresh, fun h => mem_dirs_applyOps _ (hw.dir h)⟩

theorem touches_createOps_disj {c : HistCommit} {ds : List HistCommit} (h : ∀ d ∈ ds, Disj c d) {p : String}
    (hp : p ∈ paths c) : ∀ op ∈ createOps ds, p ∉ touches op :=
  touches_createOps fun d hd => h d hd p hp

/-- 8 (per history): what the three parts of `multi_split` mean for the history `c` -/
theorem multi_frames {fs : Fs} {l1 l2 : List HistCommit} {c : HistCommit} (hm : MultiWf fs (l1 ++ c :: l2)) :
    WfStale (applyOps fs (createOps l1)) c ∧
    (∀ p ∈ paths c, fsGet (applyOps fs (createOps l1)) p = fsGet fs p) ∧
    (∀ st ∈ crashStates fs (createOps l1), ∀ p ∈ paths c, fsGet st p = fsGet fs p) ∧
    (∀ st ∈ crashStates (applyOps (applyOps fs (createOps l1)) c.ops) (createOps l2), Complete c st) := by
  have hp := List.pairwise_append.1 hm.disj
  have h1 : ∀ d ∈ l1, Disj c d := fun d hd => (hp.2.2 d hd c List.mem_cons_self).symm
  have h2 : ∀ r ∈ l2, Disj c r := (List.pairwise_cons.1 hp.2.1).1
  have hwf := (MultiWf.after hm).wf c List.mem_cons_self
  refine ⟨hwf, fun p hpc => fsGet_applyOps_of_not_touched _ _ _ (touches_createOps_disj h1 hpc),
    fun st h p hpc => fsGet_crash_of_not_touched h (touches_createOps_disj h1 hpc), fun st h => ?_⟩
  have hs := final_shows hwf
  have e := fun p hpc => fsGet_crash_of_not_touched h (touches_createOps_disj h2 (p := p) hpc)
  exact ⟨(e _ (mp_mem_paths c)).trans hs.mp, (e _ (cp_mem_paths c)).trans hs.cp⟩

/-- 8 (2–4 per history). In every crash state of the whole `create`, 2–4 hold for EVERY history -/
theorem multi_crashOk {fs st : Fs} {cs : List HistCommit} (hm : MultiWf fs cs)
    (hst : st ∈ crashStates fs (createOps cs)) : ∀ c ∈ cs, CrashOk fs c st := by
  intro c hc
  obtain ⟨l1, l2, rfl⟩ := List.append_of_mem hc
  obtain ⟨hwf, hsame, hbefore, hbehind⟩ := multi_frames hm
  rcases multi_split.1 hst with h | h | h
  · exact .of_absent (hbefore st h _ (cp_mem_paths c))
      ((hbefore st h _ (mp_mem_paths c)).trans (hm.wf c hc).mp_fresh)
  · have k := crashOk_single hwf h
    have e := hsame _ (cp_mem_paths c)
    exact ⟨e ▸ k.chain, k.manifest, fun h1 h2 => k.link h1 (by rw [e]; exact h2)⟩
  · exact .of_manifest (.inr (hbehind st h).2) (hbehind st h).1

/-- 8 (1 for the whole `create`). files that belong to no history's commit are byte-identical -/
theorem multi_old_files_intact {fs st : Fs} {cs : List HistCommit}
    (hst : st ∈ crashStates fs (createOps cs)) (p : String) (b : Bytes) (hb : fsGet fs p = some b)
    (hp : ∀ c ∈ cs, p ∉ paths c) : fsGet st p = some b := by
  rw [fsGet_crash_of_not_touched hst (touches_createOps hp), hb]

/-- 8 (order), the positions given by a split of the list: while the `create` is at `child` or before it, the chain of
a `parent` further behind is untouched -/
theorem parent_chain_new_children_complete' {fs st : Fs} {l1 l2 : List HistCommit} {child parent : HistCommit}
    (hm : MultiWf fs (l1 ++ child :: l2)) (hst : st ∈ crashStates fs (createOps (l1 ++ child :: l2)))
    (hp : parent ∈ l2) (hnew : fsGet st (cp parent) = some (newChain parent))
    (hne : fsGet fs (cp parent) ≠ some (newChain parent)) : Complete child st := by
  obtain ⟨-, hsame, hbefore, hbehind⟩ := multi_frames hm
  have hd := List.pairwise_append.1 hm.disj
  have hdc : Disj child parent := (List.pairwise_cons.1 hd.2.1).1 parent hp
  have h1 : ∀ d ∈ l1, Disj parent d := fun d h => (hd.2.2 d h parent (List.mem_cons_of_mem _ hp)).symm
  have e1 := fsGet_applyOps_of_not_touched fs _ _ (touches_createOps_disj h1 (cp_mem_paths parent))
  rcases multi_split.1 hst with h | h | h
  · rw [fsGet_crash_of_not_touched h (touches_createOps_disj h1 (cp_mem_paths parent))] at hnew
    exact absurd hnew hne
  · rw [other_paths_untouched h fun hin => hdc _ hin (cp_mem_paths parent), e1] at hnew
    exact absurd hnew hne
  · exact hbehind st h

/-- 8 (order). A parent's chain is new only if all its children's commits are complete: if the history at position
`j` has its new chain, every history at an earlier position `i < j` (children come first) is completely on disk -/
theorem parent_chain_new_children_complete {fs st : Fs} {cs : List HistCommit} (hm : MultiWf fs cs)
    (hst : st ∈ crashStates fs (createOps cs)) {i j : Nat} {child parent : HistCommit} (hij : i < j)
    (hi : cs[i]? = some child) (hj : cs[j]? = some parent)
    (hnew : fsGet st (cp parent) = some (newChain parent))
    (hne : fsGet fs (cp parent) ≠ some (newChain parent)) : Complete child st := by
  have hsplit : cs = cs.take i ++ child :: cs.drop (i + 1) := by
    obtain ⟨hlt, rfl⟩ := List.getElem?_eq_some_iff.1 hi
    rw [← List.drop_eq_getElem_cons hlt, List.take_append_drop]
  have hpar : parent ∈ cs.drop (i + 1) := by
    apply List.mem_of_getElem? (i := j - (i + 1))
    rw [List.getElem?_drop, show i + 1 + (j - (i + 1)) = j by omega]; exact hj
  exact parent_chain_new_children_complete' (l1 := cs.take i) (l2 := cs.drop (i + 1))
    (by rw [← hsplit]; exact hm) (by rw [← hsplit]; exact hst) hpar hnew hne

/-- 8 (6 for the whole `create`). the complete `create`: every history completely on disk, everything else unchanged -/
theorem multi_final_state {fs : Fs} {cs : List HistCommit} (hm : MultiWf fs cs) :
    applyOps fs (createOps cs) ∈ crashStates fs (createOps cs) ∧
    (∀ c ∈ cs, Complete c (applyOps fs (createOps cs))) ∧
    (∀ q, (∀ c ∈ cs, q ∉ paths c) → fsGet (applyOps fs (createOps cs)) q = fsGet fs q) := by
  refine ⟨applyOps_mem_crashStates _ _, fun c hc => ?_, fun _ hq => multi_final_other_paths hq⟩
  obtain ⟨l1, l2, rfl⟩ := List.append_of_mem hc
  refine (multi_frames hm).2.2.2 _ ?_
  rw [createOps_append, createOps_cons, applyOps_append, applyOps_append]
  exact applyOps_mem_crashStates _ _

/-! ## Concrete instances (non-vacuity, the torn states) -/

section examples

/-- second generation in folder "a/": a two-chunk manifest, a two-chunk chain -/
def exC : HistCommit :=
  { folder := "a/", folderExists := true, manifestName := "2.mhl",
    manifestChunks := [[1, 2], [3]], chainChunks := [[7], [8, 9]] }
/-- a media file, the first generation's manifest, the chain with one generation -/
def exFs : Fs :=
  { files := [("x.mov", [42]), ("a/1.mhl", [5, 6]), ("a/ascmhl_chain.xml", [7])], dirs := ["a/"] }

def exShow (c : HistCommit) (st : Fs) : Option Bytes × Option Bytes × Option Bytes × Option Bytes :=
  (fsGet st (mp c), fsGet st (cp c), fsGet st (mt c), fsGet st (ct c))

/-- the hypotheses are satisfiable -/
example : WfCommit exFs exC :=
  { distinct := distinct_of_mhl_name exC (by rw [endsWith_iff_suffix]; decide +kernel),
    mp_fresh := by decide +kernel,
    dir := fun _ => by decide +kernel,
    mt_fresh := by decide +kernel,
    ct_fresh := by decide +kernel }

/-- ALL 15 crash states, torn writes included (the manifest temporary passes through [], [1], [1,2], [1,2,3]; the
chain temporary through [], [7], [7,8], [7,8,9]); the manifest is always `none` or complete, the chain always the old
`[7]` or the complete `[7,8,9]` -/
example : (crashStates exFs exC.ops).map (exShow exC) =
    [(none, some [7], none, none),
     (none, some [7], some [], none),
     (none, some [7], some [], none),
     (none, some [7], some [1], none),
     (none, some [7], some [1, 2], none),
     (none, some [7], some [1, 2], none),
     (none, some [7], some [1, 2, 3], none),
     (some [1, 2, 3], some [7], none, none),
     (some [1, 2, 3], some [7], none, some []),
     (some [1, 2, 3], some [7], none, some []),
     (some [1, 2, 3], some [7], none, some [7]),
     (some [1, 2, 3], some [7], none, some [7]),
     (some [1, 2, 3], some [7], none, some [7, 8]),
     (some [1, 2, 3], some [7], none, some [7, 8, 9]),
     (some [1, 2, 3], some [7, 8, 9], none, none)] := by decide +kernel

/-- the old manifest and the media file are the same in all of them; none refuses -/
example : (crashStates exFs exC.ops).all (fun st =>
    fsGet st "a/1.mhl" == some [5, 6] && fsGet st "x.mov" == some [42] && !refuses32 st "a/") = true := by
  decide +kernel

/-- a torn state (manifest temporary holds the first byte only) really is a crash state -/
example : ∃ st ∈ crashStates exFs exC.ops, fsGet st (mt exC) = some [1] ∧ fsGet st (mp exC) = none := by
  decide +kernel

/-- with STALE temporaries of an earlier crash: same states apart from the stale bytes, same final state -/
def exFsStale : Fs :=
  { exFs with files := exFs.files ++ [("a/2.mhl.tmp", [1, 2, 99, 99]), ("a/ascmhl_chain.xml.tmp", [66])] }

example : WfStale exFsStale exC :=
  { distinct := distinct_of_mhl_name exC (by rw [endsWith_iff_suffix]; decide +kernel),
    mp_fresh := by decide +kernel,
    dir := fun _ => by decide +kernel }

example : ¬ WfCommit exFsStale exC := fun h => absurd h.mt_fresh (by decide +kernel)

example : (crashStates exFsStale exC.ops).map (exShow exC) =
    [(none, some [7], some [1, 2, 99, 99], some [66]),
     (none, some [7], some [], some [66]),
     (none, some [7], some [], some [66]),
     (none, some [7], some [1], some [66]),
     (none, some [7], some [1, 2], some [66]),
     (none, some [7], some [1, 2], some [66]),
     (none, some [7], some [1, 2, 3], some [66]),
     (some [1, 2, 3], some [7], none, some [66]),
     (some [1, 2, 3], some [7], none, some []),
     (some [1, 2, 3], some [7], none, some []),
     (some [1, 2, 3], some [7], none, some [7]),
     (some [1, 2, 3], some [7], none, some [7]),
     (some [1, 2, 3], some [7], none, some [7, 8]),
     (some [1, 2, 3], some [7], none, some [7, 8, 9]),
     (some [1, 2, 3], some [7, 8, 9], none, none)] := by decide +kernel

/-- FIRST create in a folder (no ascmhl folder, no chain): the refusing window -/
def exC1 : HistCommit :=
  { folder := "a/", folderExists := false, manifestName := "1.mhl",
    manifestChunks := [[1, 2], [3]], chainChunks := [[7], [8, 9]] }
def exFs1 : Fs := { files := [("x.mov", [42])], dirs := [] }

example : WfCommit exFs1 exC1 :=
  { distinct := distinct_of_mhl_name exC1 (by rw [endsWith_iff_suffix]; decide +kernel),
    mp_fresh := by decide +kernel,
    dir := fun h => by simp [exC1] at h,
    mt_fresh := by decide +kernel,
    ct_fresh := by decide +kernel }

/-- of the 16 crash states all but the first (nothing done) and the last (complete) refuse with 32 -/
example : (crashStates exFs1 exC1.ops).map (fun st => refuses32 st "a/") =
    [false, true, true, true, true, true, true, true, true, true, true, true, true, true, true, false] := by
  decide +kernel

/-- two histories, child "a/b/" before parent "a/": disjoint paths -/
def exChild : HistCommit :=
  { folder := "a/b/", folderExists := true, manifestName := "2.mhl",
    manifestChunks := [[1], [2]], chainChunks := [[3], [4]] }

def exFs2 : Fs :=
  { files := [("a/ascmhl_chain.xml", [7]), ("a/b/ascmhl_chain.xml", [3])], dirs := ["a/", "a/b/"] }

example : MultiWf exFs2 [exChild, exC] :=
  { wf := by
      intro c hc
      simp only [List.mem_cons, List.not_mem_nil, or_false] at hc
      rcases hc with rfl | rfl <;>
        exact ⟨distinct_of_mhl_name _ (by rw [endsWith_iff_suffix]; decide +kernel), by decide +kernel,
          fun _ => by decide +kernel⟩,
    disj := by
      simp only [List.pairwise_cons, List.mem_cons, List.not_mem_nil, or_false, forall_eq, List.Pairwise.nil,
        and_true, false_imp_iff, implies_true]
      unfold Disj; decide +kernel }

/-- in every crash state of the two-history create: parent's chain new ⇒ child complete -/
example : (crashStates exFs2 (createOps [exChild, exC])).all (fun st =>
    !(fsGet st (cp exC) == some (newChain exC)) ||
      (fsGet st (mp exChild) == some (newManifest exChild) && fsGet st (cp exChild) == some (newChain exChild)))
    = true := by decide +kernel

end examples

end MhlProps.C15
