/- MhlModel/History.lean and MhlModel/Seal.lean, each definition by an equation of its own and its readings, for the
property files C04, C06, C08, C12 and every module of the create pipeline.  Look-ups: `Generation.find`, the formats on
record (`existingFormats`), the look-ups of an entry over the generations of a history (`lookupEntry`), what
`sealEntries` appends; `splitPath` in a form the kernel evaluates.  Sessions read through `roots`, `get` and
`patterns`, with the step `Session.addTo` that `sealFile` and `appendDirHashes` take and a property of every record
(`Session.AllRecs`).  Validation (`entriesPass`, `relabel`, `validateRecord_eq`), a record as written (`finalRec`) and
`writeOne` (`writeOne_eq`; its fields: `writeOne_fields`; its only error: `writeOne_error`); a generation with
pairwise different record paths and no previous paths (`Generation.Clean`); the result list of `sealEntries`
(`sealEntries_res_*`).  Last, `route` at the empty path. -/
import MhlModel.Seal
import Batteries.Data.String.Lemmas
import MhlProps.Proofs.ListLemmas

namespace MhlModel

/-! ## `find_media_hash_for_path` (`Generation.find`) -/

/-- the record `Generation.find` answers "." with when no record of the generation does -/
def Generation.rootRec (g : Generation) : Option Record :=
  g.rootHash.map fun es => { path := ".", isDir := true, entries := es }

/-- `Generation.find` without the list it builds: the LAST record with that path or previous path; for "." the root
hash serves when there is none -/
theorem Generation.find_eq (g : Generation) (p : String) :
    g.find p = (g.records.reverse.find? fun r => r.path == p || r.prev == some p).or
      (if p = "." then g.rootRec else none) := by
  simp only [Generation.find, Generation.rootRec, List.reverse_append, List.find?_append]
  congr 1
  cases g.rootHash with
  | none => simp
  | some es =>
    by_cases h : p = "."
    · simp [h]
    · simp [h, Ne.symm h]

theorem Generation.find_some {g : Generation} {p : String} {r : Record} (h : g.find p = some r) :
    (r ∈ g.records ∧ (r.path = p ∨ r.prev = some p)) ∨ (p = "." ∧ g.rootRec = some r) := by
  rw [g.find_eq, Option.or_eq_some_iff] at h
  rcases h with h | ⟨-, h⟩
  · exact .inl ⟨List.mem_reverse.1 (List.mem_of_find?_eq_some h), by simpa using List.find?_some h⟩
  · split at h
    · exact .inr ⟨‹_›, h⟩
    · cases h

theorem Generation.find_none_iff {g : Generation} {p : String} :
    g.find p = none ↔ (∀ r ∈ g.records, r.path ≠ p ∧ r.prev ≠ some p) ∧ (p = "." → g.rootHash = none) := by
  rw [g.find_eq, Option.or_eq_none_iff, List.find?_eq_none]
  refine and_congr ⟨fun h r hr => by simpa using h r (List.mem_reverse.2 hr),
    fun h r hr => by simpa using h r (List.mem_reverse.1 hr)⟩ ?_
  unfold Generation.rootRec
  by_cases hp : p = "." <;> simp [hp]

/-- a record is found under its own path when the paths are pairwise different and no record has a previous path (a
record with the path "." comes before the root hash) -/
theorem Generation.find_of_mem {g : Generation} (hnd : (g.records.map (·.path)).Nodup)
    (hprev : ∀ r ∈ g.records, r.prev = none) {r : Record} (hr : r ∈ g.records) : g.find r.path = some r := by
  rw [g.find_eq, find?_unique (List.mem_reverse.2 hr) (by simp) fun x hx hpx =>
    eq_of_nodup_map hnd (List.mem_reverse.1 hx) hr (by simpa [hprev x (List.mem_reverse.1 hx)] using hpx)]
  rfl

theorem Generation.find_eq_of_noPrev {g : Generation} (hnd : (g.records.map (·.path)).Nodup)
    (hprev : ∀ r ∈ g.records, r.prev = none) (p : String) :
    g.find p = (g.records.find? (·.path == p)).or (if p = "." then g.rootRec else none) := by
  cases hf : g.records.find? (·.path == p) with
  | some r =>
    have hp : r.path = p := by simpa using List.find?_some hf
    rw [← hp, find_of_mem hnd hprev (List.mem_of_find?_eq_some hf)]; rfl
  | none =>
    rw [g.find_eq, List.find?_eq_none.2 fun r hr => ?_]
    have := List.find?_eq_none.1 hf r (List.mem_reverse.1 hr)
    simpa [hprev r (List.mem_reverse.1 hr)] using this

theorem Generation.find_dot {g : Generation} (h : ∀ r ∈ g.records, r.path ≠ "." ∧ r.prev ≠ some ".") :
    g.find "." = g.rootRec := by
  rw [g.find_eq, List.find?_eq_none.2 (fun r hr => by simpa using h r (List.mem_reverse.1 hr))]
  rfl

theorem Generation.find_none_of_noPrev {g : Generation} (hprev : ∀ r ∈ g.records, r.prev = none) {s : String}
    (hdot : s = "." → g.rootHash = none) (hno : ∀ r ∈ g.records, r.path ≠ s) : g.find s = none :=
  find_none_iff.2 ⟨fun r hr => ⟨hno r hr, by simp [hprev r hr]⟩, hdot⟩

/-! ## the formats on record (`existingFormats`) -/

/-- `existingFormats` in closed form: the formats of the entries of the records the generations have for the path,
oldest generation first, without duplicates -/
theorem existingFormats_eq (gens : List LGen) (p : String) :
    existingFormats gens p =
      (gens.flatMap fun g => (g.gen.find p).toList.flatMap fun r => r.entries.map (·.fmt)).foldl appendNew [] := by
  unfold existingFormats
  generalize ([] : List String) = acc
  induction gens generalizing acc with
  | nil => rfl
  | cons g gs ih =>
    rw [List.foldl_cons, ih, List.flatMap_cons, List.foldl_append]
    congr 1
    unfold existingStep
    cases g.gen.find p with
    | none => rfl
    | some r => simp [List.foldl_map]

theorem mem_existingFormats (gens : List LGen) (p fmt : String) :
    fmt ∈ existingFormats gens p ↔
      ∃ g ∈ gens, ∃ r, g.gen.find p = some r ∧ ∃ e ∈ r.entries, e.fmt = fmt := by
  rw [existingFormats_eq, mem_foldl_appendNew']
  simp only [List.not_mem_nil, false_or, List.mem_flatMap, Option.mem_toList, List.mem_map]

theorem existingFormats_nodup (gens : List LGen) (p : String) : (existingFormats gens p).Nodup := by
  rw [existingFormats_eq]
  exact (dedup_spec _).1

/-! ## the look-ups of an entry for a path over the generations of a history -/

/-- `find_original_hash_entry_for_path`, `find_first_hash_entry_for_path` with and without a format: the generations
oldest first, in each the record `Generation.find` has for the path, of that record the entry `sel` picks -/
def lookupEntry (sel : List Entry → Option Entry) (gens : List LGen) (p : String) : Option Entry :=
  gens.findSome? fun g => (g.gen.find p).bind fun r => sel r.entries

theorem findOriginal_eq_lookup (gens : List LGen) (p : String) :
    findOriginal gens p = lookupEntry (·.find? (·.action == "original")) gens p := by
  unfold findOriginal lookupEntry
  congr 1; funext g; cases g.gen.find p <;> rfl

theorem findFirstOfFormat_eq_lookup (gens : List LGen) (p fmt : String) :
    findFirstOfFormat gens p fmt = lookupEntry (·.find? (·.fmt == fmt)) gens p := by
  unfold findFirstOfFormat lookupEntry
  congr 1; funext g; cases g.gen.find p <;> rfl

theorem findFirstAny_eq_lookup (gens : List LGen) (p : String) :
    findFirstAny gens p = lookupEntry List.head? gens p := by
  unfold findFirstAny lookupEntry
  congr 1; funext g; cases g.gen.find p <;> rfl

section
variable {sel : List Entry → Option Entry} {gens : List LGen} {p : String} {e : Entry}

theorem lookupEntry_some (h : lookupEntry sel gens p = some e) :
    ∃ g ∈ gens, ∃ r, g.gen.find p = some r ∧ sel r.entries = some e := by
  obtain ⟨g, hg, hh⟩ := List.exists_of_findSome?_eq_some h
  cases hf : g.gen.find p with
  | none => simp [hf] at hh
  | some r => exact ⟨g, hg, r, hf, by simpa [hf] using hh⟩

theorem lookupEntry_eq_none : lookupEntry sel gens p = none ↔
    ∀ g ∈ gens, ∀ r, g.gen.find p = some r → sel r.entries = none := by
  unfold lookupEntry
  rw [List.findSome?_eq_none_iff]
  refine forall₂_congr fun g _ => ?_
  cases g.gen.find p <;> simp

theorem lookupEntry_append (a b : List LGen) :
    lookupEntry sel (a ++ b) p = (lookupEntry sel a p).or (lookupEntry sel b p) :=
  List.findSome?_append

/-- older generations answer first: appending generations does not change a hit -/
theorem lookupEntry_mono (more : List LGen) (h : lookupEntry sel gens p = some e) :
    lookupEntry sel (gens ++ more) p = some e := by
  rw [lookupEntry_append, h]; rfl

theorem lookupEntry_unrecorded (rest : List LGen) (h : ∀ g ∈ gens, g.gen.find p = none) :
    lookupEntry sel (gens ++ rest) p = lookupEntry sel rest p := by
  rw [lookupEntry_append, lookupEntry_eq_none.2 fun g hg r hr => by simp [h g hg] at hr]; rfl

theorem lookupEntry_cons {g : LGen} {r : Record} (rest : List LGen) (h : g.gen.find p = some r) :
    lookupEntry sel (g :: rest) p = (sel r.entries).or (lookupEntry sel rest p) := by
  simp only [lookupEntry, List.findSome?_cons, h, Option.bind_some]
  cases sel r.entries <;> rfl
end

theorem lookupEntry_of_sel {sel sel' : List Entry → Option Entry} {gens : List LGen} {p : String} {e : Entry}
    (hnone : ∀ es, sel es = none → sel' es = none) (hsome : ∀ es, sel es = some e → sel' es = some e)
    (h : lookupEntry sel gens p = some e) : lookupEntry sel' gens p = some e := by
  induction gens with
  | nil => cases h
  | cons g gs ih =>
    cases hf : g.gen.find p with
    | none =>
      have hskip : ∀ sel, lookupEntry sel (g :: gs) p = lookupEntry sel gs p := fun sel =>
        lookupEntry_unrecorded (gens := [g]) gs fun g' hg' => List.mem_singleton.1 hg' ▸ hf
      rw [hskip] at h ⊢
      exact ih h
    | some r =>
      rw [lookupEntry_cons gs hf] at h ⊢
      cases hs : sel r.entries with
      | none =>
        rw [hs] at h
        rw [hnone _ hs]
        exact ih h
      | some e' =>
        rw [hs] at h
        obtain rfl : e' = e := Option.some.inj h
        rw [hsome _ hs]
        rfl

theorem findFirstOfFormat_spec (gens : List LGen) (p fmt : String) (e : Entry)
    (h : findFirstOfFormat gens p fmt = some e) :
    ∃ g ∈ gens, ∃ r, g.gen.find p = some r ∧ e ∈ r.entries ∧ e.fmt = fmt := by
  obtain ⟨g, hg, r, hf, hh⟩ := lookupEntry_some (findFirstOfFormat_eq_lookup gens p fmt ▸ h)
  exact ⟨g, hg, r, hf, List.mem_of_find?_eq_some hh, by simpa using List.find?_some hh⟩

theorem findFirstOfFormat_none_iff (gens : List LGen) (p fmt : String) :
    findFirstOfFormat gens p fmt = none ↔ fmt ∉ existingFormats gens p := by
  rw [findFirstOfFormat_eq_lookup, lookupEntry_eq_none, mem_existingFormats]
  simp only [List.find?_eq_none, beq_iff_eq, not_exists, not_and]

/-! ## what `sealEntries` appends -/

theorem mem_formatsToGenerate (existing requested : List String) (f : String) (hf : f ∈ requested) :
    f ∈ formatsToGenerate existing requested :=
  (mem_foldl_appendNew' requested (baseFormats existing requested) f).2 (Or.inr hf)

theorem decideAction_cases (gens : List LGen) (p fmt d : String) :
    decideAction gens p fmt d = "original" ∨ decideAction gens p fmt d = "verified" ∨
    decideAction gens p fmt d = "failed" ∨ decideAction gens p fmt d = "new" := by
  unfold decideAction
  cases findOriginal gens p with
  | none => simp
  | some o =>
    cases findFirstOfFormat gens p fmt with
    | none => simp
    | some e => by_cases h : e.digest = d <;> simp [h]

/-- the entries `seal_file_path` appends: one for every format digests are computed for, for a format new for the
file only when no check of a recorded format failed -/
theorem mem_sealEntries {gens : List LGen} {p : String} {dig : String → String} {req : List String} {e : Entry} :
    e ∈ (sealEntries gens p dig req).1 ↔
      ∃ f ∈ formatsToGenerate (existingFormats gens p) req,
        e = { fmt := f, digest := dig f, action := decideAction gens p f (dig f) } ∧
        (f ∈ existingFormats gens p ∨
          ∀ f' ∈ existingFormats gens p, f' ∈ formatsToGenerate (existingFormats gens p) req →
            decideAction gens p f' (dig f') ≠ "failed") := by
  unfold sealEntries
  dsimp only
  generalize existingFormats gens p = ex
  generalize formatsToGenerate ex req = toGen
  have hall : ((ex.filter (toGen.contains ·)).map fun f =>
      ({ fmt := f, digest := dig f, action := decideAction gens p f (dig f) } : Entry)).all
        (fun e => e.action != "failed") = true ↔
      ∀ f' ∈ ex, f' ∈ toGen → decideAction gens p f' (dig f') ≠ "failed" := by
    simp only [List.all_eq_true, List.mem_map, List.mem_filter, List.contains_iff_mem, bne_iff_ne,
      forall_exists_index, and_imp]
    exact ⟨fun h f' h1 h2 => h _ f' h1 h2 rfl, fun h _ f' h1 h2 e => e ▸ h f' h1 h2⟩
  rw [List.mem_append]
  constructor
  · rintro (he | he)
    · obtain ⟨f, hf, rfl⟩ := List.mem_map.1 he
      obtain ⟨hex, hgen⟩ := List.mem_filter.1 hf
      exact ⟨f, by simpa using hgen, rfl, .inl hex⟩
    · split at he
      · next hv =>
        obtain ⟨f, hf, rfl⟩ := List.mem_map.1 he
        exact ⟨f, (List.mem_filter.1 hf).1, rfl, .inr (hall.1 hv)⟩
      · cases he
  · rintro ⟨f, hgen, rfl, h⟩
    by_cases hex : f ∈ ex
    · exact .inl (List.mem_map.2 ⟨f, List.mem_filter.2 ⟨hex, by simpa using hgen⟩, rfl⟩)
    · rw [if_pos (hall.2 (h.resolve_left hex))]
      exact .inr (List.mem_map.2 ⟨f, List.mem_filter.2 ⟨hgen, by simpa using hex⟩, rfl⟩)

theorem sealEntries_entry (gens : List LGen) (p : String) (dig : String → String) (req : List String) :
    ∀ e ∈ (sealEntries gens p dig req).1,
      e.digest = dig e.fmt ∧ e.action = decideAction gens p e.fmt (dig e.fmt) := fun _ he =>
  let ⟨_, _, h, _⟩ := mem_sealEntries.1 he
  h ▸ ⟨rfl, rfl⟩

/-! ### a path no generation has a record of -/

section unrecorded
variable {gens : List LGen} {p : String} (h : ∀ g ∈ gens, g.gen.find p = none)
include h

theorem existingFormats_unrecorded : existingFormats gens p = [] :=
  List.eq_nil_iff_forall_not_mem.2 fun f hf => by
    obtain ⟨g, hg, r, hr, -⟩ := (mem_existingFormats gens p f).1 hf
    simp [h g hg] at hr

theorem findOriginal_unrecorded : findOriginal gens p = none := by
  rw [findOriginal_eq_lookup, lookupEntry_eq_none]
  exact fun g hg r hr => by simp [h g hg] at hr

/-- one `original` entry per requested format (duplicates among the requested formats skipped), each with the digest
of the content -/
theorem sealEntries_unrecorded (dig : String → String) (req : List String) :
    (sealEntries gens p dig req).1 =
      (req.foldl appendNew []).map fun f => ({ fmt := f, digest := dig f, action := "original" } : Entry) := by
  simp [sealEntries, existingFormats_unrecorded h, formatsToGenerate, baseFormats, decideAction,
    findOriginal_unrecorded h]
  rw [List.filter_eq_self.2 fun _ _ => rfl]

end unrecorded

/-! ## `splitPath` on lists of characters

`String.splitOn` is defined by well-founded recursion and does not reduce in the kernel; `splitPathL` does, so
`splitPath` of a literal is evaluated through `splitPath_eq_splitPathL`. -/

/-- with the one-character separator "/" the `splitOnAux` loop is the `splitAux` loop for `· == '/'` -/
theorem splitOnAux_slash (s : String) (b i : String.Pos.Raw) (r : List String) :
    String.splitOnAux s "/" b i 0 r = String.splitAux s (fun c => c == '/') b i r := by
  have get_slash : String.Pos.Raw.get "/" 0 = '/' := by decide
  have next_slash : String.Pos.Raw.next "/" 0 = ⟨1⟩ := by decide
  have atEnd_slash : String.Pos.Raw.atEnd "/" ⟨1⟩ = true := by decide
  fun_induction String.splitAux s (fun c => c == '/') b i r with
  | case1 b i r h r' =>
    rw [String.splitOnAux]
    simp [h, r']
  | case2 b i r h _ hp i' ih =>
    rw [String.splitOnAux]
    have hc : String.Pos.Raw.get s i = '/' := by simpa using hp
    simp only [h, get_slash, next_slash, atEnd_slash, hp, if_true, Bool.false_eq_true, if_false]
    have : (String.Pos.Raw.next s i).unoffsetBy ⟨1⟩ = i := by
      have h1 : '/'.utf8Size = 1 := by decide
      simp [String.Pos.Raw.next, hc, String.Pos.Raw.ext_iff, h1]
    rw [this]
    exact ih
  | case3 b i r h _ hp ih =>
    rw [String.splitOnAux]
    simp only [h, get_slash, hp, Bool.false_eq_true, if_false]
    have : i.unoffsetBy 0 = i := by simp
    rw [this]
    exact ih

theorem splitOn_slash (s : String) : s.splitOn "/" = (s.toList.splitOn '/').map String.ofList := by
  have : ("/" == "") = false := by decide
  simp only [String.splitOn, this, Bool.false_eq_true, if_false]
  rw [splitOnAux_slash]
  have := String.splitToList_of_valid s (fun c => c == '/')
  simpa [String.splitToList, List.splitOn] using this

/-- `splitPath` with `List.splitOn` on the characters in place of `String.splitOn` -/
def splitPathL (s : String) : RelPath :=
  if s == "." then [] else (s.toList.splitOn '/').map String.ofList

theorem splitPath_eq_splitPathL : splitPath = splitPathL := by
  funext s
  unfold splitPath splitPathL
  rw [splitOn_slash]

/-! ## sessions

A session is read through `Session.roots` (the histories it has a list for, in the order the lists were made),
`Session.get` and `patterns`. -/

def Session.roots (s : Session) : List RelPath := s.lists.map (·.root)

/-- `touch`, then update the record `p` of the list of `R` (what `sealFile` and `appendDirHashes` do) -/
def Session.addTo (s : Session) (R : RelPath) (p : String) (sz : Option Nat) (f : Record → Record) : Session :=
  (s.touch R).put (((s.touch R).get R).update p sz f)

theorem Session.any_root_iff (s : Session) (R : RelPath) :
    (s.lists.any fun l => l.root == R) = true ↔ R ∈ s.roots := by
  simp only [List.any_eq_true, beq_iff_eq, Session.roots, List.mem_map]

theorem Session.get_root (s : Session) (R : RelPath) : (s.get R).root = R := by
  unfold Session.get
  cases hf : s.lists.find? (fun l => l.root == R) with
  | none => rfl
  | some l => simpa using List.find?_some hf

theorem Session.get_mem (s : Session) {R : RelPath} (h : R ∈ s.roots) : s.get R ∈ s.lists := by
  unfold Session.get
  cases hf : s.lists.find? (fun x => x.root == R) with
  | none =>
    obtain ⟨l, hl, hlr⟩ := List.mem_map.1 h
    have := List.find?_eq_none.1 hf l hl
    simp [hlr] at this
  | some l' => exact List.mem_of_find?_eq_some hf

theorem Session.get_not_mem (s : Session) {R : RelPath} (h : R ∉ s.roots) : s.get R = { root := R } := by
  unfold Session.get
  rw [List.find?_eq_none.2 fun l hl hlr => h (List.mem_map.2 ⟨l, hl, by simpa using hlr⟩)]
  rfl

theorem Session.get_of_mem (s : Session) (hnd : s.roots.Nodup) {l : NewList} (hl : l ∈ s.lists) :
    s.get l.root = l := by
  unfold Session.get
  rw [find?_of_nodup_map hnd hl (by simp) fun _ _ hx => by simpa using hx]
  rfl

/-! ### `touch` and `put` -/

theorem Session.mem_touch_lists {s : Session} {R : RelPath} {l : NewList} (h : l ∈ (s.touch R).lists) :
    l ∈ s.lists ∨ l = { root := R } := by
  unfold Session.touch at h
  split at h
  · exact .inl h
  · simpa using h

theorem Session.touch_roots (s : Session) (R : RelPath) :
    (s.touch R).roots = if R ∈ s.roots then s.roots else s.roots ++ [R] := by
  unfold Session.touch
  by_cases h : R ∈ s.roots
  · rw [if_pos ((s.any_root_iff R).2 h), if_pos h]
  · rw [if_neg (fun h' => h ((s.any_root_iff R).1 h')), if_neg h]
    simp [Session.roots]

/-- `touch` makes the list that `get` assumes anyway -/
theorem Session.touch_get (s : Session) (R R' : RelPath) : (s.touch R).get R' = s.get R' := by
  unfold Session.touch
  split
  · rfl
  · next hany =>
    unfold Session.get
    simp only [List.find?_append]
    cases hf : s.lists.find? (fun l => l.root == R') with
    | some l => simp
    | none =>
      by_cases hR : R = R'
      · subst hR; simp
      · have : (R == R') = false := by simpa using hR
        simp [this]

theorem Session.touch_patterns (s : Session) (r : RelPath) : (s.touch r).patterns = s.patterns := by
  unfold Session.touch; split <;> rfl

theorem Session.mem_put_lists {s : Session} {nl l : NewList} (h : l ∈ (s.put nl).lists) : l ∈ s.lists ∨ l = nl := by
  unfold Session.put at h
  split at h
  · obtain ⟨l0, hl0, rfl⟩ := List.mem_map.1 h
    split
    · exact .inr rfl
    · exact .inl hl0
  · simpa using h

theorem Session.put_roots (s : Session) (nl : NewList) :
    (s.put nl).roots = if nl.root ∈ s.roots then s.roots else s.roots ++ [nl.root] := by
  unfold Session.put
  by_cases h : nl.root ∈ s.roots
  · rw [if_pos ((s.any_root_iff _).2 h), if_pos h]
    simp only [Session.roots, List.map_map]
    apply List.map_congr_left
    intro l _
    simp only [Function.comp]
    split
    · next h' => exact (by simpa using h' : l.root = nl.root).symm
    · rfl
  · rw [if_neg (fun h' => h ((s.any_root_iff _).1 h')), if_neg h]
    simp [Session.roots]

theorem Session.put_of_mem (s : Session) (l lmod : NewList) (hl : l ∈ s.lists) (hr : lmod.root = l.root) :
    s.put lmod = { s with lists := s.lists.map fun x => if x.root == l.root then lmod else x } := by
  unfold Session.put
  rw [if_pos ((s.any_root_iff _).2 (List.mem_map.2 ⟨l, hl, hr.symm⟩)), hr]

theorem Session.put_of_not_mem (s : Session) (nl : NewList) (h : nl.root ∉ s.roots) :
    s.put nl = { s with lists := s.lists ++ [nl] } := by
  unfold Session.put
  rw [if_neg fun h' => h ((s.any_root_iff _).1 h')]

theorem Session.put_roots_nodup (s : Session) (nl : NewList) (h : s.roots.Nodup) : (s.put nl).roots.Nodup := by
  rw [Session.put_roots]
  split
  · exact h
  · next hn => exact appendNew_of_not_mem hn ▸ nodup_appendNew _ _ h

theorem find?_map_replace (ls : List NewList) (nl : NewList) (R : RelPath) :
    (ls.map fun l => if l.root == nl.root then nl else l).find? (fun l => l.root == R) =
      (ls.find? (fun l => l.root == R)).map fun l => if l.root == nl.root then nl else l := by
  rw [List.find?_map]
  congr 2
  funext l
  by_cases h : l.root = nl.root <;> simp [h]

theorem Session.get_put_same (s : Session) (nl : NewList) : (s.put nl).get nl.root = nl := by
  unfold Session.put Session.get
  split
  · next hany =>
    obtain ⟨l, hl, hroot⟩ := List.any_eq_true.1 hany
    rw [find?_map_replace]
    cases hf : s.lists.find? (fun l => l.root == nl.root) with
    | none => exact absurd hroot (by simpa using List.find?_eq_none.1 hf l hl)
    | some l' =>
      have h : (l'.root == nl.root) = true := by simpa using List.find?_some hf
      simp [beq_iff_eq.1 h]
  · next hany =>
    have : s.lists.find? (fun l => l.root == nl.root) = none :=
      List.find?_eq_none.2 fun l hl hh => hany (List.any_eq_true.2 ⟨l, hl, hh⟩)
    simp [List.find?_append, this]

theorem Session.get_put_ne (s : Session) (nl : NewList) (R : RelPath) (hne : nl.root ≠ R) :
    (s.put nl).get R = s.get R := by
  unfold Session.put Session.get
  split
  · rw [find?_map_replace]
    cases hf : s.lists.find? (fun l => l.root == R) with
    | none => rfl
    | some l =>
      have h : (l.root == R) = true := by simpa using List.find?_some hf
      have : l.root ≠ nl.root := by rw [beq_iff_eq.1 h]; exact Ne.symm hne
      simp [this]
  · have h2 : (nl.root == R) = false := by simpa using hne
    simp [List.find?_append, h2]

theorem Session.put_patterns (s : Session) (nl : NewList) : (s.put nl).patterns = s.patterns := by
  unfold Session.put; split <;> rfl

/-! ### `NewList.update` -/

theorem NewList.update_root (nl : NewList) (path : String) (size : Option Nat) (g : Record → Record) :
    (nl.update path size g).root = nl.root := by
  simp only [NewList.update, apply_ite NewList.root, ite_self]

theorem NewList.update_dot (nl : NewList) (sz : Option Nat) (f : Record → Record) :
    nl.update "." sz f = { nl with rootRec := some (f (nl.rootRec.getD { path := ".", size := sz })) } := by
  simp [NewList.update]

theorem NewList.update_dot_rootRec (nl : NewList) (size : Option Nat) (g : Record → Record) :
    (nl.update "." size g).rootRec = some (g (nl.rootRec.getD { path := ".", size := size })) := by
  rw [NewList.update_dot]

theorem NewList.update_fresh (nl : NewList) (k : String) (sz : Option Nat) (f : Record → Record) (hk : k ≠ ".")
    (hfresh : k ∉ nl.records.map (·.path)) :
    nl.update k sz f = { nl with records := nl.records ++ [f { path := k, size := sz }] } := by
  unfold NewList.update
  have hd : (k == ".") = false := by simpa using hk
  have hany : (nl.records.any fun r => r.path == k) = false := by
    rw [List.any_eq_false]
    intro r hr hp
    exact hfresh (List.mem_map.2 ⟨r, hr, by simpa using hp⟩)
  simp [hd, hany]

theorem NewList.update_allRecs {P : Record → Prop} (nl : NewList) (p : String) (sz : Option Nat) (f : Record → Record)
    (hf : ∀ r, P r → P (f r)) (h0 : P (f { path := p, size := sz })) (h : ∀ r ∈ nl.records, P r) :
    ∀ r ∈ (nl.update p sz f).records, P r := by
  unfold NewList.update
  split
  · exact h
  · split
    · intro r hr
      obtain ⟨r0, hr0, rfl⟩ := List.mem_map.1 hr
      split
      · exact hf r0 (h r0 hr0)
      · exact h r0 hr0
    · intro r hr
      rcases List.mem_append.1 hr with hr | hr
      · exact h r hr
      · simp only [List.mem_singleton] at hr
        subst hr
        exact h0

/-! ### the step `addTo` -/

theorem Session.addTo_patterns (s : Session) (R : RelPath) (p : String) (sz : Option Nat) (f : Record → Record) :
    (s.addTo R p sz f).patterns = s.patterns := by
  rw [Session.addTo, Session.put_patterns, Session.touch_patterns]

theorem Session.addTo_get_same (s : Session) (R : RelPath) (p : String) (sz : Option Nat) (f : Record → Record) :
    (s.addTo R p sz f).get R = (s.get R).update p sz f := by
  have h := Session.get_put_same (s.touch R) (((s.touch R).get R).update p sz f)
  rw [NewList.update_root, Session.get_root] at h
  rw [Session.addTo, h, Session.touch_get]

theorem Session.addTo_get_ne (s : Session) (R : RelPath) (p : String) (sz : Option Nat) (f : Record → Record)
    (R' : RelPath) (h : R' ≠ R) : (s.addTo R p sz f).get R' = s.get R' := by
  rw [Session.addTo, Session.get_put_ne _ _ _ (by rw [NewList.update_root, Session.get_root]; exact h.symm),
    Session.touch_get]

/-- `addTo_get_same` and (next) `addTo_get_ne` with `addTo` written out and the `touch` still in sight, as they come up
when `sealFile` or `appendDirHashes` has been unfolded -/
theorem Session.get_record (s : Session) (R : RelPath) (path : String) (size : Option Nat) (g : Record → Record) :
    ((s.touch R).put (((s.touch R).get R).update path size g)).get R =
      ((s.touch R).get R).update path size g := by
  have := s.addTo_get_same R path size g
  rw [← s.touch_get R R] at this
  exact this

theorem Session.get_record_ne (s : Session) {R R' : RelPath} (hne : R' ≠ R) (path : String) (size : Option Nat)
    (g : Record → Record) :
    ((s.touch R').put (((s.touch R').get R').update path size g)).get R = s.get R :=
  s.addTo_get_ne R' path size g R hne.symm

theorem Session.addTo_fresh_get (s : Session) (R : RelPath) (p : String) (sz : Option Nat) (f : Record → Record)
    (hdot : p ≠ ".") (hfresh : ∀ r ∈ (s.get R).records, r.path ≠ p) (R' : RelPath) :
    (s.addTo R p sz f).get R' =
      if R' = R then { s.get R with records := (s.get R).records ++ [f { path := p, size := sz }] }
      else s.get R' := by
  by_cases h : R' = R
  · subst h
    rw [if_pos rfl, Session.addTo_get_same, NewList.update_fresh _ _ _ _ hdot (by simpa using hfresh)]
  · rw [if_neg h, Session.addTo_get_ne _ _ _ _ _ _ h]

theorem Session.addTo_dot_get (s : Session) (R : RelPath) (sz : Option Nat) (f : Record → Record)
    (hnone : (s.get R).rootRec = none) (R' : RelPath) :
    (s.addTo R "." sz f).get R' =
      if R' = R then { s.get R with rootRec := some (f { path := ".", size := sz }) } else s.get R' := by
  by_cases h : R' = R
  · subst h
    rw [if_pos rfl, Session.addTo_get_same, NewList.update_dot, hnone]
    rfl
  · rw [if_neg h, Session.addTo_get_ne _ _ _ _ _ _ h]

/-- the roots of a session grow by `appendNew` -/
theorem Session.addTo_roots (s : Session) (R : RelPath) (p : String) (sz : Option Nat) (f : Record → Record) :
    (s.addTo R p sz f).roots = appendNew s.roots R := by
  have hroot : (((s.touch R).get R).update p sz f).root = R := by
    rw [NewList.update_root, Session.get_root]
  have hmem : R ∈ (s.touch R).roots := by
    rw [Session.touch_roots]; split <;> simp_all
  rw [Session.addTo, Session.put_roots, hroot, if_pos hmem, Session.touch_roots]
  split
  · next h => exact (appendNew_of_mem h).symm
  · next h => exact (appendNew_of_not_mem h).symm

/-! ### a property of every record -/

/-- every record of every list of the session satisfies `P` of the list's root (root records are not looked at) -/
def Session.AllRecs (P : RelPath → Record → Prop) (s : Session) : Prop := ∀ l ∈ s.lists, ∀ r ∈ l.records, P l.root r

theorem Session.AllRecs.get {P : RelPath → Record → Prop} {s : Session} (h : s.AllRecs P) (R : RelPath) :
    ∀ r ∈ (s.get R).records, P R r := by
  by_cases hR : R ∈ s.roots
  · have := h _ (s.get_mem hR)
    rwa [s.get_root] at this
  · rw [s.get_not_mem hR]
    exact fun r hr => nomatch hr

theorem Session.AllRecs.touch {P : RelPath → Record → Prop} {s : Session} (h : s.AllRecs P) (R : RelPath) :
    (s.touch R).AllRecs P := fun l hl r hr =>
  (Session.mem_touch_lists hl).elim (fun hl => h l hl r hr) fun e => by subst e; cases hr

theorem Session.AllRecs.put {P : RelPath → Record → Prop} {s : Session} (h : s.AllRecs P) (nl : NewList)
    (hnl : ∀ r ∈ nl.records, P nl.root r) : (s.put nl).AllRecs P := fun l hl r hr =>
  (Session.mem_put_lists hl).elim (fun hl => h l hl r hr) fun e => by subst e; exact hnl r hr

theorem Session.AllRecs.addTo {P : RelPath → Record → Prop} {s : Session} (h : s.AllRecs P) (R : RelPath) (p : String)
    (sz : Option Nat) (f : Record → Record) (hf : ∀ r, P R r → P R (f r)) (h0 : P R (f { path := p, size := sz })) :
    (s.addTo R p sz f).AllRecs P := by
  refine (h.touch R).put _ ?_
  rw [NewList.update_root, Session.get_root]
  exact NewList.update_allRecs _ p sz f hf h0 ((h.touch R).get R)

/-! ## validation and `writeOne` -/

/-- what `validateRecord` does to an entry when it lets the record through -/
def relabel (e : Entry) : Entry := if e.action == "new" then { e with action := "verified" } else e

theorem relabel_fmt (e : Entry) : (relabel e).fmt = e.fmt := by unfold relabel; split <;> rfl
theorem relabel_digest (e : Entry) : (relabel e).digest = e.digest := by unfold relabel; split <;> rfl

theorem relabel_new (e : Entry) (h : e.action = "new") : (relabel e).action = "verified" := by
  unfold relabel
  rw [if_pos (by simpa using h)]

theorem relabel_of_not_new (e : Entry) (h : e.action ≠ "new") : relabel e = e := by
  unfold relabel
  rw [if_neg (by simpa using h)]

theorem relabel_original (e : Entry) (h : e.action = "original") : relabel e = e :=
  relabel_of_not_new e (by rw [h]; decide)

theorem relabel_failed (e : Entry) : (relabel e).action = "failed" ↔ e.action = "failed" := by
  by_cases h : e.action = "new"
  · rw [relabel_new e h, h]; decide
  · rw [relabel_of_not_new e h]

/-- the test `_validate_new_hash_list` makes, on the entries alone -/
def entriesPass (es : List Entry) : Bool :=
  !(es.any fun e => e.action == "new") ||
    (!(es.filter fun e => e.action == "verified" || e.action == "failed").isEmpty &&
      !((es.filter fun e => e.action == "verified" || e.action == "failed").any fun e => e.action != "verified"))

/-- the test in words: an entry in a format new for the file needs a verified one beside it and none that failed -/
theorem entriesPass_iff (es : List Entry) : entriesPass es = true ↔
    ((∃ e ∈ es, e.action = "new") → (∃ e ∈ es, e.action = "verified") ∧ ∀ e ∈ es, e.action ≠ "failed") := by
  unfold entriesPass
  generalize hvf : (es.filter fun e => e.action == "verified" || e.action == "failed") = vf
  have hmem : ∀ e, e ∈ vf ↔ e ∈ es ∧ (e.action = "verified" ∨ e.action = "failed") := by
    intro e; rw [← hvf]; simp [List.mem_filter]
  simp only [Bool.or_eq_true, Bool.and_eq_true, Bool.not_eq_true', List.any_eq_false, List.isEmpty_eq_false_iff_exists_mem,
    hmem, beq_iff_eq, bne_iff_ne]
  constructor
  · rintro (h | ⟨⟨v, hv, hvf⟩, hall⟩) hex
    · obtain ⟨e, he, hn⟩ := hex
      exact absurd hn (h e he)
    · have hnf : ∀ e ∈ es, e.action ≠ "failed" := fun e he hf => by
        have := hall e ⟨he, .inr hf⟩
        rw [hf] at this
        exact this (by decide)
      exact ⟨⟨v, hv, hvf.resolve_right (hnf v hv)⟩, hnf⟩
  · intro h
    by_cases hex : ∃ e ∈ es, e.action = "new"
    · obtain ⟨⟨v, hv, hvv⟩, hnf⟩ := h hex
      exact .inr ⟨⟨v, hv, .inl hvv⟩, fun e he hne => hne (he.2.resolve_right (hnf e he.1))⟩
    · exact .inl fun e he hn => hex ⟨e, he, hn⟩

/-- `validateRecord` by one equation: a record whose entries pass the test comes back with `new` turned into
`verified`, any other is refused -/
theorem validateRecord_eq (r : Record) :
    validateRecord r =
      if entriesPass r.entries then .ok { r with entries := r.entries.map relabel }
      else .error (.internal "AssertionError") := by
  unfold validateRecord entriesPass
  dsimp only
  generalize (r.entries.filter fun e => e.action == "verified" || e.action == "failed") = vf
  by_cases hnew : (r.entries.any fun e => e.action == "new") = true
  · rw [if_pos hnew, hnew]
    by_cases h1 : vf.isEmpty = true
    · rw [if_pos h1, h1]; rfl
    · by_cases h2 : (vf.any fun e => e.action != "verified") = true
      · rw [if_neg h1, if_pos h2, Bool.eq_false_iff.2 h1, h2]; rfl
      · rw [if_neg h1, if_neg h2, Bool.eq_false_iff.2 h1, Bool.eq_false_iff.2 h2]; rfl
  · have hid : r.entries.map relabel = r.entries :=
      (List.map_congr_left fun e he =>
        relabel_of_not_new e fun hn => hnew (List.any_eq_true.2 ⟨e, he, by simp [hn]⟩)).trans (List.map_id _)
    rw [if_neg hnew, hid, Bool.eq_false_iff.2 hnew]
    rfl

theorem validateRecord_isOk (r : Record) : (∃ x, validateRecord r = .ok x) ↔ entriesPass r.entries = true := by
  rw [validateRecord_eq]
  split <;> simp [*]

theorem mapM_validate_eq (rs : List Record) :
    rs.mapM validateRecord =
      if ∀ r ∈ rs, entriesPass r.entries = true then
        .ok (rs.map fun r => { r with entries := r.entries.map relabel })
      else .error (.internal "AssertionError") := by
  induction rs with
  | nil => rfl
  | cons r rs ih =>
    rw [List.mapM_cons, validateRecord_eq, ih]
    simp only [List.forall_mem_cons]
    by_cases h1 : entriesPass r.entries = true
    · by_cases h2 : ∀ r ∈ rs, entriesPass r.entries = true
      · rw [if_pos (And.intro h1 h2), if_pos h1, if_pos h2]; rfl
      · rw [if_neg fun h : _ ∧ _ => h2 h.2, if_pos h1, if_neg h2]; rfl
    · rw [if_neg fun h : _ ∧ _ => h1 h.1, if_neg h1]; rfl

/-- a record as it is written: validated (`new` ↦ `verified`), the entries of a file record sorted by format -/
def finalRec (r : Record) : Record :=
  if r.isDir then { r with entries := r.entries.map relabel }
  else { r with entries := isort (fun a b => strLe a.fmt b.fmt) (r.entries.map relabel) }

theorem finalRec_path (r : Record) : (finalRec r).path = r.path := by unfold finalRec; split <;> rfl
theorem finalRec_isDir (r : Record) : (finalRec r).isDir = r.isDir := by unfold finalRec; split <;> rfl
theorem finalRec_size (r : Record) : (finalRec r).size = r.size := by unfold finalRec; split <;> rfl
theorem finalRec_prev (r : Record) : (finalRec r).prev = r.prev := by unfold finalRec; split <;> rfl
theorem finalRec_entries (r : Record) : (finalRec r).entries.Perm (r.entries.map relabel) := by
  unfold finalRec
  split
  · exact List.Perm.refl _
  · exact isort_perm _ _

theorem finalRec_dir_entries {r : Record} (hd : r.isDir = true) (ha : ∀ e ∈ r.entries, e.action = "") :
    (finalRec r).entries = r.entries := by
  unfold finalRec
  rw [if_pos hd]
  refine (List.map_congr_left fun e he => ?_).trans (List.map_id _)
  unfold relabel
  rw [ha e he]
  rfl

theorem finalRec_sorted (r : Record) (hr : r.isDir = false) :
    (finalRec r).entries.Pairwise fun a b => strLe a.fmt b.fmt = true := by
  unfold finalRec
  rw [if_neg (by simp [hr])]
  exact isort_key_sorted (fun e : Entry => e.fmt) _

/-- `writeOne` by one equation: when the records of the history's list pass the validation, the generation numbered
one above the latest with these records as written, everything else read off the arguments; otherwise the refusal -/
theorem writeOne_eq (rootHist : Hist) (s : Session) (rn stamp process : String) (cb : Option String) (h : Hist)
    (refs : List Written) :
    writeOne rootHist s rn stamp process cb h refs =
      if ∀ r ∈ (s.get h.root).records, entriesPass r.entries = true then
        .ok ⟨h.root, latestGenerationNumber h.gens + 1,
          { fileName := match (generalizing := false) cb with
              | some b => b ++ "_" ++ stamp ++ Gen.fileExtension
              | none => genFileName (latestGenerationNumber h.gens + 1) ((h.root.getLast?).getD rn) stamp,
            process := process,
            rootHash := (s.get h.root).rootRec.bind fun r => if r.entries.isEmpty then none else some r.entries,
            ignore := setPatterns (latestIgnore h.gens) s.patterns [],
            records := (s.get h.root).records.map finalRec,
            refs := refs.map fun c => posix (c.histRoot.drop h.root.length ++ [Gen.folderName, c.gen.fileName]) }⟩
      else .error (.internal "AssertionError") := by
  unfold writeOne
  simp only [mapM_validate_eq]
  split
  · simp only [bind, Except.bind, pure, Except.pure, List.map_map]
    rfl
  · rfl

theorem writeOne_isOk (rootHist : Hist) (s : Session) (rn stamp process : String) (cb : Option String)
    (h : Hist) (refs : List Written)
    (hv : ∀ r ∈ (s.get h.root).records, ∃ r', validateRecord r = .ok r') :
    ∃ w, writeOne rootHist s rn stamp process cb h refs = .ok w := by
  rw [writeOne_eq, if_pos fun r hr => (validateRecord_isOk r).1 (hv r hr)]
  exact ⟨_, rfl⟩

theorem writeOne_records (rootHist : Hist) (s : Session) (rn stamp process : String) (cb : Option String)
    (h : Hist) (refs : List Written) (w : Written)
    (hw : writeOne rootHist s rn stamp process cb h refs = .ok w) :
    w.histRoot = h.root ∧ w.gen.records = (s.get h.root).records.map finalRec ∧
      w.gen.rootHash = ((s.get h.root).rootRec.bind fun r => if r.entries.isEmpty then none else some r.entries) := by
  rw [writeOne_eq] at hw
  split at hw
  · cases hw
    exact ⟨rfl, rfl, rfl⟩
  · cases hw

/-- the success side of `writeOne_eq` with the records as the model makes them (`mapM validateRecord`, then the
entries of file records sorted) in place of `map finalRec` -/
theorem writeOne_ok_eq (rootHist : Hist) (s : Session) (rn stamp process : String) (cb : Option String) (h : Hist)
    (refs : List Written) (w : Written) (hw : writeOne rootHist s rn stamp process cb h refs = .ok w) :
    ∃ recs, (s.get h.root).records.mapM validateRecord = .ok recs ∧
      w = ⟨h.root, latestGenerationNumber h.gens + 1,
        { fileName := match (generalizing := false) cb with
            | some b => b ++ "_" ++ stamp ++ Gen.fileExtension
            | none => genFileName (latestGenerationNumber h.gens + 1) ((h.root.getLast?).getD rn) stamp,
          process := process,
          rootHash := (s.get h.root).rootRec.bind fun r => if r.entries.isEmpty then none else some r.entries,
          ignore := setPatterns (latestIgnore h.gens) s.patterns [],
          records := recs.map fun r =>
            if r.isDir then r else { r with entries := isort (fun a b => strLe a.fmt b.fmt) r.entries },
          refs := refs.map fun c => posix (c.histRoot.drop h.root.length ++ [Gen.folderName, c.gen.fileName]) }⟩ := by
  rw [writeOne_eq] at hw
  split at hw
  · next hp =>
    cases hw
    refine ⟨_, by rw [mapM_validate_eq, if_pos hp], ?_⟩
    simp only [List.map_map]
    rfl
  · cases hw

/-! ## `route` -/

theorem route_nil (h : Hist) : route h [] = (h, []) := by
  unfold route
  have : ((allDescendants h).filter fun c => !c.root.isEmpty && isPrefixOf c.root []) = [] := by
    rw [List.filter_eq_nil_iff]
    intro c _
    cases hr : c.root with
    | nil => simp
    | cons a as => simp [isPrefixOf]
  rw [this]
  rfl

/-- a generation as the tool writes it: no record has a previous path or the path "." -/
def Generation.Clean (g : Generation) : Prop := ∀ r ∈ g.records, r.prev = none ∧ r.path ≠ "."

theorem Generation.find_clean {g : Generation} (hc : g.Clean) {p : String} (hp : p ≠ ".") {r : Record}
    (h : g.find p = some r) : r ∈ g.records ∧ r.path = p := by
  obtain ⟨hr, h⟩ | ⟨h, -⟩ := Generation.find_some h
  · exact ⟨hr, by simpa [(hc r hr).1] using h⟩
  · exact absurd h hp

theorem Generation.find_dot_clean {g : Generation} (hc : g.Clean) : g.find "." = g.rootRec :=
  Generation.find_dot fun r hr => ⟨(hc r hr).2, by simp [(hc r hr).1]⟩

theorem sealFile_snd (H : HashFn) (rootHist : Hist) (s : Session) (file : RelPath) (content : Bytes)
    (requested : List String) :
    (sealFile H rootHist s file content requested).2 =
      (sealEntries (route rootHist file).1.gens (posix (route rootHist file).2)
        (fun f => H f content) requested).2 := by
  unfold sealFile
  simp only
  split <;> rfl

theorem sealEntries_res_shape (gens : List LGen) (p : String) (dig : String → String) (req : List String) :
    ∀ x ∈ (sealEntries gens p dig req).2, x.2.1 = dig x.1 := by
  intro x hx
  simp only [sealEntries, List.mem_append, List.mem_map] at hx
  rcases hx with ⟨f, -, rfl⟩ | ⟨f, -, rfl⟩ <;> rfl

theorem sealEntries_res_mem (gens : List LGen) (p : String) (dig : String → String) (req : List String)
    (f : String) (hf : f ∈ req) : ∃ ok, (f, dig f, ok) ∈ (sealEntries gens p dig req).2 := by
  have htg := mem_formatsToGenerate (existingFormats gens p) req f hf
  have hf' : req.contains f = true := List.contains_iff_mem.2 hf
  simp only [sealEntries, List.mem_append, List.mem_map, List.mem_filter]
  by_cases hex : f ∈ existingFormats gens p
  · exact ⟨_, Or.inl ⟨f, ⟨⟨hex, List.contains_iff_mem.2 htg⟩, hf'⟩, rfl⟩⟩
  · exact ⟨_, Or.inr ⟨f, ⟨⟨htg, by simpa using hex⟩, hf'⟩, rfl⟩⟩

theorem sealEntries_res_find (gens : List LGen) (p : String) (dig : String → String) (req : List String)
    (f : String) (hf : f ∈ req) :
    ∃ ok, (sealEntries gens p dig req).2.find? (fun x => x.1 == f) = some (f, dig f, ok) := by
  obtain ⟨ok, hmem⟩ := sealEntries_res_mem gens p dig req f hf
  cases hfind : (sealEntries gens p dig req).2.find? (fun x => x.1 == f) with
  | none =>
    have := List.find?_eq_none.1 hfind _ hmem
    simp at this
  | some x =>
    obtain ⟨g, d, ok'⟩ := x
    have hg : g = f := by simpa using List.find?_some hfind
    have hd := sealEntries_res_shape gens p dig req _ (List.mem_of_find?_eq_some hfind)
    simp only at hd
    subst hg
    exact ⟨ok', by rw [hd]⟩

theorem writeOne_refs_nil (rootHist : Hist) (s : Session) (rn stamp process : String) (cb : Option String)
    (h : Hist) (w : Written) (hw : writeOne rootHist s rn stamp process cb h [] = .ok w) : w.gen.refs = [] := by
  obtain ⟨recs, -, rfl⟩ := writeOne_ok_eq rootHist s rn stamp process cb h [] w hw
  rfl

theorem writeOne_fields (rootHist : Hist) (s : Session) (rn stamp process : String) (h : Hist)
    (refs : List Written) (w : Written) (hw : writeOne rootHist s rn stamp process none h refs = .ok w) :
    w.histRoot = h.root ∧ w.number = latestGenerationNumber h.gens + 1 ∧ w.gen.state = .ok ∧
    w.gen.fileName = genFileName (latestGenerationNumber h.gens + 1) ((h.root.getLast?).getD rn) stamp ∧
    w.gen.ignore = setPatterns (latestIgnore h.gens) s.patterns [] ∧
    w.gen.records = (s.get h.root).records.map finalRec ∧
    w.gen.rootHash = ((s.get h.root).rootRec.bind fun r => if r.entries.isEmpty then none else some r.entries) := by
  have h3 := writeOne_records rootHist s rn stamp process none h refs w hw
  obtain ⟨recs, -, rfl⟩ := writeOne_ok_eq rootHist s rn stamp process none h refs w hw
  exact ⟨rfl, rfl, rfl, rfl, rfl, h3.2.1, h3.2.2⟩

theorem writeOne_error (rootHist : Hist) (s : Session) (rn stamp process : String) (cb : Option String) (h : Hist)
    (refs : List Written) (e : Err) (he : writeOne rootHist s rn stamp process cb h refs = .error e) :
    e = .internal "AssertionError" := by
  rw [writeOne_eq] at he
  split at he
  · cases he
  · exact (Except.error.inj he).symm

end MhlModel
