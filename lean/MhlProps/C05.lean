/-
C05 — Any change to a chained manifest is detected before anything else happens.

If a manifest listed in a chain (root or nested history, any generation) is modified or missing, or the chain file of
an existing `ascmhl` folder is missing, every history-reading command refuses with 31 / 33 / 32 and writes nothing.

Helper lemmas live in MhlProps/Proofs/LoadLemmas.lean.  Vocabulary from there:
`resolve s e` = the generation the chain entry `e` names (first generation of `s.gens` with that file name),
`entryFault s e` = what is wrong with it, `storeFault o` = what is wrong with one `ascmhl` folder,
`nestedFaults t` / `allFaults t` = all faults of a tree in the order `loadHistory` meets them.
The statements below speak of `checkChain`, `loadOne` and `Faulty`; each is `storeFault` in other words
(`checkChain_spec`, `loadOne_error_iff`, `faulty_iff_storeFault`), and the proofs go through that.
-/
import MhlProps.Proofs.LoadLemmas
import MhlProps.Proofs.VerifyLemmas

namespace MhlProps.C05
open MhlModel

/-! ### 1. the chain check passes iff every chained manifest is there and unmodified -/

theorem checkChain_ok_iff (s : HistStore) :
    checkChain s = .ok () ↔
      ∀ e ∈ s.chain, ∃ g, s.gens.find? (fun g => g.fileName == e.fileName) = some g ∧ g.state = .ok := by
  rw [checkChain_spec]
  cases h : s.chain.findSome? (entryFault s) with
  | none =>
    rw [List.findSome?_eq_none_iff] at h
    simp only [true_iff]
    intro e he
    exact (entryFault_none_iff s e).1 (h e he)
  | some x =>
    simp only [reduceCtorEq, false_iff]
    intro hall
    obtain ⟨e, he, hx⟩ := List.exists_of_findSome?_eq_some h
    have := (entryFault_none_iff s e).2 (hall e he)
    rw [this] at hx; cases hx

/-! ### 2. the first problem in chain order decides -/

theorem checkChain_first_fault_general (s : HistStore) (pre post : List ChainEntry) (e : ChainEntry) (x : Err)
    (hchain : s.chain = pre ++ e :: post)
    (hpre : ∀ p ∈ pre, ∃ g, s.gens.find? (fun g => g.fileName == p.fileName) = some g ∧ g.state = .ok)
    (he : entryFault s e = some x) :
    checkChain s = .error x := by
  rw [checkChain_spec, hchain, List.findSome?_append]
  have : pre.findSome? (entryFault s) = none := by
    rw [List.findSome?_eq_none_iff]
    intro p hp
    exact (entryFault_none_iff s p).2 (hpre p hp)
  simp [this, he]

theorem checkChain_first_fault (s : HistStore) (pre post : List ChainEntry) (e : ChainEntry)
    (hchain : s.chain = pre ++ e :: post)
    (hpre : ∀ p ∈ pre, ∃ g, s.gens.find? (fun g => g.fileName == p.fileName) = some g ∧ g.state = .ok) :
    (∀ g, s.gens.find? (fun g => g.fileName == e.fileName) = some g → g.state = .modified →
      checkChain s = .error errModified) ∧
    (∀ g, s.gens.find? (fun g => g.fileName == e.fileName) = some g → g.state = .missing →
      checkChain s = .error errMissingManifest) ∧
    (s.gens.find? (fun g => g.fileName == e.fileName) = none →
      checkChain s = .error errMissingManifest) := by
  refine ⟨fun g hg hs => ?_, fun g hg hs => ?_, fun hg => ?_⟩
  · apply checkChain_first_fault_general s pre post e _ hchain hpre
    simp [entryFault, resolve, hg, hs]
  · apply checkChain_first_fault_general s pre post e _ hchain hpre
    simp [entryFault, resolve, hg, hs]
  · apply checkChain_first_fault_general s pre post e _ hchain hpre
    simp [entryFault, resolve, hg]

/-! ### 3. `loadOne` -/

theorem loadOne_no_chain (here : RelPath) (s : HistStore) (kids : List Hist) (h : s.chainPresent = false) :
    loadOne here (some s) kids = .error errNoChain := by
  rw [loadOne_spec]; simp [storeFault, h]

/-- `loadOne` in the model's own terms; through `storeFault` it is `loadOne_spec` (LoadLemmas) -/
theorem loadOne_eq (here : RelPath) (store : Option HistStore) (kids : List Hist) :
    loadOne here store kids = (checkStore store).map fun _ => buildHist here store kids := by
  unfold loadOne; cases checkStore store <;> rfl

theorem checkStore_no_chain (s : HistStore) (h : s.chainPresent = false) :
    checkStore (some s) = .error errNoChain := by
  simp [checkStore, h]; rfl

theorem checkStore_chain (s : HistStore) (h : s.chainPresent = true) : checkStore (some s) = checkChain s := by
  simp [checkStore, h]

theorem loadOne_none (here : RelPath) (kids : List Hist) :
    loadOne here none kids = .ok (.mk here [] [] false kids) := rfl

theorem loadOne_chain_fault (here : RelPath) (s : HistStore) (kids : List Hist) (x : Err)
    (hp : s.chainPresent = true) (h : checkChain s = .error x) :
    loadOne here (some s) kids = .error x := by
  rw [loadOne_eq, checkStore_chain s hp, h]; rfl

theorem loadOne_ok (here : RelPath) (s : HistStore) (kids : List Hist)
    (hp : s.chainPresent = true) (h : checkChain s = .ok ()) :
    loadOne here (some s) kids = .ok (.mk here (loadGens s) s.chain true kids) := by
  rw [loadOne_eq, checkStore_chain s hp, h]; rfl

/-! ### 4. `Faulty`: what is wrong with a store, spelled out -/

/-- a store is faulty as in sections 2 and 3: no chain file, or a chain whose first problematic entry is modified (31)
or missing / unknown (33) -/
inductive Faulty (s : HistStore) : Err → Prop where
  | noChain (h : s.chainPresent = false) : Faulty s errNoChain
  | modified (hp : s.chainPresent = true) (pre post : List ChainEntry) (e : ChainEntry) (g : Generation)
      (hchain : s.chain = pre ++ e :: post)
      (hpre : ∀ p ∈ pre, ∃ g, s.gens.find? (fun g => g.fileName == p.fileName) = some g ∧ g.state = .ok)
      (hg : s.gens.find? (fun g => g.fileName == e.fileName) = some g) (hs : g.state = .modified) :
      Faulty s errModified
  | missing (hp : s.chainPresent = true) (pre post : List ChainEntry) (e : ChainEntry) (g : Generation)
      (hchain : s.chain = pre ++ e :: post)
      (hpre : ∀ p ∈ pre, ∃ g, s.gens.find? (fun g => g.fileName == p.fileName) = some g ∧ g.state = .ok)
      (hg : s.gens.find? (fun g => g.fileName == e.fileName) = some g) (hs : g.state = .missing) :
      Faulty s errMissingManifest
  | unknown (hp : s.chainPresent = true) (pre post : List ChainEntry) (e : ChainEntry)
      (hchain : s.chain = pre ++ e :: post)
      (hpre : ∀ p ∈ pre, ∃ g, s.gens.find? (fun g => g.fileName == p.fileName) = some g ∧ g.state = .ok)
      (hg : s.gens.find? (fun g => g.fileName == e.fileName) = none) :
      Faulty s errMissingManifest

theorem loadOne_faulty (here : RelPath) (s : HistStore) (kids : List Hist) (x : Err) (h : Faulty s x) :
    loadOne here (some s) kids = .error x := by
  cases h with
  | noChain h => exact loadOne_no_chain here s kids h
  | modified hp pre post e g hchain hpre hg hs =>
    exact loadOne_chain_fault here s kids _ hp ((checkChain_first_fault s pre post e hchain hpre).1 g hg hs)
  | missing hp pre post e g hchain hpre hg hs =>
    exact loadOne_chain_fault here s kids _ hp ((checkChain_first_fault s pre post e hchain hpre).2.1 g hg hs)
  | unknown hp pre post e hchain hpre hg =>
    exact loadOne_chain_fault here s kids _ hp ((checkChain_first_fault s pre post e hchain hpre).2.2 hg)

theorem storeFault_of_faulty (s : HistStore) (x : Err) (h : Faulty s x) : storeFault (some s) = some x :=
  (loadOne_error_iff [] (some s) [] x).1 (loadOne_faulty [] s [] x h)

theorem faulty_of_storeFault (s : HistStore) (x : Err) (hsf : storeFault (some s) = some x) : Faulty s x := by
  unfold storeFault at hsf
  cases hp : s.chainPresent with
  | false =>
    simp [hp] at hsf; subst hsf; exact .noChain hp
  | true =>
    simp only [hp, Bool.not_true, Bool.false_eq_true, if_false] at hsf
    -- the chain splits at the first entry at fault
    obtain ⟨pre, e, post, hchain, he, hclean⟩ := List.findSome?_eq_some_iff.1 hsf
    have hpre : ∀ p ∈ pre, ∃ g, s.gens.find? (fun g => g.fileName == p.fileName) = some g ∧ g.state = .ok :=
      fun p hp' => (entryFault_none_iff s p).1 (hclean p hp')
    unfold entryFault resolve at he
    cases hg : s.gens.find? (fun g => g.fileName == e.fileName) with
    | none =>
      simp [hg] at he; subst he
      exact .unknown hp pre post e hchain hpre hg
    | some g =>
      cases hs : g.state with
      | ok => simp [hg, hs] at he
      | modified =>
        simp [hg, hs] at he; subst he
        exact .modified hp pre post e g hchain hpre hg hs
      | missing =>
        simp [hg, hs] at he; subst he
        exact .missing hp pre post e g hchain hpre hg hs

theorem faulty_iff_storeFault (s : HistStore) (x : Err) : Faulty s x ↔ storeFault (some s) = some x :=
  ⟨storeFault_of_faulty s x, faulty_of_storeFault s x⟩

theorem faulty_iff (s : HistStore) (x : Err) : Faulty s x ↔ ∀ here kids, loadOne here (some s) kids = .error x :=
  ⟨fun h here kids => loadOne_faulty here s kids x h,
    fun h => faulty_of_storeFault s x ((loadOne_error_iff [] (some s) [] x).1 (h [] []))⟩

/-! ### 5. `loadHistory`: the root first, then the nested histories -/

/-- the root is checked before the children are looked for -/
theorem loadHistory_root_error (t : Node) (x : Err) (h : storeFault t.hist = some x) : loadHistory t = .error x := by
  rw [← exceptErr_eq_some, loadHistory_err, allFaults_eq, h]; rfl

theorem loadHistory_root_fault (n : String) (cs : List Node) (s : HistStore) (x : Err) (h : Faulty s x) :
    loadHistory (.dir n cs (some s)) = .error x :=
  loadHistory_root_error _ x (storeFault_of_faulty s x h)

/-- `loadHistory` fails with the FIRST fault of the tree in walk order (`allFaults`:
the root's own store, then the children in NAME order, each child's own store before what is below it), and succeeds
iff there is no fault at all.  Sibling names need not be distinct for this to be well defined: the stable sort keeps
the stored order among equal names (which a real directory never has). -/
theorem loadHistory_error_iff (t : Node) (x : Err) :
    loadHistory t = .error x ↔ (allFaults t).head? = some x := by
  rw [← loadHistory_err, exceptErr_eq_some]

/-- the other half of `loadHistory_error_iff`; what is loaded then: `loadHistory_eq_ok` (LoadLemmas) -/
theorem loadHistory_ok_iff (t : Node) : (∃ h, loadHistory t = .ok h) ↔ allFaults t = [] := by
  rw [← exceptErr_eq_none, loadHistory_err]
  cases allFaults t <;> simp

theorem loadHistory_children_error (t : Node) (r : Hist) (x : Err)
    (hroot : loadOne [] t.hist [] = .ok r) (h : findChildren [] t = .error x) :
    loadHistory t = .error x := by
  rw [loadHistory_error_iff, allFaults_eq, storeFault_of_loadOne_ok hroot]
  show (nestedFaults t).head? = some x
  rw [← findChildren_err [] t, h]; rfl

theorem loadHistory_single_fault (t : Node) (x : Err) (h : allFaults t = [x]) : loadHistory t = .error x := by
  rw [loadHistory_error_iff, h]; rfl

theorem loadHistory_error_mem (t : Node) (x : Err) (h : loadHistory t = .error x) : x ∈ allFaults t := by
  rw [loadHistory_error_iff] at h
  exact List.mem_of_head? h

theorem loadHistory_child_fault_single (rn n : String) (rootStore : Option HistStore) (r : Hist)
    (pre post cs : List Node) (s : HistStore) (x : Err)
    (hroot : loadOne [] rootStore [] = .ok r)
    (hpre : ∀ c ∈ pre, noHist c = true) (hpost : ∀ c ∈ post, noHist c = true)
    (hcs : ∀ c ∈ cs, noHist c = true)
    (h : Faulty s x) :
    loadHistory (.dir rn (pre ++ .dir n cs (some s) :: post) rootStore) = .error x := by
  apply loadHistory_single_fault
  rw [allFaults_eq, Node.hist, storeFault_of_loadOne_ok hroot,
    nestedFaults_only_child rn pre post _ rootStore (allFaults_nil_of_noHist hpre hpost), allFaults_eq, Node.hist,
    storeFault_of_faulty s x h, nestedFaults,
    flatMap_isort_nil _ (nestedFaultsList_noHist cs ((noHistList_iff cs).2 hcs))]
  rfl

/-- one level down, past children that hold no history; repeated, a single faulty history at any depth -/
theorem nestedFaults_single_deep (n : String) (pre post : List Node) (c : Node) (hh : Option HistStore) (x : Err)
    (hpre : ∀ c ∈ pre, noHist c = true) (hpost : ∀ c ∈ post, noHist c = true)
    (hc : (storeFault c.hist).toList ++ nestedFaults c = [x]) :
    nestedFaults (.dir n (pre ++ c :: post) hh) = [x] := by
  rw [nestedFaults_only_child n pre post c hh (allFaults_nil_of_noHist hpre hpost)]
  exact hc

/-! ### 6. the order in which damage is reported -/

/-- The order of reporting.  The root store is fine; a child `c` has a damaged store of its own (fault `x`); every
other child either has a strictly greater name or is free of faults (itself and everything below it).  Then
`loadHistory` reports `x` — whatever else is damaged INSIDE `c` (a damaged parent history is reported before any
damage in its nested histories) and whatever is damaged in the siblings with greater names (of two damaged sibling
histories the one with the smaller name is reported), and wherever the children are listed in the stored order. -/
theorem loadHistory_fault_order (rn : String) (pre post : List Node) (c : Node) (rootStore : Option HistStore)
    (x : Err) (hroot : storeFault rootStore = none) (hc : storeFault c.hist = some x)
    (hothers : ∀ c' ∈ pre ++ post,
      strLe c'.name c.name = false ∨ (storeFault c'.hist = none ∧ nestedFaults c' = [])) :
    loadHistory (.dir rn (pre ++ c :: post) rootStore) = .error x := by
  rw [loadHistory_error_iff]
  simp only [allFaults, Node.hist, hroot, Option.toList, List.nil_append]
  rw [nestedFaults, List.head?_flatMap]
  let p : String × List Err := (c.name, (storeFault c.hist).toList ++ nestedFaults c)
  have hpv : p.2.head? = some x := by simp [p, hc]
  rw [← hpv]
  have hmem : ∀ q ∈ nestedFaultsList (pre ++ c :: post), q = p ∨ ∃ c' ∈ pre ++ post,
      q = (c'.name, (storeFault c'.hist).toList ++ nestedFaults c') := by
    intro q hq
    rw [nestedFaultsList_eq_map, List.mem_map] at hq
    obtain ⟨c', hc', rfl⟩ := hq
    rcases List.mem_append.1 hc' with h | h
    · exact Or.inr ⟨c', List.mem_append_left _ h, rfl⟩
    · rcases List.mem_cons.1 h with rfl | h
      · exact Or.inl rfl
      · exact Or.inr ⟨c', List.mem_append_right _ h, rfl⟩
  apply findSome?_sorted_first keyLe (fun q : String × List Err => q.2.head?) _ p
  · exact isort_key_sorted Prod.fst _
  · rw [mem_isort, nestedFaultsList_eq_map, List.mem_map]
    exact ⟨c, by simp, rfl⟩
  · rw [hpv]; simp
  · intro q hq
    rw [mem_isort] at hq
    rcases hmem q hq with rfl | ⟨c', hc', rfl⟩
    · exact Or.inl rfl
    · rcases hothers c' hc' with h | ⟨h1, h2⟩
      · exact Or.inr (Or.inr h)
      · exact Or.inr (Or.inl (by simp [h1, h2]))

theorem loadHistory_parent_before_nested (rn n : String) (cs : List Node) (s : HistStore)
    (rootStore : Option HistStore) (x : Err) (hroot : storeFault rootStore = none) (h : Faulty s x) :
    loadHistory (.dir rn [.dir n cs (some s)] rootStore) = .error x :=
  loadHistory_fault_order rn [] [] (.dir n cs (some s)) rootStore x hroot (storeFault_of_faulty s x h)
    (by simp)

theorem loadHistory_smaller_sibling_first (rn a b : String) (csa csb : List Node) (sa sb : HistStore)
    (rootStore : Option HistStore) (x : Err) (hroot : storeFault rootStore = none)
    (hab : a < b) (h : Faulty sa x) :
    loadHistory (.dir rn [.dir a csa (some sa), .dir b csb (some sb)] rootStore) = .error x ∧
    loadHistory (.dir rn [.dir b csb (some sb), .dir a csa (some sa)] rootStore) = .error x := by
  have hlt : strLe b a = false := by
    simp only [strLe, decide_eq_false_iff_not]
    exact String.not_le.2 hab
  constructor
  · exact loadHistory_fault_order rn [] [.dir b csb (some sb)] (.dir a csa (some sa)) rootStore x hroot
      (storeFault_of_faulty sa x h) (by simpa [Node.name] using Or.inl hlt)
  · exact loadHistory_fault_order rn [.dir b csb (some sb)] [] (.dir a csa (some sa)) rootStore x hroot
      (storeFault_of_faulty sa x h) (by simpa [Node.name] using Or.inl hlt)

/-- the reported damage does not depend on the order in which the OS lists a folder (distinct names, as on disk) -/
theorem nestedFaults_listing_order (n n' : String) {cs₁ cs₂ : List Node} (h h' : Option HistStore)
    (hp : cs₁.Perm cs₂) (hnd : (cs₁.map Node.name).Nodup) :
    nestedFaults (.dir n cs₁ h) = nestedFaults (.dir n' cs₂ h') := by
  rw [nestedFaults_dir, nestedFaults_dir]
  show (isort (fun a b : String × List Err => strLe a.1 b.1) _).flatMap _ =
    (isort (fun a b : String × List Err => strLe a.1 b.1) _).flatMap _
  rw [isort_key_eq_of_perm (Prod.fst : String × List Err → String) (hp.map fun c => (c.name, allFaults c))]
  simpa [Function.comp_def] using hnd

theorem loadHistory_error_listing_order (n n' : String) {cs₁ cs₂ : List Node} (h : Option HistStore)
    (hp : cs₁.Perm cs₂) (hnd : (cs₁.map Node.name).Nodup) (x : Err) :
    loadHistory (.dir n cs₁ h) = .error x ↔ loadHistory (.dir n' cs₂ h) = .error x := by
  rw [loadHistory_error_iff, loadHistory_error_iff, allFaults, allFaults,
    nestedFaults_listing_order n n' h h hp hnd]
  rfl

/-! ### 7. every history-reading command refuses and writes nothing -/

def refusal (e : Err) : Outcome := { err := some e, report := {}, written := [] }

theorem commands_refuse (env : Env) (t : Node) (e : Err) (h : loadHistory t = .error e)
    (o : CreateOpts) (vo : VerifyOpts) (dop : DhOpts) (a b : List String) (f : RelPath) :
    createFolder env t o = refusal e ∧ createSingleFiles env t o = refusal e ∧ create env t o = refusal e ∧
    verify env t vo = refusal e ∧ diff env t vo = refusal e ∧ verifyDh env t dop = refusal e ∧
    flatten env t a b = refusal e ∧ info t = .error e ∧ infoSingleFile t f = .error e :=
  ⟨createFolder_load_error env t o e h, createSingleFiles_load_error env t o e h, create_load_error env t o e h,
    verifyOrDiff_load_error env t vo true e h, verifyOrDiff_load_error env t _ false e h,
    verifyDh_load_error env t dop e h, flatten_load_error env t a b e h, info_load_error t e h,
    infoSingleFile_load_error t f e h⟩

theorem refusal_fields (e : Err) :
    (refusal e).err = some e ∧ (refusal e).written = [] ∧
    (refusal e).report.mismatch = [] ∧ (refusal e).report.missing = [] ∧ (refusal e).report.new = [] ∧
    (refusal e).report.renamed = [] ∧ (refusal e).report.dirMismatch = [] ∧ (refusal e).report.lines = [] :=
  ⟨rfl, rfl, rfl, rfl, rfl, rfl, rfl, rfl⟩

/-! ### 8. the exit codes -/

theorem exit_codes : errModified = .exit 31 ∧ errNoChain = .exit 32 ∧ errMissingManifest = .exit 33 :=
  ⟨errModified_eq, errNoChain_eq, errMissingManifest_eq⟩

theorem refusal_exitCode (e : Err) (h : e = errModified ∨ e = errMissingManifest ∨ e = errNoChain) :
    (refusal e).exitCode = 31 ∨ (refusal e).exitCode = 33 ∨ (refusal e).exitCode = 32 := by
  rcases h with rfl | rfl | rfl
  · exact Or.inl (by rw [errModified_eq]; rfl)
  · exact Or.inr (Or.inl (by rw [errMissingManifest_eq]; rfl))
  · exact Or.inr (Or.inr (by rw [errNoChain_eq]; rfl))

/-! ### non-vacuity -/

section Examples

def gOk (nm : String) : Generation := { fileName := nm }
def gMod (nm : String) : Generation := { fileName := nm, state := .modified }
def gMiss (nm : String) : Generation := { fileName := nm, state := .missing }

def sMod : HistStore :=
  { gens := [gOk "0001_a_2020-01-01_000000Z.mhl", gMod "0002_a_2020-01-02_000000Z.mhl"],
    chain := [⟨1, "0001_a_2020-01-01_000000Z.mhl"⟩, ⟨2, "0002_a_2020-01-02_000000Z.mhl"⟩] }

def sFine : HistStore :=
  { gens := [gOk "0001_a_2020-01-01_000000Z.mhl"], chain := [⟨1, "0001_a_2020-01-01_000000Z.mhl"⟩] }

def sNoChain : HistStore := { sFine with chainPresent := false }

/-- first entry deleted from disk, second one modified: the first problem (33) wins -/
def sBoth : HistStore :=
  { gens := [gMod "0002_a_2020-01-02_000000Z.mhl"],
    chain := [⟨1, "0001_a_2020-01-01_000000Z.mhl"⟩, ⟨2, "0002_a_2020-01-02_000000Z.mhl"⟩] }

/-- `Except` has no decidable equality: decide the error component -/
theorem error_of_decide {α : Type} (x : Except Err α) (e : Err) (h : exceptErr x = some e) : x = .error e :=
  (exceptErr_eq_some x e).1 h

example : checkChain sFine = .ok () := by
  obtain ⟨⟨⟩, h⟩ := (exceptErr_eq_none (checkChain sFine)).1 (by decide +kernel); exact h
example : checkChain sMod = .error (.exit 31) := error_of_decide _ _ (by decide +kernel)
example : checkChain sBoth = .error (.exit 33) := error_of_decide _ _ (by decide +kernel)

example : Faulty sMod errModified :=
  .modified rfl [⟨1, "0001_a_2020-01-01_000000Z.mhl"⟩] [] ⟨2, "0002_a_2020-01-02_000000Z.mhl"⟩
    (gMod "0002_a_2020-01-02_000000Z.mhl") rfl (by decide +kernel) (by decide +kernel) rfl

example : Faulty sNoChain errNoChain := .noChain rfl

/-- a fine root history, files, a history-free folder, and ONE nested history which is damaged -/
def tree1 : Node :=
  .dir "root" ([.file "a.txt" [1], .dir "plain" [.file "b.txt" [2]] none] ++
    .dir "card" [.file "c.txt" [3]] (some sMod) :: [.file "z.txt" [4]]) (some sFine)

theorem tree1_refused : loadHistory tree1 = .error (.exit 31) := error_of_decide _ _ (by decide +kernel)

example : loadHistory tree1 = .error (.exit 31) := tree1_refused

/-- the hypotheses of `loadHistory_child_fault_single` are satisfiable (and give the same answer) -/
example : loadHistory tree1 = .error errModified :=
  loadHistory_child_fault_single "root" "card" (some sFine) (.mk [] (loadGens sFine) sFine.chain true [])
    [.file "a.txt" [1], .dir "plain" [.file "b.txt" [2]] none] [.file "z.txt" [4]] [.file "c.txt" [3]] sMod
    errModified rfl (by decide +kernel) (by decide +kernel) (by decide +kernel)
    (.modified rfl [⟨1, "0001_a_2020-01-01_000000Z.mhl"⟩] [] ⟨2, "0002_a_2020-01-02_000000Z.mhl"⟩
      (gMod "0002_a_2020-01-02_000000Z.mhl") rfl (by decide +kernel) (by decide +kernel) rfl)

/-- deeper nesting: the damaged history two levels down, below a fine nested history -/
def tree2 : Node :=
  .dir "root" [.dir "reel" [.dir "card" [.file "c.txt" [3]] (some sNoChain)] (some sFine)] (some sFine)

theorem tree2_faults : allFaults tree2 = [errNoChain] := by decide +kernel

example : allFaults tree2 = [errNoChain] := tree2_faults
example : loadHistory tree2 = .error (.exit 32) := by
  rw [loadHistory_error_iff, tree2_faults, errNoChain_eq]; rfl

/-- walk order, not stored order: of two damaged sibling histories the one with the smaller name is reported,
whichever way round they are listed -/
theorem siblings_faults : allFaults (.dir "r" [.dir "b" [] (some sNoChain), .dir "a" [] (some sMod)] none)
    = [errModified, errNoChain] := by decide +kernel

example : allFaults (.dir "r" [.dir "b" [] (some sNoChain), .dir "a" [] (some sMod)] none)
    = [errModified, errNoChain] := siblings_faults
example : allFaults (.dir "r" [.dir "a" [] (some sMod), .dir "b" [] (some sNoChain)] none)
    = [errModified, errNoChain] := by decide +kernel
example : loadHistory (.dir "r" [.dir "b" [] (some sNoChain), .dir "a" [] (some sMod)] none)
    = .error (.exit 31) := by
  rw [loadHistory_error_iff, siblings_faults, errModified_eq]; rfl

/-- a damaged parent history is reported before the damage in the history nested in it (31 before 32), and the
nested damage of "a" before the sibling "b" -/
def tree3 : Node :=
  .dir "root" [.dir "b" [] (some sBoth),
               .dir "a" [.dir "inner" [] (some sNoChain)] (some sMod)] (some sFine)

theorem tree3_faults : allFaults tree3 = [errModified, errNoChain, errMissingManifest] := by decide +kernel

example : allFaults tree3 = [errModified, errNoChain, errMissingManifest] := tree3_faults
example : loadHistory tree3 = .error (.exit 31) := by
  rw [loadHistory_error_iff, tree3_faults, errModified_eq]; rfl

/-- the hypotheses of `loadHistory_fault_order` are satisfiable on that tree -/
example : loadHistory tree3 = .error errModified :=
  loadHistory_fault_order "root" [.dir "b" [] (some sBoth)] []
    (.dir "a" [.dir "inner" [] (some sNoChain)] (some sMod)) (some sFine) errModified
    (by decide +kernel) (by decide +kernel) (by decide +kernel)

example : (verify { H := fun _ _ => "", D := fun _ _ => none, hit := fun _ _ => false, rootName := "root" } tree1 {})
    = refusal (.exit 31) :=
  (commands_refuse _ tree1 _ tree1_refused {} {} {} [] [] []).2.2.2.1

end Examples

end MhlProps.C05
