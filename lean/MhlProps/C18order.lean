/-
C18 (order and sizes) — the packing list is deterministic in its ORDER too, and the size attribute of a record is the
one of the earliest record that contributed.

These statements go beyond what property C18 demands (C18 fixes the SET of records and digests, not their order), so
no monitor judges the implementation by them: they describe the model, and the model's record order and sizes are
compared with the written packing list by the correspondence check only.

About `MhlModel.flattenRecords` for arbitrary `gens : List LGen` (nothing assumed): the order of the records
(`flatten_order`), their sizes (`flatten_size_is_first`), generations that add nothing (`flatten_absorbs`), and
`flatten_prefix`: sealing a further generation never reorders or removes what the packing list already held.
-/
import MhlProps.C18

namespace MhlProps.C18order
open MhlModel

/-! ### the order of the records -/

/-- the model's `appendNew` on strings (`addNew_eq`) -/
def addNew (l : List String) (p : String) : List String := if p ∈ l then l else l ++ [p]

theorem addNew_eq : addNew = appendNew := rfl

/-- the distinct elements of a list in the order of their first appearance (`pathsOf` of
Proofs/FlattenLemmas.lean is this of the item paths) -/
def firstAppearance (l : List String) : List String := l.foldl addNew []

/-- the record order of the packing list: first appearance among the non-failed file entries -/
theorem flatten_order (gens : List LGen) :
    (flattenRecords gens).map (·.path) = firstAppearance ((items gens).map (·.path)) := by
  rw [flattenRecords_closed, List.map_map]
  exact List.map_id _

/-- the same for the records as `flatten` writes them (entries of each record sorted by format name) -/
theorem written_order (gens : List LGen) :
    (MhlProps.C18.sortedRecords gens).map (·.path) = firstAppearance ((items gens).map (·.path)) := by
  rw [MhlProps.C18.sortedRecords_paths, flatten_order]

theorem flatten_order_congr (g₁ g₂ : List LGen) (h : (items g₁).map (·.path) = (items g₂).map (·.path)) :
    (flattenRecords g₁).map (·.path) = (flattenRecords g₂).map (·.path) := by
  rw [flatten_order, flatten_order, h]

theorem flatten_prefix (g₁ g₂ : List LGen) :
    (flattenRecords g₁).map (·.path) <+: (flattenRecords (g₁ ++ g₂)).map (·.path) := by
  rw [flatten_order, flatten_order, items_append, List.map_append]
  unfold firstAppearance
  rw [List.foldl_append]
  exact addNew_eq ▸ prefix_foldl_appendNew _ _

theorem mem_firstAppearance (l : List String) (p : String) : p ∈ firstAppearance l ↔ p ∈ l :=
  (dedup_spec l).2 p

theorem firstAppearance_nodup (l : List String) : (firstAppearance l).Nodup :=
  (dedup_spec l).1

/-! ### the sizes -/

/-- the size attribute of the first item recorded for the path -/
def firstSize (L : List Item) (p : String) : Option (Option Nat) :=
  (L.find? fun it => it.path == p).map (·.size)

def sizeOf (acc : List Record) (p : String) : Option (Option Nat) :=
  (acc.find? fun r => r.path == p).map (·.size)

/-- the size attribute of a packing-list record is the one of the earliest non-failed file entry of its path -/
theorem flatten_size_is_first (gens : List LGen) (p : String) :
    sizeOf (flattenRecords gens) p = firstSize (items gens) p := by
  unfold sizeOf firstSize
  rw [flattenRecords_closed, find?_closed]
  cases hf : (items gens).find? (fun it => it.path == p) with
  | none =>
    rw [if_neg fun h => ?_]; rfl
    obtain ⟨it, hit, hp⟩ := (mem_pathsOf _ p).1 h
    exact List.find?_eq_none.1 hf it hit (by simp [hp])
  | some it =>
    rw [if_pos ((mem_pathsOf _ p).2 ⟨it, List.mem_of_find?_eq_some hf, by simpa using List.find?_some hf⟩)]
    simp [recordOf, hf]

/-! ### a generation that only repeats what is recorded changes nothing -/

/-- `acc` already holds an entry of the item's format in the record of the item's path -/
def Covered (acc : List Record) (it : Item) : Prop :=
  ∃ r ∈ acc, r.path = it.path ∧ ∃ e ∈ r.entries, e.fmt = it.entry.fmt

theorem ins_of_covered (acc : List Record) (it : Item) (hn : (acc.map (·.path)).Nodup) (h : Covered acc it) :
    ins acc it = acc := by
  obtain ⟨r, hr, hp, e, he, hf⟩ := h
  rcases ins_cases acc it with ⟨hno, -⟩ | ⟨x, -, hx, hxp, ⟨-, h⟩ | ⟨hnofmt, -⟩⟩
  · exact absurd hp (hno r hr)
  · exact h
  · rw [eq_of_nodup_map hn hr hx (hp.trans hxp.symm)] at he
    exact absurd hf (hnofmt e he)

theorem foldl_ins_of_covered (L : List Item) (acc : List Record) (hn : (acc.map (·.path)).Nodup)
    (h : ∀ it ∈ L, Covered acc it) : L.foldl ins acc = acc := by
  induction L with
  | nil => rfl
  | cons it L ih =>
    rw [List.foldl_cons, ins_of_covered acc it hn (h it (List.mem_cons_self ..))]
    exact ih fun it' hit => h it' (List.mem_cons_of_mem _ hit)

theorem covered_of_inv {L : List Item} {acc : List Record} (inv : Inv L acc) (it : Item) (hit : it ∈ L) :
    Covered acc it := by
  obtain ⟨e, he⟩ := firstItem_isSome_of_mem hit
  obtain ⟨r, hr, hp, hmem⟩ := inv.complete _ _ _ he
  exact ⟨r, hr, hp, e, hmem, (firstItem_some he).1⟩

/-- generations whose non-failed file entries all repeat a (path, format) pair that the history already holds
leave the packing list as it is — whatever digests, sizes or actions they carry -/
theorem flatten_absorbs (g₁ g₂ : List LGen)
    (h : ∀ it ∈ items g₂, ∃ it' ∈ items g₁, it'.path = it.path ∧ it'.entry.fmt = it.entry.fmt) :
    flattenRecords (g₁ ++ g₂) = flattenRecords g₁ := by
  have inv := flattenRecords_inv g₁
  rw [flattenRecords_append]
  apply foldl_ins_of_covered _ _ inv.pathsNodup
  intro it hit
  obtain ⟨it', hit', hp, hf⟩ := h it hit
  obtain ⟨r, hr, hrp, e, he, hef⟩ := covered_of_inv inv it' hit'
  exact ⟨r, hr, hrp.trans hp, e, he, hef.trans hf⟩

/-- in particular, the same generations read twice give the same list -/
theorem flatten_idempotent (gens : List LGen) : flattenRecords (gens ++ gens) = flattenRecords gens :=
  flatten_absorbs gens gens fun it hit => ⟨it, hit, rfl, rfl⟩

/-! ### the premises are met by a concrete history, and the statements are not trivial on it -/

private def e (f a : String) : Entry := { fmt := f, digest := "00", action := a }
private def g (n : Nat) (rs : List Record) : LGen :=
  { number := n, gen := { fileName := "x", process := "in-place", records := rs } }
private def hist : List LGen :=
  [g 1 [{ path := "b", size := some 3, entries := [e "md5" "original"] },
        { path := "a", size := some 5, entries := [e "md5" "failed"] }],
   g 2 [{ path := "a", size := some 7, entries := [e "md5" "original"] },
        { path := "b", size := some 4, entries := [e "sha1" "new"] }]]

example : (flattenRecords hist).map (·.path) = ["b", "a"] := by decide +kernel
example : sizeOf (flattenRecords hist) "b" = some (some 3) ∧ sizeOf (flattenRecords hist) "a" = some (some 7) := by
  decide +kernel

example : flattenRecords (hist ++ [g 3 [{ path := "a", size := some 9, entries := [e "md5" "verified"] }]]) = flattenRecords hist := by
  decide +kernel

end MhlProps.C18order
