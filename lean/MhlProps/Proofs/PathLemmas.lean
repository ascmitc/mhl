/-
The `posixpath` functions of the path glue (`MhlModel/Paths.lean`) on characters, components and strings, for
`MhlProps/Paths.lean`, which treats the three functions of the tool on top of them.

A string is reasoned about through the pair `(initialSlashes s, stackOf s)` that `normpath` keeps of it
(`normpath_eq : normpath s = render (initialSlashes s) (stackOf s)`; `PEq` is equality of the pairs), and each string
function through what it does to the pair: `normpath` nothing (`PEq_normpath`), `joinPath` with a relative path appends
components (`initialSlashes_joinPath`, `stackOf_joinPath`), `abspath` is `normpath` after `joinPath` (`abspath_eq`),
`pieces` of an absolute normal path is its stack (`AbsNormal.pieces`).  Below that, `normStep` and its fold are met
only in the component-level section: the invariant `StackOK`, idempotence, and the laws `normComps_append`,
`normComps_skip`, `normComps_cancel` through which the later sections use `normComps`.  The last section is `relpath`:
its component list (`comps_relComps`) and its last line (`relpath_last_line`).
-/
import MhlModel.Paths

namespace MhlModel.Paths

/-! ### character level: `split('/')` and `'/'.join` -/

theorem splitC_ne_nil (cs : List Char) : splitC cs ≠ [] := by
  induction cs with
  | nil => simp [splitC]
  | cons c cs ih => grind [splitC]

theorem splitC_cons_slash (cs : List Char) : splitC ('/' :: cs) = [] :: splitC cs := by
  simp [splitC]

theorem splitC_append_slash (a b : List Char) : splitC (a ++ '/' :: b) = splitC a ++ splitC b := by
  induction a with
  | nil => simp [splitC]
  | cons c a ih => grind [splitC, splitC_ne_nil]

theorem splitC_of_noslash (x : List Char) (h : '/' ∉ x) : splitC x = [x] := by
  induction x with
  | nil => simp [splitC]
  | cons c x ih => grind [splitC]

theorem noslash_of_mem_splitC (cs x : List Char) (h : x ∈ splitC cs) : '/' ∉ x := by
  induction cs generalizing x with
  | nil => simp_all [splitC]
  | cons c cs ih => grind [splitC]

theorem splitC_joinC (ls : List (List Char)) (hne : ls ≠ []) (h : ∀ l ∈ ls, '/' ∉ l) :
    splitC (joinC ls) = ls := by
  induction ls with
  | nil => exact absurd rfl hne
  | cons x r ih =>
    cases r with
    | nil => simpa [joinC] using splitC_of_noslash x (h x (by simp))
    | cons y r =>
      simp only [joinC]
      rw [splitC_append_slash, splitC_of_noslash x (h x (by simp)),
        ih (by simp) (fun l hl => h l (by simp [hl]))]
      rfl

theorem joinC_head (x : List Char) (r : List (List Char)) :
    ∃ t, joinC (x :: r) = x ++ t := by
  cases r with
  | nil => exact ⟨[], by simp [joinC]⟩
  | cons y r => exact ⟨'/' :: joinC (y :: r), by simp [joinC]⟩

/-! ### component level -/

def Clean (p : String) : Prop := p ≠ "" ∧ p ≠ "." ∧ p ≠ ".."

/-- the invariant of the stack of `normStep` (top first): below the topmost `..` there are only `..`, and an
absolute path has no `..` at all; nothing is `""` or `"."`. -/
inductive StackOK (isabs : Bool) : List String → Prop
  | nil : StackOK isabs []
  | clean {p st} : Clean p → StackOK isabs st → StackOK isabs (p :: st)
  | dots {st} : isabs = false → (∀ x ∈ st, x = "..") → StackOK isabs (".." :: st)

theorem StackOK.tail {isabs p st} (h : StackOK isabs (p :: st)) : StackOK isabs st := by
  cases h with
  | clean _ h => exact h
  | dots hb hall =>
    induction st with
    | nil => exact .nil
    | cons q st ih =>
      have hq : q = ".." := hall q (by simp)
      subst hq
      exact .dots hb (fun x hx => hall x (by simp [hx]))

theorem StackOK.of_append {isabs} (l st : List String) (h : StackOK isabs (l ++ st)) : StackOK isabs st := by
  induction l with
  | nil => simpa using h
  | cons p l ih => exact ih (StackOK.tail h)

theorem normStep_ok {isabs st} (p : String) (h : StackOK isabs st) : StackOK isabs (normStep isabs st p) := by
  unfold normStep
  -- `""`/`.` keep the stack; any other `p ≠ ".."` is `Clean` and is pushed.  For `p = ".."`: on the empty stack it
  -- is dropped (absolute) or starts the dots; on a `..` top the stack came from `dots` and stays all dots; on a
  -- clean top that top is popped (`StackOK.tail`)
  grind [StackOK, StackOK.tail, Clean]

theorem foldl_normStep_ok {isabs} (l st : List String) (h : StackOK isabs st) :
    StackOK isabs (l.foldl (normStep isabs) st) := by
  induction l generalizing st with
  | nil => exact h
  | cons p l ih => exact ih _ (normStep_ok p h)

theorem normStep_of_ok {isabs p st} (h : StackOK isabs (p :: st)) : normStep isabs st p = p :: st := by
  cases h with
  | clean hc _ =>
    obtain ⟨h1, h2, h3⟩ := hc
    simp [normStep, h1, h2, h3]
  | dots hb hall =>
    subst hb
    cases st with
    | nil => simp [normStep]
    | cons t r =>
      have : t = ".." := hall t (by simp)
      subst this
      simp [normStep]

theorem foldl_normStep_of_ok {isabs} (l st : List String) (h : StackOK isabs (l.reverse ++ st)) :
    l.foldl (normStep isabs) st = l.reverse ++ st := by
  induction l generalizing st with
  | nil => simp
  | cons p l ih =>
    have h' : StackOK isabs (l.reverse ++ (p :: st)) := by simpa using h
    simp only [List.foldl_cons, List.reverse_cons, List.append_assoc, List.singleton_append]
    rw [normStep_of_ok (StackOK.of_append _ _ h')]
    exact ih _ h'

theorem normComps_ok (isabs : Bool) (l : List String) : StackOK isabs (normComps isabs l).reverse := by
  simpa [normComps] using foldl_normStep_ok l [] StackOK.nil

theorem normComps_of_ok {isabs} (l : List String) (h : StackOK isabs l.reverse) : normComps isabs l = l := by
  simp [normComps, foldl_normStep_of_ok l [] (by simpa using h)]

theorem normComps_append (isabs : Bool) (l m : List String) :
    normComps isabs (normComps isabs l ++ m) = normComps isabs (l ++ m) := by
  simp only [normComps, List.foldl_append]
  rw [foldl_normStep_of_ok _ [] (by simpa using foldl_normStep_ok l [] StackOK.nil)]
  simp

theorem stackOK_of_clean {isabs} (st : List String) (h : ∀ x ∈ st, Clean x) : StackOK isabs st := by
  induction st with
  | nil => exact .nil
  | cons p st ih => exact .clean (h p (by simp)) (ih fun x hx => h x (by simp [hx]))

theorem stackOK_abs_clean {st : List String} (h : StackOK true st) : ∀ x ∈ st, Clean x := by
  induction h with
  | nil => simp
  | clean hc _ ih => grind
  | dots hb _ => cases hb

theorem stackOK_ne_empty {isabs st} (h : StackOK isabs st) : ∀ x ∈ st, x ≠ "" ∧ x ≠ "." := by
  induction h with
  | nil => simp
  | clean hc _ ih => grind [Clean]
  | dots _ hall => grind

theorem stackOK_shape {isabs st} (h : StackOK isabs st) :
    ∃ k rest, st.reverse = List.replicate k ".." ++ rest ∧ (∀ x ∈ rest, Clean x) ∧ (isabs = true → k = 0) := by
  induction st with
  | nil => exact ⟨0, [], by simp⟩
  | cons p st ih =>
    cases h with
    | clean hc h =>
      obtain ⟨k, rest, h1, h2, h3⟩ := ih h
      refine ⟨k, rest ++ [p], by simp [h1], ?_, h3⟩
      intro x hx
      simp only [List.mem_append, List.mem_singleton] at hx
      rcases hx with hx | hx
      · exact h2 x hx
      · exact hx ▸ hc
    | dots hb hall =>
      refine ⟨st.length + 1, [], ?_, by simp, by simp [hb]⟩
      have : st = List.replicate st.length ".." := List.eq_replicate_iff.2 ⟨rfl, hall⟩
      rw [List.reverse_cons, this]
      simp [List.replicate_succ']

theorem normStep_subset {isabs st p x} (h : x ∈ normStep isabs st p) : x ∈ st ∨ x = p := by
  unfold normStep at h
  grind

theorem foldl_normStep_subset {isabs} (l st : List String) {x} (h : x ∈ l.foldl (normStep isabs) st) :
    x ∈ st ∨ x ∈ l := by
  induction l generalizing st with
  | nil => exact .inl h
  | cons p l ih =>
    rcases ih _ h with h | h
    · rcases normStep_subset h with h | h
      · exact .inl h
      · exact .inr (by simp [h])
    · exact .inr (by simp [h])

theorem normComps_subset {isabs l x} (h : x ∈ normComps isabs l) : x ∈ l := by
  have := foldl_normStep_subset l [] (x := x) (isabs := isabs) (by simpa [normComps] using h)
  simpa using this

theorem foldl_normStep_clean {isabs} (l st : List String) (h : ∀ x ∈ l, Clean x) :
    l.foldl (normStep isabs) st = l.reverse ++ st := by
  induction l generalizing st with
  | nil => simp
  | cons p l ih => simp_all [normStep, Clean]

theorem foldl_normStep_dots {isabs} (s st : List String) (h : ∀ x ∈ s, Clean x) :
    (List.replicate s.length "..").foldl (normStep isabs) (s ++ st) = st := by
  induction s with
  | nil => simp
  | cons t s ih => simp_all [List.replicate_succ, normStep, Clean]

theorem foldl_normStep_skip {isabs} (l st : List String) (h : ∀ x ∈ l, x = "" ∨ x = ".") :
    l.foldl (normStep isabs) st = st := by
  induction l generalizing st with
  | nil => simp
  | cons p l ih => simp_all [normStep]

theorem normComps_skip (isabs : Bool) (k s l : List String) (h : ∀ x ∈ s, x = "" ∨ x = ".") :
    normComps isabs (k ++ (s ++ l)) = normComps isabs (k ++ l) := by
  simp [normComps, List.foldl_append, foldl_normStep_skip s _ h]

theorem normComps_cancel (isabs : Bool) (k s m : List String) (hs : ∀ x ∈ s, Clean x) :
    normComps isabs (k ++ (s ++ (List.replicate s.length ".." ++ m))) = normComps isabs (k ++ m) := by
  have := foldl_normStep_dots (isabs := isabs) s.reverse (k.foldl (normStep isabs) []) (by simpa using hs)
  simp only [List.length_reverse] at this
  simp [normComps, List.foldl_append, foldl_normStep_clean _ _ hs, this]

theorem commonPrefixLen_take (a b : List String) :
    a.take (commonPrefixLen a b) = b.take (commonPrefixLen a b) := by
  induction a generalizing b with
  | nil => simp [commonPrefixLen]
  | cons x a ih => cases b <;> grind [commonPrefixLen]

theorem commonPrefixLen_le_left (a b : List String) : commonPrefixLen a b ≤ a.length := by
  induction a generalizing b with
  | nil => simp [commonPrefixLen]
  | cons x a ih => cases b <;> grind [commonPrefixLen]

theorem commonPrefixLen_append (a r : List String) : commonPrefixLen a (a ++ r) = a.length := by
  induction a with
  | nil => cases r <;> simp [commonPrefixLen]
  | cons x a ih => simp [commonPrefixLen, ih]

theorem relComps_spec (start path : List String) :
    ∃ c s p, start = c ++ s ∧ path = c ++ p ∧ relComps start path = List.replicate s.length ".." ++ p := by
  refine ⟨start.take (commonPrefixLen start path), start.drop (commonPrefixLen start path),
    path.drop (commonPrefixLen start path), (List.take_append_drop _ _).symm, ?_, by simp [relComps]⟩
  rw [commonPrefixLen_take]; exact (List.take_append_drop _ _).symm

/-! ### leading slashes -/

/-- number of leading slashes -/
def lead : List Char → Nat
  | c :: cs => if c = '/' then lead cs + 1 else 0
  | [] => 0

/-- `initial_slashes` of `posixpath.normpath` from the number of leading slashes: exactly two are kept, three or more
count as one -/
def slashClass (k : Nat) : Nat := if k = 0 then 0 else if k = 2 then 2 else 1

theorem initC_eq (l : List Char) : initC l = slashClass (lead l) := by
  rcases l with _ | ⟨a, _ | ⟨b, _ | ⟨c, l⟩⟩⟩
  · simp [initC, lead, slashClass]
  · by_cases ha : a = '/' <;> simp [initC, lead, slashClass, ha]
  · by_cases ha : a = '/' <;> by_cases hb : b = '/' <;> simp [initC, lead, slashClass, ha, hb]
  · by_cases ha : a = '/' <;> by_cases hb : b = '/' <;> by_cases hc : c = '/' <;>
      simp [initC, lead, slashClass, ha, hb, hc]

theorem initialSlashes_le (s : String) : initialSlashes s ≤ 2 := by
  rw [initialSlashes, initC_eq]; unfold slashClass; repeat' split
  all_goals omega

theorem isAbs_iff_lead (s : String) : isAbs s = true ↔ lead s.toList ≠ 0 := by
  unfold isAbs
  cases s.toList <;> grind [lead]

theorem isAbs_iff_initialSlashes (s : String) : isAbs s = true ↔ initialSlashes s ≠ 0 := by
  rw [isAbs_iff_lead, initialSlashes, initC_eq]; unfold slashClass
  -- the three values of `slashClass` (`lead = 0`, `= 2`, otherwise), each zero exactly when `lead` is
  repeat' split
  all_goals simp_all

theorem bne_initialSlashes (s : String) : (initialSlashes s != 0) = isAbs s := by
  rw [Bool.eq_iff_iff, isAbs_iff_initialSlashes]; simp

theorem lead_replicate_append (n : Nat) (l : List Char) : lead (List.replicate n '/' ++ l) = n + lead l := by
  induction n with
  | zero => simp
  | succ n ih => grind [lead]

theorem lead_append_of_lead_zero (a b : List Char) (h : lead b = 0) : lead (a ++ b) = lead a := by
  induction a with
  | nil => simpa [lead] using h
  | cons c a ih => grind [lead]

theorem lead_append_of_last (a x : List Char) (hne : a ≠ []) (h : a.getLast? ≠ some '/') :
    lead (a ++ x) = lead a := by
  induction a with
  | nil => exact absurd rfl hne
  | cons c a ih =>
    -- `a = [c]`: `c ≠ '/'`, both sides are `0`; `a = c :: d :: _`: by `c = '/'` or not, then the hypothesis for `d :: _`
    cases a <;> simp_all [lead, List.getLast?_cons_cons] <;> grind

/-! ### strings: split and join, the stack of a string -/

theorem toList_joinSlash (l : List String) : (joinSlash l).toList = joinC (l.map String.toList) := by
  simp [joinSlash]

theorem noslash_of_mem_splitSlash {s p : String} (h : p ∈ splitSlash s) : '/' ∉ p.toList := by
  simp only [splitSlash, List.mem_map] at h
  obtain ⟨x, hx, rfl⟩ := h
  simpa using noslash_of_mem_splitC _ _ hx

theorem splitSlash_joinSlash (l : List String) (hne : l ≠ []) (h : ∀ p ∈ l, '/' ∉ p.toList) :
    splitSlash (joinSlash l) = l := by
  simp only [splitSlash, toList_joinSlash]
  rw [splitC_joinC _ (by simpa using hne) (by simpa using h)]
  simp

theorem splitSlash_append_slash (a b : String) :
    splitSlash (a ++ "/" ++ b) = splitSlash a ++ splitSlash b := by
  simp only [splitSlash, String.toList_append]
  rw [show "/".toList = ['/'] by rfl]
  simp [splitC_append_slash]

/-- components as they come out of `normComps` applied to a split: nonempty and slash-free -/
def Comps (l : List String) : Prop := ∀ p ∈ l, p ≠ "" ∧ '/' ∉ p.toList

theorem joinC_comps_head {l : List String} (h : Comps l) (hne : l ≠ []) :
    ∃ c t, joinC (l.map String.toList) = c :: t ∧ c ≠ '/' := by
  obtain ⟨p, l, rfl⟩ := List.exists_cons_of_ne_nil hne
  obtain ⟨t, ht⟩ := joinC_head p.toList (l.map String.toList)
  obtain ⟨h1, h2⟩ := h p (by simp)
  cases hp : p.toList with
  | nil => exact absurd (String.toList_inj.1 (by simpa using hp)) h1
  | cons c cs => exact ⟨c, cs ++ t, by rw [List.map_cons, ht, hp]; rfl, fun e => h2 (by simp [hp, e])⟩

theorem lead_joinC_comps (l : List String) (h : Comps l) : lead (joinC (l.map String.toList)) = 0 := by
  by_cases hne : l = []
  · simp [hne, joinC, lead]
  · obtain ⟨c, t, e, hc⟩ := joinC_comps_head h hne
    simp [e, lead, hc]

theorem joinC_eq_nil_of_comps (l : List String) (h : Comps l) (hj : joinC (l.map String.toList) = []) : l = [] := by
  by_cases hne : l = []
  · exact hne
  · obtain ⟨c, t, e, -⟩ := joinC_comps_head h hne
    simp [e] at hj

/-- the stack `new_comps` of `normpath s` -/
def stackOf (s : String) : List String := normComps (initialSlashes s != 0) (splitSlash s)

theorem comps_stackOf (s : String) : Comps (stackOf s) := by
  intro p hp
  refine ⟨?_, noslash_of_mem_splitSlash (normComps_subset hp)⟩
  have := stackOK_ne_empty (normComps_ok (initialSlashes s != 0) (splitSlash s)) p (by simpa [stackOf] using hp)
  exact this.1

/-! ### rendering -/

/-- the last lines of `posixpath.normpath` -/
def render (n : Nat) (l : List String) : String :=
  let r := String.ofList (List.replicate n '/') ++ joinSlash l
  if r = "" then "." else r

theorem normpath_eq (s : String) : normpath s = render (initialSlashes s) (stackOf s) := by
  unfold normpath
  split
  · rename_i h; subst h; decide
  · rfl

theorem render_toList (n : Nat) (l : List String) :
    (render n l).toList =
      if List.replicate n '/' ++ joinC (l.map String.toList) = [] then ['.']
      else List.replicate n '/' ++ joinC (l.map String.toList) := by
  have key : (String.ofList (List.replicate n '/') ++ joinSlash l).toList =
      List.replicate n '/' ++ joinC (l.map String.toList) := by simp [toList_joinSlash]
  unfold render
  simp only
  by_cases h : String.ofList (List.replicate n '/') ++ joinSlash l = ""
  · have : List.replicate n '/' ++ joinC (l.map String.toList) = [] := by rw [← key, h]; rfl
    rw [if_pos h, if_pos this]; rfl
  · have : ¬ (List.replicate n '/' ++ joinC (l.map String.toList) = []) :=
      fun e => h (String.toList_inj.1 (by rw [key, e]; rfl))
    rw [if_neg h, if_neg this, key]

theorem render_ne_empty (n : Nat) (l : List String) : render n l ≠ "" := by
  intro h
  have := congrArg String.toList h
  rw [render_toList] at this
  split at this <;> simp_all

theorem initialSlashes_render (n : Nat) (l : List String) (hn : n ≤ 2) (h : Comps l) :
    initialSlashes (render n l) = n := by
  rw [initialSlashes, render_toList, initC_eq]
  split
  · rename_i h0
    have : n = 0 := by simpa using (List.append_eq_nil_iff.1 h0).1
    subst this; simp [lead, slashClass]
  · rw [lead_replicate_append, lead_joinC_comps l h]
    unfold slashClass
    have : n = 0 ∨ n = 1 ∨ n = 2 := by omega
    rcases this with h | h | h <;> simp [h]

theorem isAbs_render_zero (l : List String) (h : Comps l) : isAbs (render 0 l) = false := by
  rw [← bne_initialSlashes, initialSlashes_render 0 l (by omega) h]; rfl

theorem splitC_replicate_append (n : Nat) (l : List Char) :
    splitC (List.replicate n '/' ++ l) = List.replicate n [] ++ splitC l := by
  induction n with
  | zero => simp
  | succ n ih => simp [List.replicate_succ, splitC_cons_slash, ih]

theorem splitSlash_render (n : Nat) (l : List String) (h : Comps l) :
    splitSlash (render n l) =
      if n = 0 ∧ l = [] then ["."] else List.replicate n "" ++ (if l = [] then [""] else l) := by
  simp only [splitSlash, render_toList]
  by_cases hl : l = []
  · subst hl
    by_cases hn : n = 0
    · subst hn; simp [joinC, splitC]
    · have := splitC_replicate_append n []
      simp only [List.append_nil] at this
      simp [joinC, hn, this, splitC]
  · have hj : joinC (l.map String.toList) ≠ [] := fun e => hl (joinC_eq_nil_of_comps l h e)
    simp only [List.append_eq_nil_iff, hj, and_false, if_false, hl]
    rw [splitC_replicate_append, splitC_joinC _ (by simpa using hl) (by simpa using fun p hp => (h p hp).2)]
    simp

/-- splitting a rendered path again gives the components back, up to `""` and `"."`, which `normComps` skips;
`k` is what a join puts in front -/
theorem normComps_splitSlash_render (isabs : Bool) (n : Nat) (k l : List String) (h : Comps l) :
    normComps isabs (k ++ splitSlash (render n l)) = normComps isabs (k ++ l) := by
  rw [splitSlash_render n l h]
  split
  · rename_i h0; rw [h0.2]; exact normComps_skip isabs k ["."] [] (by simp)
  · by_cases hl : l = []
    · subst hl
      simpa using normComps_skip isabs k (List.replicate n "" ++ [""]) []
        fun x hx => .inl ((List.mem_append.1 hx).elim List.eq_of_mem_replicate List.eq_of_mem_singleton)
    · simp only [hl, if_false]
      exact normComps_skip isabs k _ l (by simp)

theorem initialSlashes_normpath (s : String) : initialSlashes (normpath s) = initialSlashes s := by
  rw [normpath_eq, initialSlashes_render _ _ (initialSlashes_le s) (comps_stackOf s)]

theorem stackOf_normpath (s : String) : stackOf (normpath s) = stackOf s := by
  have := normComps_splitSlash_render (initialSlashes s != 0) (initialSlashes s) [] _ (comps_stackOf s)
  simp only [List.nil_append] at this
  rw [stackOf, initialSlashes_normpath, normpath_eq, this]
  exact normComps_of_ok _ (normComps_ok _ _)

theorem isAbs_normpath (s : String) : isAbs (normpath s) = isAbs s := by
  rw [Bool.eq_iff_iff, isAbs_iff_initialSlashes, isAbs_iff_initialSlashes, initialSlashes_normpath]

/-! ### `joinPath`, and paths that `normpath` does not distinguish (`PEq`) -/

theorem endsSlash_split {a : String} (h : endsSlash a = true) : ∃ a', a.toList = a' ++ ['/'] := by
  unfold endsSlash at h
  exact List.getLast?_eq_some_iff.1 (by simpa using h)

theorem initialSlashes_joinPath (a b : String) (hb : isAbs b = false) :
    initialSlashes (joinPath a b) = initialSlashes a := by
  have hl : lead b.toList = 0 := by simpa [hb] using isAbs_iff_lead b
  unfold joinPath
  simp only [hb, Bool.false_eq_true, if_false]
  split
  · simp only [initialSlashes, String.toList_append, initC_eq, lead_append_of_lead_zero _ _ hl]
  · rename_i h
    simp only [not_or] at h
    have hne : a.toList ≠ [] := fun e => h.1 (String.toList_inj.1 (by simpa using e))
    have hlast : a.toList.getLast? ≠ some '/' := by simpa [endsSlash] using h.2
    simp only [initialSlashes, String.toList_append, initC_eq, List.append_assoc,
      lead_append_of_last _ _ hne hlast]

/-- a join with a relative path appends the components, up to a `""` that `normComps` skips -/
theorem normComps_splitSlash_joinPath (isabs : Bool) (a b : String) (hb : isAbs b = false) :
    normComps isabs (splitSlash (joinPath a b)) = normComps isabs (splitSlash a ++ splitSlash b) := by
  unfold joinPath
  simp only [hb, Bool.false_eq_true, if_false]
  split
  · rename_i h
    rcases h with h | h
    · subst h
      rw [show splitSlash "" = [""] by decide, show "" ++ b = b by simp]
      exact (normComps_skip isabs [] [""] _ (by simp)).symm
    · obtain ⟨a', ha'⟩ := endsSlash_split h
      have h1 : splitSlash (a ++ b) = (splitC a').map String.ofList ++ splitSlash b := by
        simp [splitSlash, ha', splitC_append_slash]
      have h2 : splitSlash a = (splitC a').map String.ofList ++ [""] := by
        simp [splitSlash, ha', splitC_append_slash, splitC]
      rw [h1, h2, List.append_assoc]
      exact (normComps_skip isabs _ [""] _ (by simp)).symm
  · rw [splitSlash_append_slash]

/-- two paths that `normpath` does not distinguish -/
def PEq (a a' : String) : Prop := initialSlashes a = initialSlashes a' ∧ stackOf a = stackOf a'

theorem PEq.normpath_congr {a a' : String} (h : PEq a a') : normpath a = normpath a' := by
  rw [normpath_eq a, normpath_eq a', h.1, h.2]

theorem PEq_normpath (a : String) : PEq (normpath a) a := ⟨initialSlashes_normpath a, stackOf_normpath a⟩

theorem stackOf_joinPath (a b : String) (hb : isAbs b = false) :
    stackOf (joinPath a b) = normComps (initialSlashes a != 0) (stackOf a ++ splitSlash b) := by
  simp only [stackOf, normComps_append, initialSlashes_joinPath a b hb]
  exact normComps_splitSlash_joinPath _ a b hb

theorem PEq.joinPath {a a' : String} (h : PEq a a') (b : String) : PEq (joinPath a b) (joinPath a' b) := by
  cases hb : isAbs b
  · exact ⟨by rw [initialSlashes_joinPath a b hb, initialSlashes_joinPath a' b hb, h.1],
      by rw [stackOf_joinPath a b hb, stackOf_joinPath a' b hb, h.1, h.2]⟩
  · simp only [Paths.joinPath, hb, if_true]; exact ⟨rfl, rfl⟩

theorem normpath_joinPath_normpath (a b : String) :
    normpath (joinPath (normpath a) b) = normpath (joinPath a b) :=
  ((PEq_normpath a).joinPath b).normpath_congr

theorem PEq_joinPath_dot (a : String) : PEq (joinPath a ".") a := by
  have hb : isAbs "." = false := by decide
  refine ⟨initialSlashes_joinPath a "." hb, ?_⟩
  rw [stackOf_joinPath a "." hb, show splitSlash "." = ["."] by decide, stackOf, normComps_append]
  simpa using normComps_skip (initialSlashes a != 0) (splitSlash a) ["."] [] (by simp)

theorem isAbs_joinPath (a b : String) (ha : isAbs a = true) : isAbs (joinPath a b) = true := by
  cases hb : isAbs b
  · rw [isAbs_iff_initialSlashes, initialSlashes_joinPath a b hb, ← isAbs_iff_initialSlashes]; exact ha
  · simp [joinPath, hb]

/-! ### abspath: absolute paths in normal form -/

theorem joinPath_of_isAbs (a : String) {b : String} (h : isAbs b = true) : joinPath a b = b := by
  simp [joinPath, h]

/-- `abspath` has no case split of its own: `joinPath` already returns an absolute second argument as it is -/
theorem abspath_eq (cwd s : String) : abspath cwd s = normpath (joinPath cwd s) := by
  cases h : isAbs s <;> simp [abspath, joinPath, h]

theorem abspath_of_isAbs (cwd s : String) (h : isAbs s = true) : abspath cwd s = normpath s := by
  rw [abspath_eq, joinPath_of_isAbs _ h]

theorem abspath_ne_empty (cwd s : String) : abspath cwd s ≠ "" := by
  rw [abspath_eq, normpath_eq]; exact render_ne_empty _ _

theorem clean_stackOf {s : String} (h : isAbs s = true) : ∀ x ∈ stackOf s, Clean x := by
  have := normComps_ok (initialSlashes s != 0) (splitSlash s)
  rw [bne_initialSlashes, h] at this
  intro x hx
  exact stackOK_abs_clean this x (by simpa [stackOf, bne_initialSlashes, h] using hx)

theorem pieces_render (n : Nat) (l : List String) (h : Comps l) (hn : n ≠ 0 ∨ l ≠ []) :
    pieces (render n l) = l := by
  have hl : ∀ a ∈ l, ¬a = "" := fun p hp => (h p hp).1
  rw [pieces, splitSlash_render n l h, if_neg (fun e => hn.elim (· e.1) (· e.2))]
  by_cases h0 : l = []
  · simp [h0, List.filter_append]
  · simpa [h0, List.filter_append] using hl

/-- an absolute path in normal form: what `abspath` returns -/
def AbsNormal (p : String) : Prop := isAbs p = true ∧ normpath p = p

theorem absNormal_normpath {s : String} (h : isAbs s = true) : AbsNormal (normpath s) :=
  ⟨by rw [isAbs_normpath, h], (PEq_normpath s).normpath_congr⟩

theorem absNormal_abspath (cwd s : String) (hc : isAbs cwd = true) : AbsNormal (abspath cwd s) := by
  rw [abspath_eq]; exact absNormal_normpath (isAbs_joinPath _ _ hc)

theorem AbsNormal.abspath {p : String} (h : AbsNormal p) (cwd : String) : abspath cwd p = p := by
  rw [abspath_of_isAbs _ _ h.1, h.2]

/-- the component list that `relpath` works on is the stack of `normpath` -/
theorem AbsNormal.pieces {p : String} (h : AbsNormal p) : pieces p = stackOf p := by
  conv => lhs; rw [← h.2, normpath_eq]
  exact pieces_render _ _ (comps_stackOf p) (.inl ((isAbs_iff_initialSlashes p).1 h.1))

theorem AbsNormal.clean {p : String} (h : AbsNormal p) : ∀ x ∈ Paths.pieces p, Clean x := by
  rw [h.pieces]; exact clean_stackOf h.1

theorem isAbs_abspath (cwd s : String) (hc : isAbs cwd = true) : isAbs (abspath cwd s) = true :=
  (absNormal_abspath cwd s hc).1

theorem abspath_abspath (cwd s : String) (hc : isAbs cwd = true) : abspath cwd (abspath cwd s) = abspath cwd s :=
  (absNormal_abspath cwd s hc).abspath cwd

/-! ### `relpath`: the relative component list and its text -/

theorem pieces_noslash (s : String) : ∀ x ∈ pieces s, '/' ∉ x.toList := by
  intro x hx
  exact noslash_of_mem_splitSlash (List.mem_filter.1 hx).1

theorem relComps_subset (start path : List String) : ∀ x ∈ relComps start path, x = ".." ∨ x ∈ path := by
  intro x hx
  simp only [relComps, List.mem_append, List.mem_replicate] at hx
  rcases hx with hx | hx
  · exact .inl hx.2
  · exact .inr (List.mem_of_mem_drop hx)

theorem comps_relComps (start : List String) {F : String} (hF : AbsNormal F) : Comps (relComps start (pieces F)) := by
  intro p hp
  rcases relComps_subset _ _ p hp with h | h
  · subst h; decide
  · exact ⟨(hF.clean p h).1, pieces_noslash _ p h⟩

/-- the last line of `posixpath.relpath` is the end of `normpath` with no slash in front -/
theorem relpath_last_line (rel : List String) (h : Comps rel) :
    (if rel = [] then "." else joinSlash rel) = render 0 rel := by
  have e : String.ofList (List.replicate 0 '/') ++ joinSlash rel = joinSlash rel := by simp
  unfold render; simp only [e]
  by_cases h0 : rel = []
  · subst h0; decide
  · have : joinSlash rel ≠ "" := fun e => h0 (joinC_eq_nil_of_comps rel h (by rw [← toList_joinSlash, e]; rfl))
    rw [if_neg h0, if_neg this]

end MhlModel.Paths
