/-
Lemmas for C11 (every written file validates against the published schemas).

Part 1: the generic fuel-driven matcher of MhlModel/XsdCore.lean, for an arbitrary schema.  Every lemma says "for every
fuel f ≥ K the matcher returns …" with an explicit K, so they compose without a fuel-monotonicity lemma: monotonicity
in fuel is FALSE for this matcher (`fuel_not_monotone` in MhlProps/C11.lean: `none` "ran out of fuel" and `none` "no
match" are the same value, and an optional particle turns the former into "skip").
Part 1b: the same without numbers.  The fuel an element needs beyond its own size is a function of its type, computed
from the table of the schema (`costOf`); where a block of children ends and the next particle begins is decided by the
element names of the sequence.  Both are asked of the table, once (`TableOk`), not of the document.
Part 1c: attributes written from optional values are valid if each value present is.  Part 2: `toString n` is an
xs:integer.  Part 3: the alphabetical order in which the writer puts the formats is the order of the schema.
-/
import MhlModel.XsdCore
import MhlProps.Proofs.ListLemmas

namespace MhlProps.C11
open MhlModel MhlModel.Xml MhlModel.Xsd MhlModel.Gen

/-! ## Part 1: the generic matcher -/

def EvValid (K : Nat) (sch : Schema) (ty : String) (e : Elem) : Prop :=
  ∀ f, K ≤ f → validElem f sch ty e = true

def EvPart (K : Nat) (sch : Schema) (p : Particle) (cs rest : List Elem) : Prop :=
  ∀ f, K ≤ f → matchParticle f sch p cs = some rest

def EvSeq (K : Nat) (sch : Schema) (ps : List Particle) (cs rest : List Elem) : Prop :=
  ∀ f, K ≤ f → matchSeq f sch ps cs = some rest

theorem EvValid.mono {K K' : Nat} {sch : Schema} {ty : String} {e : Elem} (h : EvValid K sch ty e) (hk : K ≤ K') :
    EvValid K' sch ty e := fun f hf => h f (Nat.le_trans hk hf)

theorem EvPart.mono {K K' : Nat} {sch : Schema} {p : Particle} {cs rest : List Elem}
    (h : EvPart K sch p cs rest) (hk : K ≤ K') : EvPart K' sch p cs rest := fun f hf => h f (Nat.le_trans hk hf)

theorem EvSeq.mono {K K' : Nat} {sch : Schema} {ps : List Particle} {cs rest : List Elem}
    (h : EvSeq K sch ps cs rest) (hk : K ≤ K') : EvSeq K' sch ps cs rest := fun f hf => h f (Nat.le_trans hk hf)

/-- the matcher's functions are defined by cases on the fuel -/
theorem forall_fuel_succ {K : Nat} {P : Nat → Prop} (h : ∀ f, K ≤ f → P (f + 1)) : ∀ f, K + 1 ≤ f → P f := by
  intro f hf
  obtain ⟨f', rfl⟩ : ∃ f', f = f' + 1 := ⟨f - 1, by omega⟩
  exact h f' (by omega)

def HeadNe (name : String) (cs : List Elem) : Prop := cs.head?.map Elem.tag ≠ some name

section
variable {K K1 : Nat} {sch : Schema} {name ty : String} {p : Particle} {ps : List Particle} {c e : Elem}
  {cs rest : List Elem}

theorem headNe_nil (name : String) : HeadNe name [] := by simp [HeadNe]

theorem headNe_cons (h : c.tag ≠ name) : HeadNe name (c :: cs) := by
  simpa [HeadNe] using h

/-- the `one` of an element particle -/
def oneElem (f : Nat) (sch : Schema) (name ty : String) : List Elem → Option (List Elem) :=
  fun cs => match cs with
    | c :: rest => if c.tag == name && validElem f sch ty c then some rest else none
    | [] => none

/-! ### one step of each function of the matcher, at fuel `f + 1` -/

theorem validElem_succ (f : Nat) (sch : Schema) (ty : String) (e : Elem) :
    validElem (f + 1) sch ty e =
      match lookupType sch ty with
      | some .any => true
      | some (.simple t) => e.children.isEmpty && e.attrs.isEmpty && validSimple t (e.text.getD "")
      | some (.simpleContent base attrs) =>
        e.children.isEmpty && validAttrs sch attrs e.attrs && validText sch base (e.text.getD "")
      | some (.complex p attrs) =>
        isBlank e.text && validAttrs sch attrs e.attrs &&
          match matchParticle f sch p e.children with
          | some [] => true
          | _ => false
      | none => e.children.isEmpty && e.attrs.isEmpty && validSimple (.base ty) (e.text.getD "") := by
  rw [validElem]; rfl

theorem matchParticle_elem (f : Nat) (sch : Schema) (name ty : String) (mn : Nat) (mx : Option Nat) (cs : List Elem) :
    matchParticle (f + 1) sch (.elem name ty mn mx) cs = matchRepeat f sch (oneElem f sch name ty) mn mx cs 0 := by
  rw [matchParticle]; rfl

theorem matchParticle_seq (f : Nat) (sch : Schema) (ps : List Particle) (mn : Nat) (mx : Option Nat) (cs : List Elem) :
    matchParticle (f + 1) sch (.seq ps mn mx) cs = matchRepeat f sch (fun cs => matchSeq f sch ps cs) mn mx cs 0 := by
  rw [matchParticle]

theorem matchParticle_choice (f : Nat) (sch : Schema) (ps : List Particle) (mn : Nat) (mx : Option Nat)
    (cs : List Elem) :
    matchParticle (f + 1) sch (.choice ps mn mx) cs =
      matchRepeat f sch (fun cs => matchChoice f sch ps cs) mn mx cs 0 := by
  rw [matchParticle]

theorem matchSeq_nil (f : Nat) (sch : Schema) (cs : List Elem) : matchSeq (f + 1) sch [] cs = some cs := by
  rw [matchSeq]

theorem matchSeq_cons (f : Nat) (sch : Schema) (p : Particle) (ps : List Particle) (cs : List Elem) :
    matchSeq (f + 1) sch (p :: ps) cs =
      match matchParticle f sch p cs with
      | some cs' => matchSeq f sch ps cs'
      | none => none := by
  rw [matchSeq]; rfl

theorem matchChoice_cons (f : Nat) (sch : Schema) (p : Particle) (ps : List Particle) (cs : List Elem) :
    matchChoice (f + 1) sch (p :: ps) cs =
      match matchParticle f sch p cs with
      | some cs' => if cs'.length < cs.length then some cs' else matchChoice f sch ps cs
      | none => matchChoice f sch ps cs := by
  rw [matchChoice]; rfl

/-! ### `matchRepeat`: a block of elements, each consumed by one iteration -/

/-- the local `atMax` of `matchRepeat`, under a name, so that its step can be stated for any `mx` -/
def atMax (mx : Option Nat) (done : Nat) : Bool :=
  match mx with
  | some m => decide (done ≥ m)
  | none => false

theorem atMax_false {mx : Option Nat} {done : Nat} (h : ∀ m, mx = some m → done < m) : atMax mx done = false := by
  cases mx with
  | none => rfl
  | some m => simpa [atMax] using h m rfl

theorem matchRepeat_succ (f : Nat) (sch : Schema) (one : List Elem → Option (List Elem)) (mn : Nat) (mx : Option Nat)
    (cs : List Elem) (done : Nat) :
    matchRepeat (f + 1) sch one mn mx cs done =
      if atMax mx done = true then some cs
      else
        match one cs with
        | some cs' =>
          if cs'.length < cs.length then matchRepeat f sch one mn mx cs' (done + 1)
          else if done + 1 ≥ mn then some cs' else matchRepeat f sch one mn mx cs' (done + 1)
        | none => if done ≥ mn then some cs else none := by
  cases mx <;> (rw [matchRepeat]; rfl)

theorem oneElem_hit {f : Nat} (rest : List Elem) (ht : c.tag = name)
    (hv : validElem f sch ty c = true) : oneElem f sch name ty (c :: rest) = some rest := by
  simp [oneElem, ht, hv]

theorem oneElem_miss {f : Nat} (h : HeadNe name cs) :
    oneElem f sch name ty cs = none := by
  cases cs with
  | nil => rfl
  | cons c rest =>
    have : c.tag ≠ name := by simpa [HeadNe] using h
    simp [oneElem, this]

theorem matchRepeat_once (f : Nat) (sch : Schema) (one : List Elem → Option (List Elem)) (mn : Nat)
    (cs rest : List Elem) (hmn : mn ≤ 1) (h1 : one cs = some rest) :
    matchRepeat (f + 2) sch one mn (some 1) cs 0 = some rest := by
  rw [matchRepeat_succ]
  simp only [h1, atMax]
  by_cases hlt : rest.length < cs.length
  · simp only [hlt, if_true]
    rw [matchRepeat_succ]; simp [atMax]
  · simp [hlt, hmn]

/-- a block `l` of elements each of which `one` consumes, not more than the maximum, is consumed; the repetition ends
after it because the maximum is reached, or because `one` fails on `rest` and the minimum is reached -/
theorem matchRepeat_block (sch : Schema) (one : List Elem → Option (List Elem)) (mn : Nat) (mx : Option Nat)
    (rest : List Elem) :
    ∀ (l : List Elem) (f done : Nat), (∀ c ∈ l, ∀ tl, one (c :: tl) = some tl) →
      (∀ m, mx = some m → done + l.length ≤ m) →
      (mx = some (done + l.length) ∨ (one rest = none ∧ mn ≤ done + l.length)) →
      l.length < f → matchRepeat f sch one mn mx (l ++ rest) done = some rest := by
  intro l
  induction l with
  | nil =>
    intro f done _ _ hstop hf
    obtain ⟨f', rfl⟩ : ∃ f', f = f' + 1 := ⟨f - 1, by simp at hf; omega⟩
    rw [List.nil_append, matchRepeat_succ]
    rcases hstop with h | ⟨h1, h2⟩
    · simp [h, atMax]
    · cases atMax mx done
      · simpa [h1] using h2
      · rfl
  | cons c l ih =>
    intro f done hone hmx hstop hf
    obtain ⟨f', rfl⟩ : ∃ f', f = f' + 1 := ⟨f - 1, by simp at hf; omega⟩
    have hnot : atMax mx done = false := atMax_false fun m hm => by have := hmx m hm; simp at this; omega
    have hlt : (l ++ rest).length < (c :: (l ++ rest)).length := by simp
    rw [List.cons_append, matchRepeat_succ]
    simp only [hnot, hone c (List.mem_cons_self ..) (l ++ rest), hlt, if_true, Bool.false_eq_true, if_false]
    refine ih f' (done + 1) (fun c' hc' => hone c' (List.mem_cons_of_mem _ hc')) ?_ ?_ (by simp at hf; omega)
    · intro m hm; have := hmx m hm; simp at this; omega
    · simpa [Nat.add_assoc, Nat.add_comm 1] using hstop

/-! ### element particles, sequences, choice -/

/-- an element particle takes a block of valid elements of its name, between `mn` and `mx` of them; what follows must
not begin with that name unless the maximum is reached.  All elements are checked with the same fuel, which must also
exceed their number. -/
theorem evPart_elem_block (mn : Nat) (mx : Option Nat) (l rest : List Elem)
    (hl : ∀ c ∈ l, c.tag = name ∧ EvValid K sch ty c) (hK : l.length < K) (hmn : mn ≤ l.length)
    (hmx : ∀ m, mx = some m → l.length ≤ m) (hrest : mx = some l.length ∨ HeadNe name rest) :
    EvPart (K + 1) sch (.elem name ty mn mx) (l ++ rest) rest := by
  refine forall_fuel_succ fun f' hf => ?_
  rw [matchParticle_elem]
  refine matchRepeat_block sch _ mn mx rest l f' 0 ?_ (by simpa using hmx) ?_ (by omega)
  · intro c hc tl
    exact oneElem_hit tl (hl c hc).1 ((hl c hc).2 _ (by omega))
  · rcases hrest with h | h
    · exact .inl (by simpa using h)
    · exact .inr ⟨oneElem_miss h, by simpa using hmn⟩

theorem evPart_elem_hit (mn : Nat) (rest : List Elem)
    (hmn : mn ≤ 1) (ht : c.tag = name) (hv : EvValid K sch ty c) :
    EvPart (K + 3) sch (.elem name ty mn (some 1)) (c :: rest) rest :=
  evPart_elem_block mn (some 1) [c] rest (K := K + 2) (by simpa using ⟨ht, hv.mono (by omega)⟩) (by simp) hmn (by simp)
    (.inl rfl)

theorem evPart_elem_skip (sch : Schema) (name ty : String) (mx : Option Nat) (h : HeadNe name cs) :
    EvPart 2 sch (.elem name ty 0 mx) cs cs :=
  evPart_elem_block (K := 1) 0 mx [] cs (by simp) (by simp) (Nat.le_refl _) (by simp) (.inr h)

theorem evSeq_nil : EvSeq (K + 1) sch [] cs cs := by
  refine forall_fuel_succ fun f' hf => ?_
  rw [matchSeq_nil]

theorem evSeq_cons 
    (mid : List Elem) (hp : EvPart K1 sch p cs mid) (hps : EvSeq K sch ps mid rest) (h : K1 ≤ K) :
    EvSeq (K + 1) sch (p :: ps) cs rest := by
  refine forall_fuel_succ fun f' hf => ?_
  rw [matchSeq_cons, hp f' (by omega)]
  exact hps f' (by omega)

/-- `<xs:sequence>` with the default occurrence 1..1 -/
theorem evPart_seq (h : EvSeq K sch ps cs rest) :
    EvPart (K + 3) sch (.seq ps 1 (some 1)) cs rest := by
  intro f hf
  obtain ⟨f', rfl⟩ : ∃ f', f = f' + 3 := ⟨f - 3, by omega⟩
  rw [matchParticle_seq]
  exact matchRepeat_once f' sch _ 1 cs rest (Nat.le_refl _) (h _ (by omega))

/-- A sequence of OPTIONAL single elements `names.map (· 0..1)` of one type accepts every block of valid elements whose
tags form a sub-list of `names` (same order, no repetition), provided what follows does not start with one of the
names. -/
theorem evSeq_optionals (sch : Schema) (ty : String) (rest : List Elem) :
    ∀ (names : List String), names.Nodup → (∀ n ∈ names, HeadNe n rest) →
    ∀ (es : List Elem), (es.map Elem.tag).Sublist names → (∀ e ∈ es, EvValid K sch ty e) →
      EvSeq (K + names.length + 3) sch (names.map fun n => .elem n ty 0 (some 1)) (es ++ rest) rest := by
  intro names
  induction names with
  | nil =>
    intro _ _ es hsub _
    have : es = [] := by simpa using hsub
    subst this
    exact evSeq_nil
  | cons n ns ih =>
    intro hnd hrest es hsub hval
    rw [List.nodup_cons] at hnd
    have hrest' : ∀ m ∈ ns, HeadNe m rest := fun m hm => hrest m (List.mem_cons_of_mem _ hm)
    rw [List.map_cons]
    cases es with
    | nil =>
      have h1 : EvPart 2 sch (.elem n ty 0 (some 1)) ([] ++ rest) ([] ++ rest) :=
        evPart_elem_skip sch n ty (some 1) (by simpa using hrest n (List.mem_cons_self ..))
      have h2 := ih hnd.2 hrest' [] (by simp) (by simp)
      exact (evSeq_cons _ h1 h2 (by omega)).mono (by simp; omega)
    | cons e es =>
      rw [List.map_cons] at hsub
      cases hsub with
      | cons _ hsub' =>
        -- `e` is not an `n`: skip the particle
        have hmem : e.tag ∈ ns := hsub'.subset (List.mem_cons_self ..)
        have hne : e.tag ≠ n := fun h => hnd.1 (h ▸ hmem)
        have h1 : EvPart 2 sch (.elem n ty 0 (some 1)) (e :: es ++ rest) (e :: es ++ rest) :=
          evPart_elem_skip sch n ty (some 1) (headNe_cons hne)
        have h2 := ih hnd.2 hrest' (e :: es) (by simpa using hsub') hval
        exact (evSeq_cons _ h1 h2 (by omega)).mono (by simp; omega)
      | cons_cons _ hsub' =>
        have h1 : EvPart (K + 3) sch (.elem e.tag ty 0 (some 1)) (e :: (es ++ rest)) (es ++ rest) :=
          evPart_elem_hit 0 _ (by omega) rfl (hval e (List.mem_cons_self ..))
        have h2 := ih hnd.2 hrest' es hsub' (fun e' he' => hval e' (List.mem_cons_of_mem _ he'))
        exact (evSeq_cons _ h1 h2 (by omega)).mono (by simp; omega)

/-- the `one` of `<xs:choice maxOccurs="unbounded">` over single elements: an element that is a valid instance of one
of the alternatives (first by name) is consumed -/
theorem matchChoice_hit (sch : Schema) (c : Elem) (tl : List Elem) :
    ∀ (alts : List (String × String)) (ty : String), alookup c.tag alts = some ty → EvValid K sch ty c →
    ∀ f, K + alts.length + 3 ≤ f →
      matchChoice f sch (alts.map fun a => .elem a.1 a.2 1 (some 1)) (c :: tl) = some tl := by
  intro alts
  induction alts with
  | nil => intro ty h; simp [alookup] at h
  | cons a alts ih =>
    intro ty hlook hv f hf
    obtain ⟨f', rfl⟩ : ∃ f', f = f' + 1 := ⟨f - 1, by omega⟩
    obtain ⟨n, t⟩ := a
    rw [List.map_cons, matchChoice_cons]
    by_cases hn : n = c.tag
    · have hty : t = ty := by simpa [alookup, hn] using hlook
      subst hty
      have := evPart_elem_hit (sch := sch) (name := n) 1 tl (Nat.le_refl _) hn.symm hv f' (by simp at hf; omega)
      simp [this]
    · have hlook' : alookup c.tag alts = some ty := by simpa [alookup, hn] using hlook
      have hmiss : matchParticle f' sch (.elem n t 1 (some 1)) (c :: tl) = none := by
        obtain ⟨f'', rfl⟩ : ∃ f'', f' = f'' + 2 := ⟨f' - 2, by simp at hf; omega⟩
        rw [matchParticle_elem, matchRepeat_succ]
        simp [oneElem_miss (headNe_cons (Ne.symm hn)), atMax]
      simp only [hmiss]
      exact ih ty hlook' hv f' (by simp at hf; omega)

theorem matchChoice_miss (sch : Schema) (rest : List Elem) :
    ∀ (alts : List (String × String)), (∀ a ∈ alts, HeadNe a.1 rest) → ∀ f : Nat,
      matchChoice f sch (alts.map fun a => .elem a.1 a.2 1 (some 1)) rest = none := by
  intro alts
  induction alts with
  | nil => intro _ f; cases f <;> simp [matchChoice]
  | cons a alts ih =>
    intro h f
    cases f with
    | zero => simp [matchChoice]
    | succ f =>
      rw [List.map_cons, matchChoice_cons]
      have hmiss : matchParticle f sch (.elem a.1 a.2 1 (some 1)) rest = none := by
        cases f with
        | zero => simp [matchParticle]
        | succ f =>
          rw [matchParticle_elem]
          cases f with
          | zero => simp [matchRepeat]
          | succ f => rw [matchRepeat_succ]; simp [oneElem_miss (h a (List.mem_cons_self ..)), atMax]
      simp only [hmiss]
      exact ih (fun a' ha' => h a' (List.mem_cons_of_mem _ ha')) f

/-- `<xs:choice minOccurs="1" maxOccurs="unbounded">` over single elements: a NON-EMPTY block of children each of which
is a valid instance of the alternative of its name, in front of children that begin with none of the names -/
theorem evPart_choice_many (sch : Schema) (alts : List (String × String)) (l rest : List Elem)
    (hl : ∀ c ∈ l, ∃ ty, alookup c.tag alts = some ty ∧ EvValid K sch ty c) (hK : l.length < K) (hne : l ≠ [])
    (hrest : ∀ a ∈ alts, HeadNe a.1 rest) :
    EvPart (K + alts.length + 4) sch (.choice (alts.map fun a => .elem a.1 a.2 1 (some 1)) 1 none) (l ++ rest) rest := by
  refine forall_fuel_succ fun f' hf => ?_
  rw [matchParticle_choice]
  refine matchRepeat_block sch (fun cs => matchChoice f' sch (alts.map fun a => .elem a.1 a.2 1 (some 1)) cs) 1 none rest
    l f' 0 ?_ (by simp) (.inr ⟨matchChoice_miss sch rest alts hrest f', ?_⟩) (by omega)
  · intro c hc tl
    obtain ⟨ty, h1, h2⟩ := hl c hc
    exact matchChoice_hit sch c tl alts ty h1 h2 f' (by omega)
  · cases l with
    | nil => exact absurd rfl hne
    | cons _ _ => simp

/-! ### looking a type up; the four kinds of type -/

theorem alookup_mem {α : Type} {k : String} {v : α} : ∀ (l : List (String × α)), alookup k l = some v → (k, v) ∈ l := by
  intro l
  induction l with
  | nil => intro h; cases h
  | cons a l ih =>
    obtain ⟨k', v'⟩ := a
    intro h
    by_cases hk : k' = k
    · obtain rfl : v' = v := by simpa [alookup, hk] using h
      exact hk ▸ List.mem_cons_self ..
    · exact List.mem_cons_of_mem _ (ih (by simpa [alookup, hk] using h))

theorem alookup_of_getElem? {α : Type} {k : String} {v : α} :
    ∀ (l : List (String × α)) (i : Nat), (l.map Prod.fst).Nodup → l[i]? = some (k, v) → alookup k l = some v := by
  intro l
  induction l with
  | nil => intro i _ h; simp at h
  | cons a l ih =>
    intro i hnd h
    obtain ⟨k', v'⟩ := a
    rw [List.map_cons, List.nodup_cons] at hnd
    cases i with
    | zero =>
      obtain ⟨rfl, rfl⟩ : k' = k ∧ v' = v := by simpa using h
      simp [alookup]
    | succ i =>
      have hmem : k ∈ l.map Prod.fst := List.mem_map.2 ⟨(k, v), List.mem_of_getElem? h, rfl⟩
      have hne : k' ≠ k := fun e => hnd.1 (e ▸ hmem)
      simpa [alookup, hne] using ih i hnd.2 h

theorem alookup_of_not_mem {α : Type} {k : String} :
    ∀ (l : List (String × α)), k ∉ l.map Prod.fst → alookup k l = none := by
  intro l
  induction l with
  | nil => intro _; rfl
  | cons a l ih =>
    intro h
    rw [List.map_cons, List.mem_cons, not_or] at h
    simpa [alookup, Ne.symm h.1] using ih h.2

/-- In a schema whose type names are pairwise distinct a type is found at the place where it stands.  (Finding it by
`rfl` makes the elaborator compare the name with every name before it, which is slow; so the names are compared once,
by the kernel, in the proof of `hnd`.) -/
theorem lookupType_of_getElem? (hnd : (sch.types.map Prod.fst).Nodup) (i : Nat) {n : String}
    {t : TypeDef} (h : sch.types[i]? = some (n, t)) : lookupType sch n = some t :=
  alookup_of_getElem? sch.types i hnd h

theorem lookupType_of_not_mem {n : String} (h : n ∉ sch.types.map Prod.fst) : lookupType sch n = none :=
  alookup_of_not_mem sch.types h

theorem evValid_complex {attrs : List AttrDecl}
    (hl : lookupType sch ty = some (.complex p attrs)) (ht : isBlank e.text = true)
    (ha : validAttrs sch attrs e.attrs = true) (hp : EvPart K sch p e.children []) : EvValid (K + 1) sch ty e := by
  refine forall_fuel_succ fun f' hf => ?_
  rw [validElem_succ, hl]
  simp [ht, ha, hp f' (by omega)]

theorem evValid_simpleContent {base : String} {attrs : List AttrDecl}
    (hl : lookupType sch ty = some (.simpleContent base attrs)) (hc : e.children = [])
    (ha : validAttrs sch attrs e.attrs = true) (ht : validText sch base (e.text.getD "") = true) :
    EvValid 1 sch ty e := by
  refine forall_fuel_succ fun f' hf => ?_
  rw [validElem_succ, hl]
  simp [hc, ha, ht]

theorem evValid_simple {t : SimpleType}
    (hl : lookupType sch ty = some (.simple t)) (hc : e.children = []) (ha : e.attrs = [])
    (ht : validSimple t (e.text.getD "") = true) : EvValid 1 sch ty e := by
  refine forall_fuel_succ fun f' hf => ?_
  rw [validElem_succ, hl]
  simp [hc, ha, ht]

theorem evValid_builtin 
    (hl : lookupType sch ty = none) (hc : e.children = []) (ha : e.attrs = [])
    (ht : validSimple (.base ty) (e.text.getD "") = true) : EvValid 1 sch ty e := by
  refine forall_fuel_succ fun f' hf => ?_
  rw [validElem_succ, hl]
  simp [hc, ha, ht]

/-! ### the size of a tree -/

theorem sizeList_append (a b : List Elem) : Elem.size.sizeList (a ++ b) = Elem.size.sizeList a + Elem.size.sizeList b := by
  induction a with
  | nil => simp [Elem.size.sizeList]
  | cons c cs ih => simp [Elem.size.sizeList, ih]; omega

theorem size_pos (e : Elem) : 1 ≤ Elem.size e := by
  cases e; simp [Elem.size]

theorem length_le_sizeList (l : List Elem) : l.length ≤ Elem.size.sizeList l := by
  induction l with
  | nil => simp
  | cons c cs ih => have := size_pos c; simp [Elem.size.sizeList]; omega

theorem size_le_sizeList {l : List Elem} (h : c ∈ l) : Elem.size c ≤ Elem.size.sizeList l := by
  induction l with
  | nil => cases h
  | cons d ds ih =>
    rcases List.mem_cons.1 h with rfl | h
    · simp [Elem.size.sizeList]
    · have := ih h; simp [Elem.size.sizeList]; omega

end

/-! ## Part 1b: fuel and names as functions of the schema -/

mutual
/-- the fuel `p` needs beyond the size of the block it takes, if an element of type `ty` needs `cost ty` beyond its own
size: `evPart_elem_block`, `evSeq_cons` and `evPart_seq`, `evPart_choice_many` read as a recursion over `p` -/
def pcost (cost : String → Nat) : Particle → Nat
  | .elem _ ty _ _ => cost ty + 3
  | .seq ps _ _ => pcosts cost ps + ps.length + 4
  | .choice ps _ _ => pcosts cost ps + ps.length + 4
def pcosts (cost : String → Nat) : List Particle → Nat
  | [] => 0
  | p :: ps => max (pcost cost p) (pcosts cost ps)
end

/-- the cost of a type, looking `n` types deep -/
def typeCost (sch : Schema) : Nat → String → Nat
  | 0, _ => 0
  | n + 1, ty =>
    match lookupType sch ty with
    | some (.complex p _) => pcost (typeCost sch n) p
    | _ => 0

/-- the fuel an element of type `ty` needs beyond its own size -/
def costOf (sch : Schema) : String → Nat := typeCost sch sch.types.length

mutual
/-- the element names a particle can match -/
def names : Particle → List String
  | .elem n _ _ _ => [n]
  | .seq ps _ _ => namesOf ps
  | .choice ps _ _ => namesOf ps
def namesOf : List Particle → List String
  | [] => []
  | p :: ps => names p ++ namesOf ps
end

def Valid (sch : Schema) (ty : String) (e : Elem) : Prop := EvValid (Elem.size e + costOf sch ty) sch ty e

/-- `p` takes the block `b`: its elements carry names of `p`, and `p` consumes it in front of any `rest` that begins
with none of these names, from the size of the block plus the cost of `p` on -/
def Takes (sch : Schema) (p : Particle) (b : List Elem) : Prop :=
  (∀ c ∈ b, c.tag ∈ names p) ∧
  ∀ rest, (∀ n ∈ names p, HeadNe n rest) →
    EvPart (Elem.size.sizeList b + pcost (costOf sch) p) sch p (b ++ rest) rest

inductive TakesSeq (sch : Schema) : List Particle → List Elem → Prop
  | nil : TakesSeq sch [] []
  | cons {p : Particle} {ps : List Particle} {b bs : List Elem} :
    Takes sch p b → TakesSeq sch ps bs → TakesSeq sch (p :: ps) (b ++ bs)

/-- what the lemmas below ask of the table of a schema; one evaluation answers it (`tableOk`) -/
structure TableOk (sch : Schema) : Prop where
  /-- the cost of a complex type covers its content model (true when no type contains itself: `typeCost` has then
  stopped growing) -/
  ranked : ∀ ty p attrs, lookupType sch ty = some (.complex p attrs) → pcost (costOf sch) p ≤ costOf sch ty
  /-- the element names of a sequence are pairwise different -/
  distinct : ∀ ty ps mn mx attrs, lookupType sch ty = some (.complex (.seq ps mn mx) attrs) → (namesOf ps).Nodup
  /-- `validate` supplies `8 * size + 64` -/
  root : costOf sch sch.rootType ≤ 64

def tableOk (sch : Schema) : Bool :=
  sch.types.all (fun x =>
    match x.2 with
    | .complex p _ => decide (pcost (costOf sch) p ≤ costOf sch x.1) &&
        (match p with
         | .seq ps _ _ => decide (namesOf ps).Nodup
         | _ => true)
    | _ => true) &&
  decide (costOf sch sch.rootType ≤ 64)

section
variable {K : Nat} {sch : Schema} {name ty : String} {p : Particle} {ps : List Particle} {c e : Elem}
  {b bs l rest : List Elem}

theorem tableOk_spec (h : tableOk sch = true) : TableOk sch := by
  rw [tableOk, Bool.and_eq_true, List.all_eq_true] at h
  refine ⟨fun ty p attrs hl => ?_, fun ty ps mn mx attrs hl => ?_, by simpa using h.2⟩
  · have := h.1 _ (alookup_mem _ hl)
    simp only [Bool.and_eq_true, decide_eq_true_eq] at this
    exact this.1
  · have := h.1 _ (alookup_mem _ hl)
    simp only [Bool.and_eq_true, decide_eq_true_eq] at this
    exact this.2

theorem size_eq (e : Elem) : Elem.size e = 1 + Elem.size.sizeList e.children := by
  cases e; simp [Elem.size, Elem.children]

theorem EvValid.valid (h : EvValid 1 sch ty e) : Valid sch ty e :=
  h.mono (by have := size_pos e; omega)

theorem validate_of_valid (hs : TableOk sch) (ht : e.tag = sch.rootName) (hv : Valid sch sch.rootType e) :
    validate sch e = true := by
  rw [validate, hv _ (by have := hs.root; omega), ht, beq_self_eq_true]
  rfl

/-- the one place where the cost of a type is used -/
theorem Valid.complex {attrs : List AttrDecl} (hs : TableOk sch) (hl : lookupType sch ty = some (.complex p attrs))
    (ht : isBlank e.text = true) (ha : validAttrs sch attrs e.attrs = true) (hc : e.children = b) (hp : Takes sch p b) :
    Valid sch ty e := by
  subst hc
  have h := hp.2 [] fun n _ => headNe_nil n
  rw [List.append_nil] at h
  exact (evValid_complex hl ht ha h).mono (by have := hs.ranked ty p attrs hl; have := size_eq e; omega)

theorem takes_elems (mn : Nat) (mx : Option Nat) (l : List Elem) (hl : ∀ c ∈ l, c.tag = name ∧ Valid sch ty c)
    (hmn : mn ≤ l.length) (hmx : ∀ m, mx = some m → l.length ≤ m) : Takes sch (.elem name ty mn mx) l := by
  refine ⟨fun c hc => by simp [names, (hl c hc).1], fun rest hrest => ?_⟩
  have h1 := length_le_sizeList l
  -- every element of the block is checked with the same fuel, which must also exceed their number
  refine (evPart_elem_block (K := Elem.size.sizeList l + costOf sch ty + 1) mn mx l rest ?_ (by omega) hmn hmx
    (.inr (hrest name (by simp [names])))).mono (by simp only [pcost]; omega)
  intro c hc
  exact ⟨(hl c hc).1, (hl c hc).2.mono (by have := size_le_sizeList hc; omega)⟩

theorem takes_one {mn : Nat} (hmn : mn ≤ 1) (ht : c.tag = name) (hv : Valid sch ty c) :
    Takes sch (.elem name ty mn (some 1)) [c] :=
  takes_elems mn (some 1) [c] (by simpa using ⟨ht, hv⟩) hmn (by simp)

theorem takes_none {mx : Option Nat} : Takes sch (.elem name ty 0 mx) [] :=
  takes_elems 0 mx [] (by simp) (Nat.le_refl 0) (by simp)

/-- an element that is written only for a non-empty list -/
theorem takes_ifNonempty {α : Type} {xs : List α} (ht : c.tag = name) (hv : xs ≠ [] → Valid sch ty c) :
    Takes sch (.elem name ty 0 (some 1)) (if xs.isEmpty then [] else [c]) := by
  cases xs with
  | nil => exact takes_none
  | cons a l => exact takes_one (Nat.zero_le 1) ht (hv (by simp))

theorem namesOf_map_elem (alts : List (String × String)) (mn : Nat) (mx : Option Nat) :
    namesOf (alts.map fun a => .elem a.1 a.2 mn mx) = alts.map (·.1) := by
  induction alts with
  | nil => rfl
  | cons a alts ih => rw [List.map_cons, namesOf, ih]; rfl

theorem pcost_le_pcosts (cost : String → Nat) : ∀ {ps : List Particle}, p ∈ ps → pcost cost p ≤ pcosts cost ps := by
  intro ps
  induction ps with
  | nil => intro h; cases h
  | cons q ps ih =>
    intro h
    rw [pcosts]
    rcases List.mem_cons.1 h with rfl | h
    · exact Nat.le_max_left ..
    · exact Nat.le_trans (ih h) (Nat.le_max_right ..)

theorem takes_choice (alts : List (String × String)) (l : List Elem)
    (hl : ∀ c ∈ l, ∃ ty, alookup c.tag alts = some ty ∧ Valid sch ty c) (hne : l ≠ []) :
    Takes sch (.choice (alts.map fun a => .elem a.1 a.2 1 (some 1)) 1 none) l := by
  have hmem : ∀ c ∈ l, ∀ ty, alookup c.tag alts = some ty → c.tag ∈ alts.map (·.1) ∧
      costOf sch ty + 3 ≤ pcosts (costOf sch) (alts.map fun a => .elem a.1 a.2 1 (some 1)) := fun c _ ty h =>
    ⟨List.mem_map.2 ⟨_, alookup_mem _ h, rfl⟩,
      pcost_le_pcosts (costOf sch) (p := .elem c.tag ty 1 (some 1)) (List.mem_map.2 ⟨_, alookup_mem _ h, rfl⟩)⟩
  refine ⟨fun c hc => ?_, fun rest hrest => ?_⟩
  · obtain ⟨ty, h, _⟩ := hl c hc
    rw [names, namesOf_map_elem]
    exact (hmem c hc ty h).1
  · rw [names, namesOf_map_elem] at hrest
    have h1 := length_le_sizeList l
    obtain ⟨c0, hc0⟩ := List.exists_mem_of_ne_nil l hne
    obtain ⟨ty0, h0, _⟩ := hl c0 hc0
    have h3 := (hmem c0 hc0 ty0 h0).2
    refine (evPart_choice_many (K := Elem.size.sizeList l +
        pcosts (costOf sch) (alts.map fun a => .elem a.1 a.2 1 (some 1))) sch alts l rest ?_ (by omega) hne
      (fun a ha => hrest a.1 (List.mem_map.2 ⟨a, ha, rfl⟩))).mono (by simp only [pcost, List.length_map]; omega)
    intro c hc
    obtain ⟨ty, h, hv⟩ := hl c hc
    exact ⟨ty, h, hv.mono (by have := size_le_sizeList hc; have := (hmem c hc ty h).2; omega)⟩

theorem headNe_append {n : String} {F : List Elem} (hF : ∀ c ∈ F, c.tag ≠ n) (hr : HeadNe n rest) :
    HeadNe n (F ++ rest) := by
  cases F with
  | nil => exact hr
  | cons c F => exact headNe_cons (hF c (List.mem_cons_self ..))

theorem TakesSeq.tags (h : TakesSeq sch ps b) : ∀ c ∈ b, c.tag ∈ namesOf ps := by
  induction h with
  | nil => intro c hc; cases hc
  | cons hp _ ih =>
    intro c hc
    rw [namesOf, List.mem_append]
    exact (List.mem_append.1 hc).imp (hp.1 c) (ih c)

/-- the names being pairwise different, the blocks that follow a particle begin with none of its names -/
theorem TakesSeq.evSeq (h : TakesSeq sch ps b) :
    (namesOf ps).Nodup → ∀ rest, (∀ n ∈ namesOf ps, HeadNe n rest) →
      EvSeq (Elem.size.sizeList b + pcosts (costOf sch) ps + ps.length + 1) sch ps (b ++ rest) rest := by
  induction h with
  | nil => intro _ rest _; exact evSeq_nil
  | @cons p ps b bs hp hps ih =>
    intro hnd rest hrest
    rw [namesOf] at hnd hrest
    obtain ⟨_, hnd', hdis⟩ := List.nodup_append.1 hnd
    have h1 := hp.2 (bs ++ rest) fun n hn =>
      headNe_append (fun c hc e => hdis n hn _ (hps.tags c hc) e.symm) (hrest n (List.mem_append_left _ hn))
    have h2 := ih hnd' rest fun n hn => hrest n (List.mem_append_right _ hn)
    rw [List.append_assoc]
    have hsz := sizeList_append b bs
    refine (evSeq_cons (K := Elem.size.sizeList (b ++ bs) + pcosts (costOf sch) (p :: ps) + ps.length + 1)
      _ h1 (h2.mono ?_) ?_).mono ?_ <;> simp only [pcosts, List.length_cons] <;> omega

/-- a sequence that is known to consume a block with a bound of its own -/
theorem takes_seq_of_evSeq (htag : ∀ c ∈ b, c.tag ∈ namesOf ps)
    (h : ∀ rest, (∀ n ∈ namesOf ps, HeadNe n rest) → EvSeq (Elem.size.sizeList b + K) sch ps (b ++ rest) rest)
    (hK : K ≤ pcosts (costOf sch) ps + ps.length + 1) : Takes sch (.seq ps 1 (some 1)) b :=
  ⟨htag, fun rest hrest => (evPart_seq (h rest hrest)).mono (by simp only [pcost]; omega)⟩

/-- `<xs:sequence>` over pairwise different names takes the blocks of its particles, one after the other -/
theorem takes_seq (h : TakesSeq sch ps b) (hnd : (namesOf ps).Nodup) : Takes sch (.seq ps 1 (some 1)) b :=
  takes_seq_of_evSeq h.tags (fun rest hrest => (h.evSeq hnd rest hrest).mono (by omega)) (Nat.le_refl _)

theorem TakesSeq.one (ht : c.tag = name) (hv : Valid sch ty c) (h : TakesSeq sch ps bs) :
    TakesSeq sch (.elem name ty 1 (some 1) :: ps) (c :: bs) :=
  .cons (takes_one (Nat.le_refl 1) ht hv) h

theorem TakesSeq.last (h : Takes sch p b) : TakesSeq sch [p] b :=
  List.append_nil b ▸ .cons h .nil

theorem Valid.seq {attrs : List AttrDecl} (hs : TableOk sch) (hl : lookupType sch ty = some (.complex (.seq ps 1 (some 1)) attrs))
    (ht : isBlank e.text = true) (ha : validAttrs sch attrs e.attrs = true) (hc : e.children = b)
    (hp : TakesSeq sch ps b) : Valid sch ty e :=
  .complex hs hl ht ha hc (takes_seq hp (hs.distinct _ _ _ _ _ hl))

/-- a type whose content is `name+` (one or more elements of one type, nothing else, no attributes) -/
theorem Valid.many {α : Type} {tag ety : String} (xs : List α) (f : α → Elem) (hs : TableOk sch)
    (hl : lookupType sch ty = some (.complex (.seq [.elem name ety 1 none] 1 (some 1)) [])) (hne : xs ≠ [])
    (hv : ∀ x ∈ xs, (f x).tag = name ∧ Valid sch ety (f x)) : Valid sch ty (.mk tag [] none (xs.map f)) :=
  .seq hs hl rfl rfl rfl (.last (takes_elems 1 none (xs.map f) (List.forall_mem_map.2 hv)
    (by cases xs with
      | nil => exact absurd rfl hne
      | cons _ _ => simp) (by simp)))

end

/-! ## Part 1c: attributes written from optional values -/

theorem eraseDups_of_nodup {α : Type} [BEq α] [LawfulBEq α] : ∀ (l : List α), l.Nodup → l.eraseDups = l := by
  intro l
  induction l with
  | nil => intro _; rfl
  | cons a as ih =>
    intro h
    rw [List.nodup_cons] at h
    have hf : as.filter (fun b => !b == a) = as :=
      List.filter_eq_self.2 fun b hb => by
        have : b ≠ a := fun e => h.1 (e ▸ hb)
        simpa using this
    rw [List.eraseDups_cons, hf, ih h.2]

/-- the attributes written from a list of (name, optional value); unfolds to `optAttr k1 v1 ++ optAttr k2 v2 ++ …`
(left-nested, as the builders of MhlModel/Xml.lean write it) -/
def optAttrs (kvs : List (String × Option String)) : List (String × String) :=
  kvs.foldl (fun acc kv => acc ++ optAttr kv.1 kv.2) []

theorem optAttrs_eq_flatMap (kvs : List (String × Option String)) :
    optAttrs kvs = kvs.flatMap fun kv => optAttr kv.1 kv.2 := List.flatMap_eq_foldl.symm

def attrOk (sch : Schema) (decls : List AttrDecl) (k v : String) : Bool :=
  match decls.find? (fun d => d.name == k) with
  | some d => validText sch d.type v && (match d.fixed with | some f => f == v | none => true)
  | none => false

/-- with this and `attrOk_cons_self`, `simp` evaluates `attrOk sch [⟨"a", …⟩, ⟨"b", …⟩, …] "b" v` to `validText sch tyb v`
comparing names only (looking the declaration up by `rfl` or `decide` is far slower) -/
theorem attrOk_cons_ne {sch : Schema} {n ty : String} {r : Bool} {f : Option String} {ds : List AttrDecl}
    {k v : String} (h : n ≠ k) : attrOk sch (⟨n, ty, r, f⟩ :: ds) k v = attrOk sch ds k v := by
  have hb : (n == k) = false := by simpa using h
  simp [attrOk, List.find?, hb]

theorem attrOk_cons_self {sch : Schema} {k ty : String} {r : Bool} {ds : List AttrDecl} {v : String} :
    attrOk sch (⟨k, ty, r, none⟩ :: ds) k v = validText sch ty v := by
  simp [attrOk, List.find?]

theorem validAttrs_of_nodup {sch : Schema} {decls : List AttrDecl} (attrs : List (String × String))
    (hnd : (attrs.map (·.1)).Nodup) (hreq : decls.all (fun d => !d.required) = true)
    (h : ∀ kv ∈ attrs, attrOk sch decls kv.1 kv.2 = true) : validAttrs sch decls attrs = true := by
  unfold validAttrs
  rw [eraseDups_of_nodup _ hnd, List.length_map, beq_self_eq_true, Bool.and_true, Bool.and_eq_true]
  refine ⟨List.all_eq_true.2 fun kv hkv => h kv hkv, List.all_eq_true.2 fun d hd => ?_⟩
  rw [List.all_eq_true.1 hreq d hd, Bool.true_or]

theorem optAttrs_keys_sublist (kvs : List (String × Option String)) :
    ((optAttrs kvs).map (·.1)).Sublist (kvs.map (·.1)) := by
  rw [optAttrs_eq_flatMap]
  induction kvs with
  | nil => exact List.Sublist.slnil
  | cons kv kvs ih =>
    obtain ⟨k, o⟩ := kv
    cases o with
    | none => exact List.Sublist.cons _ ih
    | some v => exact List.Sublist.cons_cons _ ih

/-- one obligation per optional attribute, not one per set of attributes present -/
theorem validAttrs_optAttrs {sch : Schema} {decls : List AttrDecl} (kvs : List (String × Option String))
    (hnd : (kvs.map (·.1)).Nodup) (hreq : decls.all (fun d => !d.required) = true)
    (h : ∀ kv ∈ kvs, ∀ v, kv.2 = some v → attrOk sch decls kv.1 v = true) :
    validAttrs sch decls (optAttrs kvs) = true := by
  refine validAttrs_of_nodup _ (List.Nodup.sublist (optAttrs_keys_sublist kvs) hnd) hreq ?_
  rw [optAttrs_eq_flatMap]
  intro a ha
  obtain ⟨⟨k, o⟩, hkv, hm⟩ := List.mem_flatMap.1 ha
  cases o with
  | none => cases hm
  | some v =>
    obtain rfl : a = (k, v) := by simpa [optAttr] using hm
    exact h _ hkv v rfl

/-! ## Part 2: `toString n` is an xs:integer -/

theorem isDigitC_of_isDigit {c : Char} (h : c.isDigit = true) : isDigitC c = true := by
  simp [Char.isDigit] at h
  simp [isDigitC, Char.le_def, h]

theorem isInteger_toString (n : Nat) : isInteger (toString n) = true := by
  have hl : (toString n).toList = Nat.toDigits 10 n := by simp
  have hd : ∀ c ∈ Nat.toDigits 10 n, isDigitC c = true := fun c hc =>
    isDigitC_of_isDigit (Nat.isDigit_of_mem_toDigits (by omega) (by omega) hc)
  have hne : Nat.toDigits 10 n ≠ [] := Nat.toDigits_ne_nil
  unfold isInteger
  rw [hl]
  cases hds : Nat.toDigits 10 n with
  | nil => exact absurd hds hne
  | cons c cs =>
    rw [hds] at hd
    have hc := hd c (List.mem_cons_self ..)
    have hp : c ≠ '+' := by rintro rfl; simp [isDigitC] at hc
    have hm : c ≠ '-' := by rintro rfl; simp [isDigitC] at hc
    have hall : (c :: cs).all isDigitC = true := List.all_eq_true.2 hd
    dsimp only
    split
    · next h => cases h; exact absurd rfl hp
    · next h => cases h; exact absurd rfl hm
    · simp [hall]

/-! ## Part 3: the alphabetical order of the writer is the order of the schema -/

/-- the order the schemas list the format elements in -/
def fmtOrder : List String := ["c4", "md5", "sha1", "xxh128", "xxh3", "xxh64"]

theorem fmtOrder_sorted : fmtOrder.Pairwise (· < ·) := by decide

/-- walk `L`: equal heads are taken; otherwise the head of `L` is below everything in `l` and is dropped -/
theorem sublist_of_pairwise_lt : ∀ (L l : List String), l.Pairwise (· < ·) → L.Pairwise (· < ·) → (∀ x ∈ l, x ∈ L) →
    l.Sublist L := by
  intro L
  induction L with
  | nil =>
    intro l _ _ hsub
    cases l with
    | nil => exact List.Sublist.slnil
    | cons a _ => exact absurd (hsub a (List.mem_cons_self ..)) (by simp)
  | cons b L ih =>
    intro l hl hL hsub
    cases l with
    | nil => exact List.nil_sublist _
    | cons a l =>
      rw [List.pairwise_cons] at hl hL
      by_cases hab : a = b
      · subst hab
        refine List.Sublist.cons_cons _ (ih l hl.2 hL.2 ?_)
        intro x hx
        rcases List.mem_cons.1 (hsub x (List.mem_cons_of_mem _ hx)) with rfl | h
        · exact absurd (hl.1 x hx) (String.lt_irrefl _)
        · exact h
      · have haL : a ∈ L := by
          rcases List.mem_cons.1 (hsub a (List.mem_cons_self ..)) with h | h
          · exact absurd h hab
          · exact h
        have hba : b < a := hL.1 a haL
        refine List.Sublist.cons _ (ih (a :: l) (List.pairwise_cons.2 hl) hL.2 ?_)
        intro x hx
        have hbx : b < x := by
          rcases List.mem_cons.1 hx with rfl | h
          · exact hba
          · exact String.lt_trans hba (hl.1 x h)
        rcases List.mem_cons.1 (hsub x hx) with rfl | h
        · exact absurd hbx (String.lt_irrefl _)
        · exact h

theorem sorted_formats_sublist (es : List XEntry) (hnd : (es.map (·.fmt)).Nodup)
    (hsup : ∀ e ∈ es, e.fmt ∈ fmtOrder) :
    ((isort (fun a b => strLe a.fmt b.fmt) es).map (·.fmt)).Sublist fmtOrder := by
  have hperm := isort_perm (fun a b : XEntry => strLe a.fmt b.fmt) es
  have hs := isort_key_sorted (fun e : XEntry => e.fmt) es
  have hnd' : ((isort (fun a b => strLe a.fmt b.fmt) es).map (·.fmt)).Nodup :=
    (hperm.map _).nodup_iff.2 hnd
  refine sublist_of_pairwise_lt fmtOrder _ ?_ fmtOrder_sorted ?_
  · rw [List.pairwise_map]
    rw [List.nodup_iff_pairwise_ne, List.pairwise_map] at hnd'  
    refine (hs.and hnd').imp ?_
    intro a b ⟨h1, h2⟩
    exact Std.lt_of_le_of_ne (by simpa [strLe] using h1) h2
  · intro x hx
    obtain ⟨e, he, rfl⟩ := List.mem_map.1 hx
    exact hsup e (hperm.mem_iff.1 he)

end MhlProps.C11
