/- Lemmas about `MhlModel.Time` (C16): normal forms of `fromTimestamp`; what `mktime` returns when its first or its
second guess of the offset is right (any zone), hence wherever one transition is within reach of its probes; the
character-level shape of `offsetText`/`pad2`; decimal rendering of sizes. -/
import MhlModel.Time

namespace MhlModel.Time

theorem fromTimestamp_secs (z : Zone) (t : Int) : (fromTimestamp z t).secs = t + z t := by
  unfold fromTimestamp localSecs
  by_cases h : t + z t - (t - 86400 + z (t - 86400)) - 86400 < 0
  · simp only [h, if_true]
  · simp only [h, if_false]

/-- the fold bit of `fromtimestamp(t)` in ANY zone: the offset dropped during the last 24 h by `d`, and the offset
at `t - d` is the one of 24 h ago -/
theorem fromTimestamp_fold (z : Zone) (t : Int) : (fromTimestamp z t).fold = true ↔
    (z t < z (t - 86400) ∧ z (t + (z t - z (t - 86400))) = z (t - 86400)) := by
  have e : t + z t - (t - 86400 + z (t - 86400)) - 86400 = z t - z (t - 86400) := by omega
  unfold fromTimestamp localSecs
  simp only [e]
  by_cases h : z t - z (t - 86400) < 0
  · simp only [h, if_true, beq_iff_eq]; omega
  · simp only [h, if_false]; simp only [Bool.false_eq_true, false_iff]; omega

theorem fromTimestamp_eta (z : Zone) (t : Int) :
    fromTimestamp z t = ⟨t + z t, (fromTimestamp z t).fold⟩ := by
  rw [← fromTimestamp_secs]

theorem fromTimestamp_fold_const (c t : Int) : (fromTimestamp (fun _ => c) t).fold = false := by
  have h := fromTimestamp_fold (fun _ => c) t
  cases hf : (fromTimestamp (fun _ => c) t).fold
  · rfl
  · rw [hf] at h; simp only [true_iff] at h; omega

/-- value of a one-transition zone, as a disjunction `omega` can use -/
theorem oneTransition_cases (T a b x : Int) :
    oneTransition T a b x = a ∧ x < T ∨ oneTransition T a b x = b ∧ T ≤ x := by
  simp only [oneTransition]; split <;> omega

theorem oneTransition_lt {T x : Int} (a b : Int) (h : x < T) : oneTransition T a b x = a := if_pos h

theorem oneTransition_ge {T x : Int} (a b : Int) (h : T ≤ x) : oneTransition T a b x = b := if_neg (by omega)

private theorem add_sub_self (x y : Int) : x + y - x = y := by omega

/-- ANY zone, first guess right: `mktime` reads the local time `t + z t` as an instant and takes the offset there as
its guess.  If that is the offset at `t`, the first candidate is `t`, and it is returned when the probe 24 h away (in
the direction the fold bit says) sees the same offset, or sees an offset whose candidate does not reproduce the local
time. -/
theorem mktime_first (z : Zone) (t : Int) (f : Bool) (h1 : z (t + z t) = z t)
    (h2 : z (t + if f then 86400 else -86400) = z t ∨
      z (t + z t - z (t + if f then 86400 else -86400)) ≠ z (t + if f then 86400 else -86400)) :
    mktime z ⟨t + z t, f⟩ = t := by
  have e : t + z t - z t = t := by omega
  simp only [mktime, localSecs, add_sub_self, h1, e, beq_iff_eq, ↓reduceIte]
  generalize z (t + if f then 86400 else -86400) = o at h2 ⊢
  split
  · rfl
  · split
    · omega
    · rfl

/-- ANY zone, first guess wrong: the second offset `mktime` tries is the one at its first candidate, or, if the first
candidate reproduces the local time, the one 24 h from it.  If that is the offset at `t`, the result is `t`. -/
theorem mktime_second (z : Zone) (t : Int) (f : Bool) (h1 : z (t + z t) ≠ z t)
    (h2 : (if z (t + z t - z (t + z t)) = z (t + z t)
      then z (t + z t - z (t + z t) + if f then 86400 else -86400) else z (t + z t - z (t + z t))) = z t) :
    mktime z ⟨t + z t, f⟩ = t := by
  have e : t + z t - z t = t := by omega
  simp only [mktime, localSecs, add_sub_self, beq_iff_eq]
  by_cases c : z (t + z t - z (t + z t)) = z (t + z t)
  · rw [if_pos c] at h2
    have c' : t + z t - z (t + z t) + z (t + z t - z (t + z t)) = t + z t := by omega
    simp only [c', h2, e, ↓reduceIte, if_neg h1]
  · rw [if_neg c] at h2
    have c' : ¬ (t + z t - z (t + z t) + z (t + z t - z (t + z t)) = t + z t) := by omega
    rw [if_neg c', h2, e, if_pos rfl]

theorem mktime_const (c s : Int) (f : Bool) : mktime (fun _ => c) ⟨s, f⟩ = s - c := by
  have h := mktime_first (fun _ => c) (s - c) f rfl (Or.inl rfl)
  rwa [Int.sub_add_cancel] at h

/-! ### one transition within reach of the probes -/

/-- around `t`, as far as CPython's probes reach (24 h plus twice the largest offset `M`), the zone has offset `a`
before `T` and `b` from `T` on; elsewhere it is arbitrary.  Real zones are like this at every instant: their
transitions are months apart. -/
def OneTransitionNear (z : Zone) (T a b t M : Int) : Prop :=
  (-M ≤ a ∧ a ≤ M) ∧ (-M ≤ b ∧ b ≤ M) ∧
    ∀ x, t - (86400 + 2 * M) ≤ x → x ≤ t + (86400 + 2 * M) → z x = a ∧ x < T ∨ z x = b ∧ T ≤ x

theorem oneTransition_near (T a b t : Int) : OneTransitionNear (oneTransition T a b) T a b t (a.natAbs + b.natAbs) :=
  ⟨by omega, by omega, fun x _ _ => oneTransition_cases T a b x⟩

/-- offset drop at most 24 h: fold = 1 exactly in the second pass of the repeated interval `[T, T + (a - b))` (empty
unless `a > b`) -/
theorem fromTimestamp_fold_near (z : Zone) (T a b t M : Int) (hz : OneTransitionNear z T a b t M)
    (h : a - b ≤ 86400) : (fromTimestamp z t).fold = true ↔ (T ≤ t ∧ t < T + (a - b)) := by
  obtain ⟨ha, hb, key⟩ := hz
  rw [fromTimestamp_fold]
  have k1 := key t (by omega) (by omega)
  have k2 := key (t - 86400) (by omega) (by omega)
  have k3 := key (t + (z t - z (t - 86400))) (by omega) (by omega)
  omega

/-- the core of C16: where the offset drops by at most 24 h, `mktime` recovers the instant `t` from its local second
count, PROVIDED the fold bit says whether `t` is in the second pass of the repeated interval -/
theorem mktime_near (z : Zone) (T a b t M : Int) (f : Bool) (hz : OneTransitionNear z T a b t M) (h : a - b ≤ 86400)
    (hf : f = true ↔ (T ≤ t ∧ t < T + (a - b))) : mktime z ⟨t + z t, f⟩ = t := by
  obtain ⟨ha, hb, key⟩ := hz
  -- every probe `x` lies in the window because the offsets read so far are bounded by `M`
  have key' : ∀ x, t - (86400 + 2 * M) ≤ x → x ≤ t + (86400 + 2 * M) →
      (-M ≤ z x ∧ z x ≤ M) ∧ (z x = a ∧ x < T ∨ z x = b ∧ T ≤ x) := fun x h1 h2 =>
    ⟨by have := key x h1 h2; omega, key x h1 h2⟩
  clear key
  -- the direction of the 24 h probe, tied to the position of `t` in terms `omega` reads
  have hd : (if f then (86400 : Int) else -86400) = 86400 ∧ T ≤ t ∧ t < T + (a - b) ∨
      (if f then (86400 : Int) else -86400) = -86400 ∧ ¬ (T ≤ t ∧ t < T + (a - b)) := by
    cases f <;> simp_all
  obtain ⟨b1, k1⟩ := key' t (by omega) (by omega)
  by_cases c : z (t + z t) = z t
  · apply mktime_first z t f c
    generalize (if f then (86400 : Int) else -86400) = d at hd ⊢
    have d1 : d = 86400 ∨ d = -86400 := by omega
    obtain ⟨b2, k2⟩ := key' (t + d) (by omega) (by omega)
    obtain ⟨b3, k3⟩ := key' (t + z t - z (t + d)) (by omega) (by omega)
    omega
  · -- `t` and its local time read as an instant lie on different sides of `T`
    apply mktime_second z t f c
    generalize (if f then (86400 : Int) else -86400) = d at hd ⊢
    have d1 : d = 86400 ∨ d = -86400 := by omega
    obtain ⟨b2, k2⟩ := key' (t + z t) (by omega) (by omega)
    obtain ⟨b3, k3⟩ := key' (t + z t - z (t + z t)) (by omega) (by omega)
    split
    · obtain ⟨b4, k4⟩ := key' (t + z t - z (t + z t) + d) (by omega) (by omega)
      omega
    · clear hd
      omega

/-! ### `offsetText` on characters -/

/-- two decimal digit characters of a number below 100 -/
def pad2Chars (n : Nat) : List Char := [Nat.digitChar (n / 10), Nat.digitChar (n % 10)]

/-- `offsetText` restated over `List Char` with explicit digit characters -/
def offsetChars (off : Int) : List Char :=
  let a := off.natAbs
  (if off < 0 then '-' else '+') :: (pad2Chars (a / 3600) ++ ':' :: pad2Chars (a % 3600 / 60)
    ++ (if a % 60 = 0 then [] else ':' :: pad2Chars (a % 60)))

theorem pad2_toList (n : Nat) (h : n < 100) : (pad2 n).toList = pad2Chars n := by
  unfold pad2 pad2Chars
  by_cases h10 : n < 10
  · have e1 : n / 10 = 0 := by omega
    have e2 : n % 10 = n := by omega
    simp [h10, Nat.toDigits_of_lt_base h10, e1, e2]
  · have h1 : n / 10 < 10 := by omega
    simp [h10, Nat.toDigits_of_base_le (by omega : 1 < 10) (by omega : 10 ≤ n), Nat.toDigits_of_lt_base h1]

theorem offsetText_toList (off : Int) (h : off.natAbs < 360000) : (offsetText off).toList = offsetChars off := by
  unfold offsetText offsetChars
  have h1 : off.natAbs / 3600 < 100 := by omega
  have h2 : off.natAbs % 3600 / 60 < 100 := by omega
  have h3 : off.natAbs % 60 < 100 := by omega
  by_cases hs : off < 0 <;> by_cases hz : off.natAbs % 60 = 0 <;>
    simp [hs, hz, pad2_toList _ h1, pad2_toList _ h2, pad2_toList _ h3]

theorem offsetText_eq_ofList (off : Int) (h : off.natAbs < 360000) :
    offsetText off = String.ofList (offsetChars off) := by
  rw [← String.toList_inj, offsetText_toList off h, String.toList_ofList]

theorem digitChar_isDigit (n : Nat) (h : n < 10) : (Nat.digitChar n).isDigit = true := by
  have : ∀ n : Fin 10, (Nat.digitChar n.val).isDigit = true := by decide
  exact this ⟨n, h⟩

theorem digitChar_toNat (n : Nat) (h : n < 10) : (Nat.digitChar n).toNat - '0'.toNat = n := by
  have : ∀ n : Fin 10, (Nat.digitChar n.val).toNat - '0'.toNat = n.val := by decide
  exact this ⟨n, h⟩

theorem digitChar_inj (n m : Nat) (hn : n < 10) (hm : m < 10) (e : Nat.digitChar n = Nat.digitChar m) : n = m := by
  rw [← digitChar_toNat n hn, ← digitChar_toNat m hm, e]

/-- `pad2Chars` is a prefix code: what follows the two digits is read off unambiguously -/
theorem pad2Chars_append_inj (n m : Nat) (hn : n < 100) (hm : m < 100) (r s : List Char)
    (e : pad2Chars n ++ r = pad2Chars m ++ s) : n = m ∧ r = s := by
  simp only [pad2Chars, List.cons_append, List.nil_append, List.cons.injEq] at e
  have e1 := digitChar_inj _ _ (by omega) (by omega) e.1
  have e2 := digitChar_inj _ _ (by omega) (by omega) e.2.1
  exact ⟨by omega, e.2.2⟩

theorem pad2Chars_inj (n m : Nat) (hn : n < 100) (hm : m < 100) (e : pad2Chars n = pad2Chars m) : n = m :=
  (pad2Chars_append_inj n m hn hm [] [] (by rw [e])).1

theorem pad2Chars_sep_inj (n m : Nat) (hn : n < 100) (hm : m < 100) (sep r s : List Char)
    (e : pad2Chars n ++ (sep ++ r) = pad2Chars m ++ (sep ++ s)) : n = m ∧ r = s :=
  ⟨(pad2Chars_append_inj n m hn hm _ _ e).1, List.append_cancel_left (pad2Chars_append_inj n m hn hm _ _ e).2⟩

/-! ### decimal rendering of sizes -/

theorem toString_nat_inj (n m : Nat) (e : toString n = toString m) : n = m := by
  have e' : Nat.toDigits 10 n = Nat.toDigits 10 m := by
    simpa [← String.toList_inj] using e
  rw [← Nat.ofDigitChars_ten_toDigits (n := n), ← Nat.ofDigitChars_ten_toDigits (n := m), e']

end MhlModel.Time
