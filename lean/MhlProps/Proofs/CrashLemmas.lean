/-
For C15 and CrashRun (`MhlModel/Crash.lean`, `MhlModel/CrashRun.lean`): what a path holds (`fsGet`) after each
operation, pointwise and as a function path ↦ content (`upd`); the paths an operation can touch and the frame lemma;
`crashStates` by recursion, over an append, and its induction principle; a file written through a temporary
(`atomicWrite`); names ending in ".tmp"; and, in a namespace of their own (`MhlProps.CrashRunLemmas`), `evOps` and
`readsAfter` over appended and mapped event lists.
-/
import MhlModel.CrashRun

namespace MhlProps.CrashLemmas
open MhlModel.Crash

/-! ### what a path holds (`fsGet`) and which directories there are after `fsSet`, `fsDel` and every `Op` -/

def look (l : List (String × Bytes)) (q : String) : Option Bytes := (l.find? (·.1 == q)).map (·.2)

@[simp] theorem look_nil (q : String) : look [] q = none := rfl
theorem look_cons (e : String × Bytes) (l) (q : String) :
    look (e :: l) q = if e.1 = q then some e.2 else look l q := by
  unfold look
  rw [List.find?_cons]
  by_cases h : e.1 = q
  · simp [h]
  · have : (e.1 == q) = false := by simpa using h
    simp [this, h]

theorem look_map_set (l : List (String × Bytes)) (p q : String) (b : Bytes) :
    look (l.map fun e => if e.1 == p then (p, b) else e) q
      = if q = p then (if l.any (·.1 == p) then some b else none) else look l q := by
  induction l with
  | nil => simp
  | cons e l ih =>
    rw [List.map_cons, look_cons, ih, look_cons, List.any_cons]
    grind

theorem look_filter (l : List (String × Bytes)) (p q : String) :
    look (l.filter (·.1 != p)) q = if q = p then none else look l q := by
  induction l with
  | nil => simp
  | cons e l ih =>
    rw [List.filter_cons]
    split
    · rw [look_cons, look_cons, ih]; grind
    · rw [look_cons, ih]; grind

theorem look_append (l l' : List (String × Bytes)) (q : String) :
    look (l ++ l') q = (look l q).or (look l' q) := by
  induction l with
  | nil => simp
  | cons e l ih => rw [List.cons_append, look_cons, look_cons, ih]; split <;> simp

theorem look_none_of_any_false (l : List (String × Bytes)) (p : String)
    (h : l.any (·.1 == p) = false) : look l p = none := by
  induction l with
  | nil => simp
  | cons e l ih =>
    simp only [List.any_cons, Bool.or_eq_false_iff] at h
    rw [look_cons, ih h.2]; grind

theorem fsGet_eq_look (fs : Fs) (q : String) : fsGet fs q = look fs.files q := rfl

theorem fsGet_fsSet (fs : Fs) (p q : String) (b : Bytes) :
    fsGet (fsSet fs p b) q = if q = p then some b else fsGet fs q := by
  unfold fsSet
  by_cases hany : fs.files.any (·.1 == p) = true
  · rw [if_pos hany, fsGet_eq_look, fsGet_eq_look, look_map_set, hany]; simp
  · have hany' : fs.files.any (·.1 == p) = false := Bool.eq_false_iff.2 hany
    rw [if_neg hany, fsGet_eq_look, fsGet_eq_look, look_append, look_cons]
    by_cases hqp : q = p
    · subst hqp
      simp [look_none_of_any_false _ _ hany']
    · have : ¬ p = q := fun h => hqp h.symm
      simp [hqp, this]

theorem fsGet_fsDel (fs : Fs) (p q : String) :
    fsGet (fsDel fs p) q = if q = p then none else fsGet fs q := by
  rw [fsGet_eq_look, fsGet_eq_look]; exact look_filter _ _ _

@[simp] theorem dirs_fsSet (fs : Fs) (p : String) (b : Bytes) : (fsSet fs p b).dirs = fs.dirs := by
  unfold fsSet; split <;> rfl

@[simp] theorem dirs_fsDel (fs : Fs) (p : String) : (fsDel fs p).dirs = fs.dirs := rfl

@[simp] theorem fsGet_mkdir (fs : Fs) (d q : String) : fsGet (applyOp fs (.mkdir d)) q = fsGet fs q := by
  simp only [applyOp]; split <;> rfl

theorem fsGet_create (fs : Fs) (p q : String) :
    fsGet (applyOp fs (.create p)) q = if q = p then some [] else fsGet fs q := by
  simp [applyOp, fsGet_fsSet]

theorem fsGet_write (fs : Fs) (p q : String) (d : Bytes) :
    fsGet (applyOp fs (.write p d)) q = if q = p then some ((fsGet fs p).getD [] ++ d) else fsGet fs q := by
  simp [applyOp, fsGet_fsSet]

theorem fsGet_replace_some (fs : Fs) (s d q : String) (b : Bytes) (h : fsGet fs s = some b) :
    fsGet (applyOp fs (.replace s d)) q
      = if q = d then some b else if q = s then none else fsGet fs q := by
  simp [applyOp, h, fsGet_fsSet, fsGet_fsDel]

theorem applyOp_replace_none (fs : Fs) (s d : String) (h : fsGet fs s = none) :
    applyOp fs (.replace s d) = fs := by
  simp [applyOp, h]

theorem dirs_applyOp (fs : Fs) (op : Op) :
    (applyOp fs op).dirs = fs.dirs ∨ ∃ d, op = .mkdir d ∧ (applyOp fs op).dirs = fs.dirs ++ [d] := by
  cases op with
  | mkdir d =>
    simp only [applyOp]
    by_cases h : fs.dirs.contains d = true
    · left; rw [if_pos h]
    · right; exact ⟨d, rfl, by rw [if_neg h]⟩
  | create p => left; simp [applyOp]
  | write p d => left; simp [applyOp]
  | replace s d =>
    left; simp only [applyOp]
    split <;> simp

theorem mem_dirs_applyOp {fs : Fs} {d : String} (op : Op) (h : d ∈ fs.dirs) : d ∈ (applyOp fs op).dirs := by
  rcases dirs_applyOp fs op with h' | ⟨_, _, h'⟩ <;> rw [h'] <;> simp [h]

theorem mem_dirs_mkdir (fs : Fs) (d : String) : d ∈ (applyOp fs (.mkdir d)).dirs := by
  simp only [applyOp]
  by_cases h : fs.dirs.contains d = true
  · rw [if_pos h]; simpa using h
  · rw [if_neg h]; simp

theorem dirs_applyOp_of_not_mkdir (fs : Fs) (op : Op) (h : ∀ d, op ≠ .mkdir d) :
    (applyOp fs op).dirs = fs.dirs := by
  rcases dirs_applyOp fs op with h' | ⟨d, hd, _⟩
  · exact h'
  · exact absurd hd (h d)

/-! ### the paths an operation can touch; one operation leaves every other path alone -/

/-- the file paths whose content an operation can change -/
def touches : Op → List String
  | .mkdir _ => []
  | .create p => [p]
  | .write p _ => [p]
  | .replace s d => [s, d]

theorem fsGet_applyOp_of_not_touched (fs : Fs) (op : Op) (q : String) (h : q ∉ touches op) :
    fsGet (applyOp fs op) q = fsGet fs q := by
  cases op with
  | mkdir d => simp
  | create p =>
    have : q ≠ p := by simpa [touches] using h
    simp [fsGet_create, this]
  | write p d =>
    have : q ≠ p := by simpa [touches] using h
    simp [fsGet_write, this]
  | replace s d =>
    have hq : q ≠ s ∧ q ≠ d := by simpa [touches] using h
    cases hs : fsGet fs s with
    | none => rw [applyOp_replace_none _ _ _ hs]
    | some b => simp [fsGet_replace_some _ _ _ _ _ hs, hq.1, hq.2]

/-! ### `applyOps` and `crashStates`: recursion, append, prefixes, the induction principle with its frame lemmas -/

@[simp] theorem applyOps_nil (fs : Fs) : applyOps fs [] = fs := rfl
@[simp] theorem applyOps_cons (fs : Fs) (op : Op) (ops : List Op) :
    applyOps fs (op :: ops) = applyOps (applyOp fs op) ops := rfl
theorem applyOps_append (fs : Fs) (a b : List Op) :
    applyOps fs (a ++ b) = applyOps (applyOps fs a) b := by
  simp [applyOps, List.foldl_append]

/-- the torn states of one operation: a `write` that got only the first `j < d.length` bytes out -/
def torn (fs : Fs) : Op → List Fs
  | .write p d => (List.range d.length).map fun j => applyOp fs (.write p (d.take j))
  | _ => []

@[simp] theorem crashStates_nil (fs : Fs) : crashStates fs [] = [fs] := by
  simp [crashStates, applyOps]

theorem crashStates_cons (fs : Fs) (op : Op) (ops : List Op) :
    crashStates fs (op :: ops) = fs :: torn fs op ++ crashStates (applyOp fs op) ops := by
  unfold crashStates
  rw [List.length_cons, List.range_succ_eq_map, List.flatMap_cons, List.flatMap_map]
  congr 1
  · cases op <;> simp [torn, applyOps]

theorem mem_torn {fs st : Fs} {op : Op} :
    st ∈ torn fs op ↔ ∃ p d j, op = .write p d ∧ j < d.length ∧ st = applyOp fs (.write p (d.take j)) := by
  cases op with
  | write p d =>
    simp only [torn, List.mem_map, List.mem_range, Op.write.injEq]
    constructor
    · rintro ⟨j, hj, rfl⟩; exact ⟨p, d, j, ⟨rfl, rfl⟩, hj, rfl⟩
    · rintro ⟨p', d', j, ⟨rfl, rfl⟩, hj, rfl⟩; exact ⟨j, hj, rfl⟩
  | _ => simp [torn]

theorem mem_crashStates_cons {fs st : Fs} {op : Op} {ops : List Op} :
    st ∈ crashStates fs (op :: ops) ↔
      st = fs ∨ st ∈ torn fs op ∨ st ∈ crashStates (applyOp fs op) ops := by
  simp [crashStates_cons]

theorem self_mem_crashStates (fs : Fs) (ops : List Op) : fs ∈ crashStates fs ops := by
  cases ops with
  | nil => simp
  | cons op ops => simp [crashStates_cons]

theorem mem_crashStates_append {fs st : Fs} {a b : List Op} :
    st ∈ crashStates fs (a ++ b) ↔ st ∈ crashStates fs a ∨ st ∈ crashStates (applyOps fs a) b := by
  induction a generalizing fs with
  | nil =>
    simp only [List.nil_append, crashStates_nil, List.mem_singleton, applyOps_nil]
    constructor
    · exact Or.inr
    · rintro (rfl | h)
      · exact self_mem_crashStates _ _
      · exact h
  | cons op a ih =>
    rw [List.cons_append, mem_crashStates_cons, mem_crashStates_cons, ih, applyOps_cons]
    simp only [or_assoc]

theorem applyOps_mem_crashStates_of_prefix {fs : Fs} {pre ops : List Op} (h : pre <+: ops) :
    applyOps fs pre ∈ crashStates fs ops := by
  obtain ⟨r, rfl⟩ := h
  exact mem_crashStates_append.2 (.inr (self_mem_crashStates _ _))

theorem applyOps_mem_crashStates (fs : Fs) (ops : List Op) : applyOps fs ops ∈ crashStates fs ops :=
  applyOps_mem_crashStates_of_prefix (List.prefix_refl ops)

/-- What holds at the start and is kept by every operation of the run, also by a write that is cut short, holds in
every crash state. `Q` is what is known of the operations. -/
theorem crashStates_induction {Q : Op → Prop} {P : Fs → Prop} {fs st : Fs} {ops : List Op}
    (hops : ∀ op ∈ ops, Q op) (hcut : ∀ p d j, Q (.write p d) → Q (.write p (d.take j)))
    (step : ∀ s op, Q op → P s → P (applyOp s op)) (h0 : P fs) (hst : st ∈ crashStates fs ops) : P st := by
  induction ops generalizing fs with
  | nil => simp at hst; exact hst ▸ h0
  | cons op ops ih =>
    have hop := hops op List.mem_cons_self
    rw [mem_crashStates_cons] at hst
    rcases hst with rfl | ht | hr
    · exact h0
    · obtain ⟨p, d, j, rfl, _, rfl⟩ := mem_torn.1 ht
      exact step _ _ (hcut p d j hop) h0
    · exact ih (fun o ho => hops o (List.mem_cons_of_mem _ ho)) (step _ _ hop h0) hr

theorem fsGet_crash_of_not_touched {fs st : Fs} {ops : List Op} {q : String}
    (hst : st ∈ crashStates fs ops) (h : ∀ op ∈ ops, q ∉ touches op) : fsGet st q = fsGet fs q :=
  crashStates_induction (P := fun s => fsGet s q = fsGet fs q) h (fun _ _ _ hq => hq)
    (fun s op hq hs => (fsGet_applyOp_of_not_touched s op q hq).trans hs) rfl hst

theorem mem_dirs_crash {fs st : Fs} {ops : List Op} {d : String}
    (hst : st ∈ crashStates fs ops) (h : d ∈ fs.dirs) : d ∈ st.dirs :=
  crashStates_induction (Q := fun _ => True) (P := fun s => d ∈ s.dirs) (fun _ _ => trivial) (fun _ _ _ => id)
    (fun _ op _ => mem_dirs_applyOp op) h hst

theorem fsGet_applyOps_of_not_touched (fs : Fs) (ops : List Op) (q : String)
    (h : ∀ op ∈ ops, q ∉ touches op) : fsGet (applyOps fs ops) q = fsGet fs q :=
  fsGet_crash_of_not_touched (applyOps_mem_crashStates fs ops) h

theorem mem_dirs_applyOps {fs : Fs} {d : String} (ops : List Op) (h : d ∈ fs.dirs) :
    d ∈ (applyOps fs ops).dirs :=
  mem_dirs_crash (applyOps_mem_crashStates fs ops) h

theorem dirs_crash_of_no_mkdir {fs st : Fs} {ops : List Op}
    (hst : st ∈ crashStates fs ops) (h : ∀ op ∈ ops, ∀ d, op ≠ .mkdir d) : st.dirs = fs.dirs :=
  crashStates_induction (P := fun s => s.dirs = fs.dirs) h (fun _ _ _ _ _ => nofun)
    (fun s op hq hs => (dirs_applyOp_of_not_mkdir s op hq).trans hs) rfl hst

/-! ### what all paths hold, as a function: an operation is an `upd` of the view -/

def upd (v : String → Option Bytes) (p : String) (o : Option Bytes) : String → Option Bytes :=
  fun q => if q = p then o else v q

theorem upd_apply (v : String → Option Bytes) (p q : String) (o : Option Bytes) :
    upd v p o q = if q = p then o else v q := rfl
@[simp] theorem upd_same (v : String → Option Bytes) (p : String) (o : Option Bytes) : upd v p o p = o := by
  simp [upd]
theorem upd_ne (v : String → Option Bytes) {p q : String} (o : Option Bytes) (h : q ≠ p) :
    upd v p o q = v q := by simp [upd, h]
@[simp] theorem upd_upd (v : String → Option Bytes) (p : String) (a b : Option Bytes) :
    upd (upd v p a) p b = upd v p b := by
  funext q; simp only [upd]; split <;> rfl
theorem view_mkdir (fs : Fs) (d : String) : fsGet (applyOp fs (.mkdir d)) = fsGet fs := by
  funext q; simp

theorem view_create (fs : Fs) (p : String) :
    fsGet (applyOp fs (.create p)) = upd (fsGet fs) p (some []) := by
  funext q; rw [fsGet_create]; rfl

theorem view_write (fs : Fs) (p : String) (d : Bytes) :
    fsGet (applyOp fs (.write p d)) = upd (fsGet fs) p (some ((fsGet fs p).getD [] ++ d)) := by
  funext q; rw [fsGet_write]; rfl

theorem view_replace (fs : Fs) (s d : String) (b : Bytes) (h : fsGet fs s = some b) :
    fsGet (applyOp fs (.replace s d)) = upd (upd (fsGet fs) s none) d (some b) := by
  funext q; rw [fsGet_replace_some _ _ _ _ _ h]; rfl

/-! ### a file under construction: the view is `upd v p (some x)` -/

theorem view_write_upd {s : Fs} {v : String → Option Bytes} {p : String} {x : Bytes} (d : Bytes)
    (hv : fsGet s = upd v p (some x)) : fsGet (applyOp s (.write p d)) = upd v p (some (x ++ d)) := by
  rw [view_write, hv, upd_same, upd_upd]; rfl

theorem view_replace_upd {s : Fs} {v : String → Option Bytes} {p : String} {b : Bytes} (d : String)
    (hv : fsGet s = upd v p (some b)) : fsGet (applyOp s (.replace p d)) = upd (upd v p none) d (some b) := by
  rw [view_replace s p d b (by rw [hv, upd_same]), hv, upd_upd]

/-- a kill during the successive `write`s to `p` leaves in `p` the old content plus a PREFIX of the new bytes and
changes nothing else -/
theorem writes_crash {s st : Fs} {v : String → Option Bytes} {p : String} {x : Bytes} (chunks : List Bytes)
    (hv : fsGet s = upd v p (some x)) (hst : st ∈ crashStates s (chunks.map (Op.write p))) :
    ∃ y, y <+: chunks.flatten ∧ fsGet st = upd v p (some (x ++ y)) := by
  induction chunks generalizing s x with
  | nil =>
    simp only [List.map_nil, crashStates_nil, List.mem_singleton] at hst
    exact ⟨[], List.nil_prefix, by rw [hst, hv, List.append_nil]⟩
  | cons d ds ih =>
    rw [List.map_cons, mem_crashStates_cons] at hst
    rcases hst with rfl | ht | hr
    · exact ⟨[], List.nil_prefix, by rw [hv, List.append_nil]⟩
    · obtain ⟨p', d', j, he, _, rfl⟩ := mem_torn.1 ht
      obtain ⟨rfl, rfl⟩ : p = p' ∧ d = d' := by simpa using he
      exact ⟨d.take j, (List.take_prefix j d).trans (List.prefix_append _ _), view_write_upd _ hv⟩
    · obtain ⟨y, hy, h⟩ := ih (view_write_upd d hv) hr
      exact ⟨d ++ y, (List.prefix_append_right_inj d).2 hy, by rw [h, List.append_assoc]⟩

theorem writes_final {s : Fs} {v : String → Option Bytes} {p : String} {x : Bytes} (chunks : List Bytes)
    (hv : fsGet s = upd v p (some x)) :
    fsGet (applyOps s (chunks.map (Op.write p))) = upd v p (some (x ++ chunks.flatten)) := by
  induction chunks generalizing s x with
  | nil => simpa using hv
  | cons d ds ih =>
    rw [List.map_cons, applyOps_cons, ih (view_write_upd d hv), List.flatten_cons, List.append_assoc]

/-! ### a file written through a temporary -/

/-- writing `p` through the temporary `t`: `open(t, "wb")`, the `write`s, `os.replace(t, p)` -/
def atomicWrite (t p : String) (chunks : List Bytes) : List Op :=
  .create t :: (chunks.map (Op.write t) ++ [.replace t p])

theorem atomicWrite_final (s : Fs) (t p : String) (chunks : List Bytes) :
    fsGet (applyOps s (atomicWrite t p chunks)) = upd (upd (fsGet s) t none) p (some chunks.flatten) := by
  rw [atomicWrite, applyOps_cons, applyOps_append, applyOps_cons, applyOps_nil]
  exact view_replace_upd _ (writes_final _ (view_create s t))

theorem atomicWrite_crash {s st : Fs} {t p : String} {chunks : List Bytes}
    (hst : st ∈ crashStates s (atomicWrite t p chunks)) :
    fsGet st = fsGet s ∨ (∃ x, x <+: chunks.flatten ∧ fsGet st = upd (fsGet s) t (some x)) ∨
      fsGet st = upd (upd (fsGet s) t none) p (some chunks.flatten) := by
  have hv := view_create s t
  rw [atomicWrite, mem_crashStates_cons, mem_crashStates_append] at hst
  rcases hst with rfl | ht | hw | hst
  · exact .inl rfl
  · simp [torn] at ht
  · exact .inr (.inl (writes_crash _ hv hw))
  · rw [mem_crashStates_cons] at hst
    rcases hst with rfl | ht | hst
    · exact .inr (.inl ⟨_, List.prefix_refl _, writes_final _ hv⟩)
    · simp [torn] at ht
    · simp only [crashStates_nil, List.mem_singleton] at hst
      subst hst
      exact .inr (.inr (view_replace_upd _ (writes_final _ hv)))

theorem touches_atomicWrite {t p : String} {chunks : List Bytes} :
    ∀ op ∈ atomicWrite t p chunks, ∀ q ∈ touches op, q = t ∨ q = p := by
  intro op hop q hq
  simp only [atomicWrite, List.mem_cons, List.mem_append, List.mem_map, List.not_mem_nil, or_false] at hop
  rcases hop with rfl | ⟨d, _, rfl⟩ | rfl <;> simp [touches] at hq <;> simp [hq]

/-! ### names ending in ".tmp" -/

theorem endsWith_iff_suffix (s pat : String) : s.endsWith pat = true ↔ pat.toList <:+ s.toList := by
  rw [String.endsWith_eq_endsWith_toSlice, String.Slice.endsWith_string_iff]
  simp

theorem endsWith_append (s pat : String) : (s ++ pat).endsWith pat = true := by
  rw [endsWith_iff_suffix, String.toList_append]; exact List.suffix_append _ _

theorem tmp_ne_chainName (n : String) : n ++ ".tmp" ≠ chainName := by
  intro h
  have h1 := (endsWith_iff_suffix _ _).1 (endsWith_append n ".tmp")
  rw [h] at h1
  revert h1; decide +kernel

/-- a name has only one four-character ending -/
theorem not_endsWith_mhl_of_tmp {s : String} (h : s.endsWith ".tmp" = true) : s.endsWith ".mhl" = false := by
  rw [← Bool.not_eq_true, endsWith_iff_suffix]
  rw [endsWith_iff_suffix] at h
  intro h'
  have := (List.suffix_of_suffix_length_le h' h (by decide +kernel)).eq_of_length (by decide +kernel)
  revert this; decide +kernel

theorem ne_append_tmp (s : String) : s ≠ s ++ ".tmp" := by
  intro h
  have := congrArg String.length h
  rw [String.length_append] at this
  have h2 : ".tmp".length = 4 := by decide +kernel
  omega

end MhlProps.CrashLemmas

/-! ## event lists of a run: `evOps`, `readsAfter` -/

namespace MhlProps.CrashRunLemmas
open MhlModel.Crash

@[simp] theorem evOps_nil : evOps [] = [] := rfl
@[simp] theorem evOps_read (p : String) (evs : List Ev) : evOps (.read p :: evs) = evOps evs := rfl
@[simp] theorem evOps_fs (op : Op) (evs : List Ev) : evOps (.fs op :: evs) = op :: evOps evs := rfl

theorem evOps_append (a b : List Ev) : evOps (a ++ b) = evOps a ++ evOps b := by
  induction a with
  | nil => rfl
  | cons e a ih => cases e <;> simp [ih]

@[simp] theorem evOps_map_read (l : List String) : evOps (l.map .read) = [] := by
  induction l with
  | nil => rfl
  | cons p l ih => simpa using ih

@[simp] theorem evOps_map_fs (l : List Op) : evOps (l.map .fs) = l := by
  induction l with
  | nil => rfl
  | cons p l ih => simpa using ih

theorem evOps_take_prefix (evs : List Ev) (k : Nat) : evOps (evs.take k) <+: evOps evs := by
  conv => rhs; rw [← List.take_append_drop k evs, evOps_append]
  exact List.prefix_append _ _

theorem readsAfter_append (a b : List Ev) (k : Nat) :
    readsAfter (a ++ b) k = (readsAfter a k || readsAfter b (k - a.length)) := by
  simp [readsAfter, List.drop_append]

theorem readsAfter_map_fs (l : List Op) (k : Nat) : readsAfter (l.map Ev.fs) k = false := by
  simp [readsAfter, ← List.map_drop, List.any_map, Function.comp_def, Ev.isRead]

theorem readsAfter_map_read (l : List String) (k : Nat) :
    readsAfter (l.map Ev.read) k = true ↔ k < l.length := by
  unfold readsAfter
  rw [← List.map_drop]
  cases h : l.drop k with
  | nil =>
    have := List.drop_eq_nil_iff.1 h
    simp; omega
  | cons x t =>
    have h1 : l.drop k ≠ [] := by rw [h]; simp
    have h2 : ¬ l.length ≤ k := fun hle => h1 (List.drop_eq_nil_iff.2 hle)
    simp [Ev.isRead]; omega

end MhlProps.CrashRunLemmas
