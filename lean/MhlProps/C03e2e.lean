/-
C03e2e — the END-TO-END statement of C03 for a freshly sealed tree:

  on a tree that is unchanged since it was sealed, `verify`, `diff` and a second `create` end with exit code 0
  (and an altered file makes `verify` end with 11 and name the file)

obtained by COMPOSING the model's own `createFolder`, `applyWritten` and `verify` / `diff` / `createFolder`.

Setting (`Setting env rn cs o`): the tree `t = .dir rn cs none` has no `ascmhl` folder anywhere (`noNested t`, root
`hist = none`), sibling names distinct, every name free of '/' and different from "." (`Node.NamesOk`), the folder
name `env.rootName` and the stamp `env.stamp` free of '\n' (else the manifest name does not parse, C06); the digest
function, decoder and matcher of `env` are arbitrary; `o` is a folder-mode `create` without `-dr` and with at least
one format.

  out := createFolder env t o          t' := applyWritten t out.written   (`sealedTree env rn cs o`)

The first run cannot fail and writes generation 1 of the root history; t' loads as that one generation
(`sealedHist w`), which describes t (`sealed_describes`; `Describes` is Proofs/DescribesLemmas.lean) and so records it
in the sense of `Snapshot` (Proofs/SnapshotLemmas.lean): the pattern list is stable, verify, diff and a second create
with ANY non-empty format list end with exit code 0, an altered file makes verify end with 11 and name it, alone.

The only hypotheses beyond the setting are, for 5., that the ignore options of the second run only name patterns
already recorded (same options, or none), and for 6., that the digest of the new content DIFFERS in the format verify
compares (`env.H` is arbitrary, so this cannot follow from the contents being different; `altered_undetected` shows
the hypothesis is exactly what is needed).

The last section instantiates everything on a concrete tree (two files, a sub-folder with a file, two ignored files,
two formats) and evaluates the pipeline by `decide +kernel`.

The toy environment `exEnv` of the examples is defined in Proofs/ExampleWorlds.lean (C04nested uses it too).
-/
import MhlProps.Proofs.DescribesLemmas
import MhlProps.Proofs.SeqLemmas

namespace MhlProps.C03e2e
open MhlModel MhlProps.C02rec MhlProps.C04

structure Setting (env : Env) (rn : String) (cs : List Node) (o : CreateOpts) : Prop where
  flat : noNested (.dir rn cs none) = true
  distinct : (Node.dir rn cs none).NamesDistinct
  namesOk : (Node.dir rn cs none).NamesOk
  rootName : '\n' ∉ env.rootName.toList
  stamp : '\n' ∉ env.stamp.toList
  singleFiles : o.singleFiles = []
  noRename : o.detectRenaming = false
  formats : o.formats ≠ []

section
variable {env : Env} {rn : String} {cs : List Node} {o : CreateOpts}

/-- the pattern list of the first `create` -/
abbrev pats (o : CreateOpts) : List String := setPatterns none o.ignoreCli o.ignoreFile

/-- the matcher of the first `create` -/
abbrev hit0 (env : Env) (o : CreateOpts) : RelPath → Bool := env.hit (pats o)

/-! ### 1. the first seal cannot fail -/

theorem first_seal_core (hS : Setting env rn cs o) :
    ∃ w, (createFolder env (.dir rn cs none) o).err = none ∧
      (createFolder env (.dir rn cs none) o).written = [w] ∧
      (createFolder env (.dir rn cs none) o).report.mismatch = [] ∧
      (createFolder env (.dir rn cs none) o).report.missing = [] ∧
      writeOne emptyHist (cSession env (.dir rn cs none) emptyHist o) env.rootName env.stamp "in-place" none
        emptyHist [] = .ok w :=
  createFolder_fresh_ok env _ o (loadHistory_fresh rn cs hS.flat) hS.noRename rfl

/-- 1. `first_seal_ok`: on a tree without history the first `create` ends with exit code 0, reports nothing, and
writes exactly one generation: number 1 of the root history -/
theorem first_seal_ok (hS : Setting env rn cs o) :
    (createFolder env (.dir rn cs none) o).err = none ∧
    (createFolder env (.dir rn cs none) o).exitCode = 0 ∧
    (createFolder env (.dir rn cs none) o).report.mismatch = [] ∧
    (createFolder env (.dir rn cs none) o).report.missing = [] ∧
    ∃ w, (createFolder env (.dir rn cs none) o).written = [w] ∧ w.histRoot = [] ∧ w.number = 1 ∧
      w.gen.state = .ok ∧ w.gen.fileName = genFileName 1 env.rootName env.stamp := by
  obtain ⟨w, h1, h2, h3, h4, hw⟩ := first_seal_core hS
  obtain ⟨hroot, hnum, hstate, hname, -⟩ := writeOne_fields _ _ _ _ _ _ _ _ hw
  have hnum1 : w.number = 1 := hnum
  refine ⟨h1, ?_, h3, h4, w, h2, hroot, hnum1, hstate, ?_⟩
  · unfold Outcome.exitCode; rw [h1]
  · rw [hname]; rfl

theorem first_seal_ok_create (hS : Setting env rn cs o) :
    (create env (.dir rn cs none) o).err = none ∧
    ∃ w, (create env (.dir rn cs none) o).written = [w] ∧ w.histRoot = [] ∧ w.number = 1 := by
  rw [create_eq_createFolder _ _ o hS.singleFiles]
  obtain ⟨h1, -, -, -, w, hw, h2, h3, -⟩ := first_seal_ok hS
  exact ⟨h1, w, hw, h2, h3⟩

theorem written_facts (hS : Setting env rn cs o) (w : Written)
    (hw : (createFolder env (.dir rn cs none) o).written = [w]) :
    w.histRoot = [] ∧ w.number = 1 ∧ w.gen.state = .ok ∧ parseGenName w.gen.fileName = some 1 ∧
      w.gen.refs = [] ∧ w.gen.ignore = pats o ∧
      Records (visiblePaths (hit0 env o) (.dir rn cs none)) (fileContent (.dir rn cs none))
        (fun p => origEntries env (fileContent (.dir rn cs none) p) o.formats) w.gen := by
  obtain ⟨w', -, h2, -, -, hw'⟩ := first_seal_core hS
  rw [hw] at h2
  obtain rfl : w = w' := by simpa using h2
  obtain ⟨-, -, -, -, hign, -⟩ := writeOne_fields _ _ _ _ _ _ _ _ hw'
  obtain ⟨hroot, hnum, hstate, hparse⟩ := MhlProps.C06.writeOne_next _ _ _ _ _ _ _ _ hw' hS.rootName hS.stamp
  have hnum1 : w.number = 1 := hnum
  refine ⟨hroot, hnum1, hstate, hnum1 ▸ hparse, writeOne_refs_nil _ _ _ _ _ _ _ _ hw', ?_, ?_⟩
  · rw [hign, cSession_patterns]
    exact setPatterns_own none o.ignoreCli o.ignoreFile
  · exact first_seal_gen env (.dir rn cs none) o hS.distinct hS.namesOk hS.formats w hw'

/-- the generation a first seal writes records the visible paths, each file with the content length and one
`original` entry per requested format, sorted by format name -/
theorem sealed_records (hS : Setting env rn cs o) (w : Written)
    (hw : (createFolder env (.dir rn cs none) o).written = [w]) :
    Records (visiblePaths (hit0 env o) (.dir rn cs none)) (fileContent (.dir rn cs none))
      (fun p => origEntries env (fileContent (.dir rn cs none) p) o.formats) w.gen :=
  (written_facts hS w hw).2.2.2.2.2.2

/-! ### 2. the sealed tree loads -/

/-- the tree after the first `create`: the written generation put into the (new) `ascmhl` folder -/
def sealedTree (env : Env) (rn : String) (cs : List Node) (o : CreateOpts) : Node :=
  applyWritten (.dir rn cs none) (createFolder env (.dir rn cs none) o).written

def sealedHist (w : Written) : Hist := .mk [] [⟨1, w.gen⟩] [⟨1, w.gen.fileName⟩] true []

/-- sealing changes `ascmhl` folders only: names, visible paths and file contents of the sealed tree are the tree's -/
theorem sealed_sameFiles (env : Env) (rn : String) (cs : List Node) (o : CreateOpts) :
    SameFilesDh (.dir rn cs none) (sealedTree env rn cs o) :=
  sameFilesDh_applyWritten _ _

theorem sealedTree_eq (hS : Setting env rn cs o) (w : Written)
    (hw : (createFolder env (.dir rn cs none) o).written = [w]) :
    sealedTree env rn cs o = .dir rn cs (some (firstStore w)) := by
  unfold sealedTree
  rw [hw, applyWritten_root rn cs none w (written_facts hS w hw).1]
  rfl

/-- the written generation alone in the `ascmhl` folder of the root, over any children without `ascmhl` folders (those
of the setting, or what they were edited to): the tree loads as `sealedHist w` -/
theorem firstStore_loads (hS : Setting env rn cs o) (w : Written)
    (hw : (createFolder env (.dir rn cs none) o).written = [w]) (cs' : List Node)
    (hflat : noNested (.dir rn cs' none) = true) :
    loadHistory (.dir rn cs' (some (firstStore w))) = .ok (sealedHist w) := by
  obtain ⟨-, hnum, hstate, hparse, -⟩ := written_facts hS w hw
  rw [loadHistory_firstStore rn cs' hflat w 1 hparse hstate, hnum]
  rfl

/-- 2. `sealed_tree_loads`: the tree with the written generation loads; the history is rooted at the command root,
has no nested histories, and its generations are exactly the written one, numbered 1 by its name; the chain has
the one entry for it -/
theorem sealed_tree_loads (hS : Setting env rn cs o) (w : Written)
    (hw : (createFolder env (.dir rn cs none) o).written = [w]) :
    loadHistory (sealedTree env rn cs o) = .ok (sealedHist w) ∧
    (sealedHist w).root = [] ∧ (sealedHist w).children = [] ∧ (sealedHist w).gens = [⟨1, w.gen⟩] ∧
    (sealedHist w).chain = [⟨1, w.gen.fileName⟩] := by
  refine ⟨?_, rfl, rfl, rfl, rfl⟩
  rw [sealedTree_eq hS w hw]
  exact firstStore_loads hS w hw cs hS.flat

theorem sealed_tree_loads' (hS : Setting env rn cs o) :
    ∃ w h, (createFolder env (.dir rn cs none) o).written = [w] ∧
      loadHistory (sealedTree env rn cs o) = .ok h ∧ h.root = [] ∧ h.children = [] ∧ h.gens = [⟨1, w.gen⟩] := by
  obtain ⟨w, -, hw, -⟩ := first_seal_core hS
  obtain ⟨h1, h2, h3, h4, -⟩ := sealed_tree_loads hS w hw
  exact ⟨w, _, hw, h1, h2, h3, h4⟩

theorem sealed_describes (hS : Setting env rn cs o) (w : Written)
    (hw : (createFolder env (.dir rn cs none) o).written = [w]) :
    Describes env (sealedHist w) (pats o) (.dir rn cs none) (fun _ => firstFormat o.formats) := by
  obtain ⟨-, -, -, -, hrefs, hign, -⟩ := written_facts hS w hw
  exact (sealed_records hS w hw).sealedGen.describes hS.distinct hS.namesOk hS.formats ⟨setPatterns_ne_nil _ _ _, nodup_setPatterns _ _ _⟩ hign hrefs
    1 _ true

/-! ### 3. the pattern list is stable -/

/-- 3. `sealed_ignore_stable`: the generation carries exactly the pattern list `create` used; the list `verify` /
`diff` (without options) build from it is that list again; so both commands use the same matcher and see the SAME
visible paths on the sealed tree as `create` saw on the original one -/
theorem sealed_ignore_stable (hS : Setting env rn cs o) (w : Written)
    (hw : (createFolder env (.dir rn cs none) o).written = [w]) :
    w.gen.ignore = setPatterns none o.ignoreCli o.ignoreFile ∧
    setPatterns (latestIgnore (sealedHist w).gens) [] [] = setPatterns none o.ignoreCli o.ignoreFile ∧
    vHit env (sealedHist w) {} = hit0 env o ∧
    visiblePaths (vHit env (sealedHist w) {}) (sealedTree env rn cs o) =
      visiblePaths (hit0 env o) (.dir rn cs none) := by
  have D := sealed_describes hS w hw
  refine ⟨(written_facts hS w hw).2.2.2.2.2.1, ?_, D.vHit, ?_⟩
  · exact setPatterns_latest_own D.latest D.own.1 D.own.2 [] [] (by simp) (by simp)
  · rw [D.vHit]
    exact (sealed_sameFiles env rn cs o).visiblePaths _

/-! ### 4. verify and diff on the unchanged sealed tree -/

theorem sealedHist_gens_ne (w : Written) : (sealedHist w).gens ≠ [] := by simp [sealedHist, Hist.gens]

theorem sealed_snapshot (hS : Setting env rn cs o) (w : Written)
    (hw : (createFolder env (.dir rn cs none) o).written = [w]) :
    Snapshot env (sealedHist w) (hit0 env o) (.dir rn cs none) (fun _ => firstFormat o.formats) :=
  (sealed_describes hS w hw).snapshot

theorem verifyOrDiff_after_seal (hS : Setting env rn cs o) (hashing : Bool) :
    (verifyOrDiff env (sealedTree env rn cs o) {} hashing none).err = none ∧
    (verifyOrDiff env (sealedTree env rn cs o) {} hashing none).exitCode = 0 ∧
    (verifyOrDiff env (sealedTree env rn cs o) {} hashing none).report.mismatch = [] ∧
    (verifyOrDiff env (sealedTree env rn cs o) {} hashing none).report.new = [] ∧
    (verifyOrDiff env (sealedTree env rn cs o) {} hashing none).report.missing = [] := by
  obtain ⟨w, -, hw, -⟩ := first_seal_core hS
  have hl := (sealed_tree_loads hS w hw).1
  rw [sealedTree_eq hS w hw] at hl ⊢
  exact (sealed_describes hS w hw).verify_ok _ hl hashing

/-- 4. `verify_after_seal`: on the tree unchanged since it was sealed, `verify` ends with exit code 0 and reports
no mismatch, no new file, no missing file; and so does `diff` -/
theorem verify_after_seal (hS : Setting env rn cs o) :
    (verify env (sealedTree env rn cs o) {}).err = none ∧
    (verify env (sealedTree env rn cs o) {}).exitCode = 0 ∧
    (verify env (sealedTree env rn cs o) {}).report.mismatch = [] ∧
    (verify env (sealedTree env rn cs o) {}).report.new = [] ∧
    (verify env (sealedTree env rn cs o) {}).report.missing = [] ∧
    (diff env (sealedTree env rn cs o) {}).err = none ∧
    (diff env (sealedTree env rn cs o) {}).exitCode = 0 ∧
    (diff env (sealedTree env rn cs o) {}).report.mismatch = [] ∧
    (diff env (sealedTree env rn cs o) {}).report.new = [] ∧
    (diff env (sealedTree env rn cs o) {}).report.missing = [] := by
  obtain ⟨a1, a2, a3, a4, a5⟩ := verifyOrDiff_after_seal hS true
  obtain ⟨b1, b2, b3, b4, b5⟩ := verifyOrDiff_after_seal hS false
  exact ⟨a1, a2, a3, a4, a5, b1, b2, b3, b4, b5⟩

/-! ### 5. a second `create` on the unchanged sealed tree -/

theorem sealedTree_names (hS : Setting env rn cs o) :
    (sealedTree env rn cs o).NamesDistinct ∧ (sealedTree env rn cs o).NamesOk ∧
      (sealedTree env rn cs o).isDir = true := by
  have hsf := sealed_sameFiles env rn cs o
  exact ⟨hsf.namesDistinct.2 hS.distinct, hsf.namesOk.2 hS.namesOk, hsf.isDir⟩

theorem resealed_vis (hS : Setting env rn cs o) (w : Written)
    (hw : (createFolder env (.dir rn cs none) o).written = [w]) (o₂ : CreateOpts)
    (hcli : ∀ x ∈ o₂.ignoreCli, x ∈ setPatterns none o.ignoreCli o.ignoreFile)
    (hfile : ∀ x ∈ o₂.ignoreFile, x ∈ setPatterns none o.ignoreCli o.ignoreFile) :
    visiblePaths (cHit env (sealedHist w) o₂) (sealedTree env rn cs o) =
      visiblePaths (hit0 env o) (.dir rn cs none) := by
  rw [(sealed_describes hS w hw).cHit o₂ hcli hfile]
  exact (sealed_sameFiles env rn cs o).visiblePaths _

theorem reseal_core (hS : Setting env rn cs o) (w : Written)
    (hw : (createFolder env (.dir rn cs none) o).written = [w]) (o₂ : CreateOpts)
    (hdr₂ : o₂.detectRenaming = false)
    (hcli : ∀ x ∈ o₂.ignoreCli, x ∈ setPatterns none o.ignoreCli o.ignoreFile)
    (hfile : ∀ x ∈ o₂.ignoreFile, x ∈ setPatterns none o.ignoreCli o.ignoreFile) :
    ∃ w₂, (createFolder env (sealedTree env rn cs o) o₂).err = none ∧
      (createFolder env (sealedTree env rn cs o) o₂).written = [w₂] ∧
      (createFolder env (sealedTree env rn cs o) o₂).report.mismatch = [] ∧
      (createFolder env (sealedTree env rn cs o) o₂).report.missing = [] ∧
      writeOne (sealedHist w) (cSession env (sealedTree env rn cs o) (sealedHist w) o₂) env.rootName env.stamp
        "in-place" none (sealedHist w) [] = .ok w₂ := by
  have hl := (sealed_tree_loads hS w hw).1
  rw [sealedTree_eq hS w hw] at hl ⊢
  obtain ⟨w₂, h1, h2, h3, h4, -, hw₂⟩ := (sealed_describes hS w hw).reseal _ hl o₂ hdr₂ hcli hfile
  exact ⟨w₂, h1, h2, h3, h4, hw₂⟩

/-- 5. `reseal_ok`: a second folder-mode `create` on the unchanged sealed tree, with ANY non-empty list of formats
(a subset, a superset, disjoint from the first ones, with or without directory hashes), no `-dr`, and ignore
options that only name patterns already recorded, ends with exit code 0, reports nothing and writes generation 2 -/
theorem reseal_ok (hS : Setting env rn cs o) (o₂ : CreateOpts) (hf₂ : o₂.formats ≠ [])
    (hdr₂ : o₂.detectRenaming = false)
    (hcli : ∀ x ∈ o₂.ignoreCli, x ∈ setPatterns none o.ignoreCli o.ignoreFile)
    (hfile : ∀ x ∈ o₂.ignoreFile, x ∈ setPatterns none o.ignoreCli o.ignoreFile) :
    (createFolder env (sealedTree env rn cs o) o₂).err = none ∧
    (createFolder env (sealedTree env rn cs o) o₂).exitCode = 0 ∧
    (createFolder env (sealedTree env rn cs o) o₂).report.mismatch = [] ∧
    (createFolder env (sealedTree env rn cs o) o₂).report.missing = [] ∧
    ∃ w₂, (createFolder env (sealedTree env rn cs o) o₂).written = [w₂] ∧ w₂.histRoot = [] ∧ w₂.number = 2 := by
  obtain ⟨w, -, hw, -⟩ := first_seal_core hS
  obtain ⟨w₂, h1, h2, h3, h4, hw₂⟩ := reseal_core hS w hw o₂ hdr₂ hcli hfile
  obtain ⟨hnum, hroot, -⟩ := MhlProps.C06.writeOne_number _ _ _ _ _ _ _ _ hw₂
  refine ⟨h1, ?_, h3, h4, w₂, h2, hroot, ?_⟩
  · unfold Outcome.exitCode; rw [h1]
  · rw [hnum]
    rfl

theorem reseal_same_ok (hS : Setting env rn cs o) :
    (createFolder env (sealedTree env rn cs o) o).err = none :=
  (reseal_ok hS o hS.formats hS.noRename (MhlProps.C12.setPatterns_contains_new _ _ _).1
    (MhlProps.C12.setPatterns_contains_new _ _ _).2).1

theorem reseal_formats_ok (hS : Setting env rn cs o) (fmts : List String) (hf : fmts ≠ []) (noDir : Bool) :
    (createFolder env (sealedTree env rn cs o) { formats := fmts, noDirHashes := noDir }).err = none :=
  (reseal_ok hS { formats := fmts, noDirHashes := noDir } hf rfl (by simp) (by simp)).1

theorem reseal_ok_create (hS : Setting env rn cs o) (o₂ : CreateOpts) (hsf₂ : o₂.singleFiles = [])
    (hf₂ : o₂.formats ≠ []) (hdr₂ : o₂.detectRenaming = false)
    (hcli : ∀ x ∈ o₂.ignoreCli, x ∈ setPatterns none o.ignoreCli o.ignoreFile)
    (hfile : ∀ x ∈ o₂.ignoreFile, x ∈ setPatterns none o.ignoreCli o.ignoreFile) :
    (create env (applyWritten (.dir rn cs none) (create env (.dir rn cs none) o).written) o₂).err = none ∧
    (create env (applyWritten (.dir rn cs none) (create env (.dir rn cs none) o).written) o₂).exitCode = 0 := by
  rw [create_eq_createFolder _ _ o hS.singleFiles, create_eq_createFolder _ _ o₂ hsf₂]
  exact ⟨(reseal_ok hS o₂ hf₂ hdr₂ hcli hfile).1, (reseal_ok hS o₂ hf₂ hdr₂ hcli hfile).2.1⟩

/-! ### 6. an altered file is detected -/

/-- which entry verify compares a sealed file with.  The writer sorts the entries of a file record by format NAME
(`_media_hash_xml_element`), all entries of a first generation are `original`, and `findOriginal` takes the first
`original` entry of the record; so it is the entry of `firstFormat o.formats`, the LEAST requested format name in
string order (not the first one given on the command line), carrying the digest of the content at seal time -/
theorem original_entry_after_seal (hS : Setting env rn cs o) (w : Written)
    (hw : (createFolder env (.dir rn cs none) o).written = [w]) (p : RelPath)
    (hp : (p, false) ∈ visiblePaths (hit0 env o) (.dir rn cs none)) :
    findOriginal (sealedHist w).gens (posix p) =
      some { fmt := firstFormat o.formats,
             digest := env.H (firstFormat o.formats) (fileContent (.dir rn cs none) p),
             action := "original" } ∧
    firstFormat o.formats ∈ o.formats ∧ ∀ f ∈ o.formats, firstFormat o.formats ≤ f := by
  obtain ⟨h1, h2⟩ := firstFormat_spec o.formats hS.formats
  refine ⟨(sealed_records hS w hw).sealedGen.findOriginal_eq hS.formats 1 p hp, h1, ?_⟩
  intro f hf
  simpa [strLe] using h2 f hf

/-- the sealed tree with the content of the file at `p` replaced by `c'` -/
def alteredTree (env : Env) (rn : String) (cs : List Node) (o : CreateOpts) (p : RelPath) (c' : Bytes) : Node :=
  Node.updateAt (setContent c') (sealedTree env rn cs o) p

theorem sealedTree_snapshot (hS : Setting env rn cs o) (w : Written)
    (hw : (createFolder env (.dir rn cs none) o).written = [w]) :
    Snapshot env (sealedHist w) (hit0 env o) (sealedTree env rn cs o) (fun _ => firstFormat o.formats) :=
  (sealed_snapshot hS w hw).of_sameFiles (sealed_sameFiles env rn cs o)

theorem alteredTree_loads (hS : Setting env rn cs o) (w : Written)
    (hw : (createFolder env (.dir rn cs none) o).written = [w]) (p : RelPath) (c' : Bytes) :
    loadHistory (alteredTree env rn cs o p c') = .ok (sealedHist w) :=
  (loadHistory_setContent_n1 c' _ p).trans (sealed_tree_loads hS w hw).1

theorem altered_run (hS : Setting env rn cs o) (p : RelPath)
    (hp : (p, false) ∈ visiblePaths (hit0 env o) (.dir rn cs none)) (c' : Bytes)
    (hdig : env.H (firstFormat o.formats) c' ≠
      env.H (firstFormat o.formats) (fileContent (.dir rn cs none) p)) :
    (verify env (alteredTree env rn cs o p c') {}).err = some errVerifyFailed ∧
    (verify env (alteredTree env rn cs o p c') {}).exitCode = 11 ∧
    (verify env (alteredTree env rn cs o p c') {}).report.mismatch = [posix p] ∧
    (verify env (alteredTree env rn cs o p c') {}).report.new = [] ∧
    (verify env (alteredTree env rn cs o p c') {}).report.missing = [] := by
  obtain ⟨w, -, hw, -⟩ := first_seal_core hS
  have hsf := sealed_sameFiles env rn cs o
  exact (sealedTree_snapshot hS w hw).alteredAt none p c' (alteredTree_loads hS w hw p c') (hsf.visiblePaths _ ▸ hp)
    (by rw [hsf.fileContent]; exact hdig)

/-- 6. `altered_detected_after_seal`: replace the content of a visible file `p` of the sealed tree by `c'`.  If the
digest of `c'` in the format verify compares (`firstFormat o.formats`, see `original_entry_after_seal`) differs from
that of the sealed content, `verify` ends with `VerificationFailedException` (exit code 11) and names `p` as a
mismatch.  (With `env.H` arbitrary nothing forces different contents to have different digests, hence the
hypothesis on the digests.) -/
theorem altered_detected_after_seal (hS : Setting env rn cs o) (p : RelPath)
    (hp : (p, false) ∈ visiblePaths (hit0 env o) (.dir rn cs none)) (c' : Bytes)
    (hdig : env.H (firstFormat o.formats) c' ≠
      env.H (firstFormat o.formats) (fileContent (.dir rn cs none) p)) :
    (verify env (alteredTree env rn cs o p c') {}).err = some errVerifyFailed ∧
    (verify env (alteredTree env rn cs o p c') {}).exitCode = 11 ∧
    posix p ∈ (verify env (alteredTree env rn cs o p c') {}).report.mismatch := by
  obtain ⟨h1, h2, h3, -⟩ := altered_run hS p hp c' hdig
  exact ⟨h1, h2, h3 ▸ List.mem_singleton_self _⟩

/-- 6'. exactly the altered file is reported: the mismatch list is `[p]`, nothing is new, nothing is missing -/
theorem altered_report_exact (hS : Setting env rn cs o) (p : RelPath)
    (hp : (p, false) ∈ visiblePaths (hit0 env o) (.dir rn cs none)) (c' : Bytes)
    (hdig : env.H (firstFormat o.formats) c' ≠
      env.H (firstFormat o.formats) (fileContent (.dir rn cs none) p)) :
    (verify env (alteredTree env rn cs o p c') {}).report.mismatch = [posix p] ∧
    (verify env (alteredTree env rn cs o p c') {}).report.new = [] ∧
    (verify env (alteredTree env rn cs o p c') {}).report.missing = [] := by
  obtain ⟨-, -, h3, h4, h5⟩ := altered_run hS p hp c' hdig
  exact ⟨h3, h4, h5⟩

/-- the hypothesis on the digests is exactly what is needed: if the digest in that one format is unchanged, verify
judges the altered file ok (whatever digests the other recorded formats would give), and `diff`, which does not
hash, never notices a change of content -/
theorem altered_undetected (hS : Setting env rn cs o) (w : Written)
    (hw : (createFolder env (.dir rn cs none) o).written = [w]) (p : RelPath)
    (hp : (p, false) ∈ visiblePaths (hit0 env o) (.dir rn cs none)) (c' : Bytes) (hashing : Bool)
    (hdig : hashing = true → env.H (firstFormat o.formats) c' =
      env.H (firstFormat o.formats) (fileContent (.dir rn cs none) p)) :
    loadHistory (alteredTree env rn cs o p c') = .ok (sealedHist w) ∧
    judgeFile env (alteredTree env rn cs o p c') (sealedHist w) hashing p = .ok := by
  have hsf := sealed_sameFiles env rn cs o
  have hcont : fileContent (alteredTree env rn cs o p c') p = c' :=
    ((sealedTree_snapshot hS w hw).setContent_same p c' (hsf.visiblePaths _ ▸ hp)).2.1
  exact ⟨alteredTree_loads hS w hw p c',
    (sealed_snapshot hS w hw).judge_ok _ hashing hp fun h => by rw [hcont]; exact hdig h⟩

end

/-! ### non-vacuity and an independent evaluation of the pipeline -/

/-- two files, a sub-folder with a file, a file ignored by default and one ignored by option -/
def exKids : List Node :=
  [ .file "b.txt" [7], .file "a.txt" [1, 2], .dir "sub" [.file "x" [3]] none,
    .file "skip.tmp" [9], .file ".DS_Store" [] ]

def exTree : Node := .dir "root" exKids none

def exOpts : CreateOpts := { formats := ["xxh64", "md5"], ignoreCli := ["skip.tmp"] }

theorem exSetting : Setting exEnv "root" exKids exOpts where
  flat := by rfl
  distinct := by simp [exKids, Node.NamesDistinct, Node.NamesDistinctKids, Node.name]
  namesOk := by decide +kernel
  rootName := by decide +kernel
  stamp := by decide +kernel
  singleFiles := rfl
  noRename := rfl
  formats := by decide

/-- the first run, evaluated: exit 0, one generation, number 1, named after folder and stamp, carrying the
pattern list of the run, with one record per visible entry (the two ignored files have none) -/
example : (createFolder exEnv exTree exOpts).err = none ∧
    ((createFolder exEnv exTree exOpts).written.map fun w => (w.histRoot, w.number)) = [([], 1)] ∧
    ((createFolder exEnv exTree exOpts).written.map fun w => w.gen.fileName.toList) =
      ["0001_root_2020-01-16_091500Z.mhl".toList] ∧
    ((createFolder exEnv exTree exOpts).written.map fun w => w.gen.ignore) =
      [[".DS_Store", "ascmhl", "ascmhl/", "skip.tmp"]] ∧
    ((createFolder exEnv exTree exOpts).written.map fun w =>
      w.gen.records.map fun r => (r.path, r.isDir, r.entries.map fun e => (e.digest, e.action))) =
      [[("sub/x", false, [("md5:1", "original"), ("xxh64:1", "original")]),
        ("sub", true, [("md5:0", ""), ("xxh64:0", "")]),
        ("a.txt", false, [("md5:2", "original"), ("xxh64:2", "original")]),
        ("b.txt", false, [("md5:1", "original"), ("xxh64:1", "original")])]] := by
  decide +kernel

example : (match loadHistory (sealedTree exEnv "root" exKids exOpts) with
    | .ok h => some (h.root, h.gens.map (·.number), h.chain.map (·.seq), h.children.length)
    | .error _ => none) = some ([], [1], [1], 0) := by decide +kernel

def exW : Written := (createFolder exEnv exTree exOpts).written.headD default
def exSealed : Node := sealedTree exEnv "root" exKids exOpts

theorem exW_written : (createFolder exEnv exTree exOpts).written = [exW] := by
  obtain ⟨-, -, -, -, w, hw, -⟩ := first_seal_ok exSetting
  have : exW = w := by
    unfold exW
    rw [show exTree = Node.dir "root" exKids none from rfl, hw]
    rfl
  rw [this]; exact hw

theorem ex_load : loadHistory exSealed = .ok (sealedHist exW) :=
  (sealed_tree_loads exSetting exW exW_written).1

/-- the matcher verify / diff use on the sealed tree, the visible paths, the expected paths: evaluated -/
example : setPatterns (latestIgnore (sealedHist exW).gens) [] [] = [".DS_Store", "ascmhl", "ascmhl/", "skip.tmp"] ∧
    (visiblePaths (vHit exEnv (sealedHist exW) {}) exSealed).map (fun x => (posix x.1, x.2)) =
      [("sub/x", false), ("a.txt", false), ("b.txt", false), ("sub", true)] := by
  decide +kernel

theorem ex_expected : expectedPaths (sealedHist exW) = [["sub", "x"], ["sub"], ["a.txt"], ["b.txt"]] := by
  unfold sealedHist
  rw [expectedPaths_eq_with]
  decide +kernel

theorem ex_missing : vMissing exEnv exSealed (sealedHist exW) {} = [] := by
  unfold vMissing; rw [ex_expected]; decide +kernel

/-- verify and diff on the unchanged sealed tree, EVALUATED (independently of the theorems above, except that the
history is the one `sealed_tree_loads` gives and `splitPath` is evaluated through `splitPathL`): exit code 0 and
empty reports -/
example : (verify exEnv exSealed {}).exitCode = 0 ∧ (verify exEnv exSealed {}).report.mismatch = [] ∧
    (verify exEnv exSealed {}).report.new = [] ∧ (verify exEnv exSealed {}).report.missing = [] ∧
    (diff exEnv exSealed {}).exitCode = 0 ∧ (diff exEnv exSealed {}).report.new = [] := by
  have hd : diff exEnv exSealed {} = verifyOrDiff exEnv exSealed {} false none := rfl
  rw [hd, MhlProps.C03.verify_def, verifyOrDiff_loaded _ _ _ _ none (sealedHist exW) ex_load (sealedHist_gens_ne exW),
    verifyOrDiff_loaded _ _ _ _ none (sealedHist exW) ex_load (sealedHist_gens_ne exW), ex_missing]
  decide +kernel

example : (verify exEnv exSealed {}).exitCode = 0 ∧ (diff exEnv exSealed {}).exitCode = 0 :=
  ⟨(verify_after_seal exSetting).2.1, (verify_after_seal exSetting).2.2.2.2.2.2.1⟩

/-- the options of a second `create` with a format disjoint from the first ones; on the unchanged sealed tree it ends
with exit code 0 by the theorem, and what it writes is evaluated below: generation 2, the first recorded format
verified, the new one added -/
def exOpts2 : CreateOpts := { formats := ["sha1"] }

example : (createFolder exEnv exSealed exOpts2).err = none ∧ (createFolder exEnv exSealed exOpts).err = none :=
  ⟨(reseal_ok exSetting exOpts2 (by decide) rfl (by simp [exOpts2]) (by simp [exOpts2])).1, reseal_same_ok exSetting⟩

example : ((createFolder exEnv exSealed exOpts2).written.map fun w => (w.histRoot, w.number)) = [([], 2)] ∧
    ((createFolder exEnv exSealed exOpts2).written.map fun w =>
      w.gen.records.map fun r => (r.path, r.entries.map fun e => (e.digest, e.action))) =
      [[("sub/x", [("md5:1", "verified"), ("sha1:1", "verified")]), ("sub", [("sha1:0", "")]),
        ("a.txt", [("md5:2", "verified"), ("sha1:2", "verified")]),
        ("b.txt", [("md5:1", "verified"), ("sha1:1", "verified")])]] ∧
    (createFolder exEnv exSealed exOpts2).report.mismatch = [] := by
  decide +kernel

/-- the format verify compares: the least format NAME, not the first one given -/
example : firstFormat exOpts.formats = "md5" ∧ exOpts.formats.head? = some "xxh64" := by decide +kernel

/-- `a.txt` altered (three bytes instead of two): detected, by the theorem … -/
def exAltered : Node := alteredTree exEnv "root" exKids exOpts ["a.txt"] [1, 2, 3]

theorem ex_a_visible : (["a.txt"], false) ∈ visiblePaths (hit0 exEnv exOpts) (.dir "root" exKids none) := by
  decide +kernel

theorem ex_a_digest : exEnv.H (firstFormat exOpts.formats) [1, 2, 3] ≠
    exEnv.H (firstFormat exOpts.formats) (fileContent (.dir "root" exKids none) ["a.txt"]) := by
  decide +kernel

-- `exAltered` is unfolded first: left to the unifier, the projections of `verify … exAltered` get evaluated
example : (verify exEnv exAltered {}).err = some errVerifyFailed ∧ (verify exEnv exAltered {}).exitCode = 11 ∧
    "a.txt" ∈ (verify exEnv exAltered {}).report.mismatch := by
  unfold exAltered
  exact altered_detected_after_seal exSetting ["a.txt"] ex_a_visible [1, 2, 3] ex_a_digest

/-- the altered tree loads as the sealed history (for the evaluation below: exit code 11, exactly `a.txt` reported,
nothing new or missing; `diff` still says 0) -/
theorem ex_load_altered : loadHistory exAltered = .ok (sealedHist exW) :=
  alteredTree_loads exSetting exW exW_written ["a.txt"] [1, 2, 3]

theorem ex_missing_altered : vMissing exEnv exAltered (sealedHist exW) {} = [] := by
  unfold vMissing; rw [ex_expected]; decide +kernel

example : (verify exEnv exAltered {}).exitCode = 11 ∧ (verify exEnv exAltered {}).report.mismatch = ["a.txt"] ∧
    (verify exEnv exAltered {}).report.new = [] ∧ (verify exEnv exAltered {}).report.missing = [] ∧
    (diff exEnv exAltered {}).exitCode = 0 := by
  have hd : diff exEnv exAltered {} = verifyOrDiff exEnv exAltered {} false none := rfl
  rw [hd, MhlProps.C03.verify_def,
    verifyOrDiff_loaded _ _ _ _ none (sealedHist exW) ex_load_altered (sealedHist_gens_ne exW),
    verifyOrDiff_loaded _ _ _ _ none (sealedHist exW) ex_load_altered (sealedHist_gens_ne exW), ex_missing_altered]
  decide +kernel

example : (verify exEnv exAltered {}).report.mismatch = ["a.txt"] ∧ (verify exEnv exAltered {}).report.new = [] ∧
    (verify exEnv exAltered {}).report.missing = [] := by
  unfold exAltered
  exact altered_report_exact exSetting ["a.txt"] ex_a_visible [1, 2, 3] ex_a_digest

example : (verify exEnv (alteredTree exEnv "root" exKids exOpts ["sub", "x"] []) {}).exitCode = 11 ∧
    "sub/x" ∈ (verify exEnv (alteredTree exEnv "root" exKids exOpts ["sub", "x"] []) {}).report.mismatch :=
  (altered_detected_after_seal exSetting ["sub", "x"] (by decide +kernel) [] (by decide +kernel)).2

/-- the hypothesis on the digests cannot be dropped: the toy digest only sees the length, a change that keeps the
length is judged ok -/
example : judgeFile exEnv (alteredTree exEnv "root" exKids exOpts ["a.txt"] [9, 9]) (sealedHist exW) true ["a.txt"]
    = .ok := by decide +kernel


end MhlProps.C03e2e
