/-
C03nested — property C03 END TO END for trees WITH NESTED HISTORIES: seal from the outer root, then verify / diff
(MhlProps/C03e2e.lean has the pipeline for one flat history).

The tree `t` is arbitrary: its loaded history `h` may have children and grand-children that already have generations
(reels sealed on their own earlier); the ROOT folder has no `ascmhl` folder yet — the common "seal the card folder that
contains sealed reels" case.  `Setting_n2 env t o h`: names distinct and well-formed, no line feed in `env.rootName`,
`env.stamp` and the names of the folders that hold nested histories (else the new manifest's name does not parse, C06;
`folder_names_needed`), a folder-mode `create` without `-dr` and with at least one format, every visible file consistent
with the history that owns it (C04nested's `AllConsistent`).

  out := createFolder env t o      t' := applyWritten t out.written  (`sealedTree_n2`)     h' := addWritten out.written h

t' loads as h' (`nested_sealed_tree_loads`), h' records t in the sense of `Snapshot` (Proofs/SnapshotLemmas.lean), so
verify / diff end with 0 on t' and detect one altered, removed or added file in whichever history owns it, at any depth
(`nested_verify_after_seal`, `nested_altered_detected`, `nested_removed_detected`, `nested_added_detected`); the
`*_detected_any` say the same of ANY tree that loads as h', with the precedence of the exit codes.  The run itself
(`Setting_n2.run`) is a `SealedRun` (MhlProps/Proofs/SealedRunLemmas.lean), which proves this for a root history with or
without generations.  Hypotheses beyond the setting:
  * `OldShaped`: in the OLDER generations of the nested histories a visible file either has no record at all, or is
    recorded under its own name with an original entry that is the reference entry of its format — the shape `create`
    leaves, and what `nested_every_file_recorded` re-establishes.  Without it verify on the unchanged sealed tree can
    end with 11: `old_shape_needed`.
  * `ExpectedPresent`: everything the older nested generations recorded is still there or ignored (for the NEW
    generations this is proved: `SealedRun.expected_sound`).
  * for an added file `Unrecorded h q`: it is new to the history that owns it (vacuous for the root history and for
    nested histories without generations) — otherwise the model judges it against the old record, not as new.
  * for an altered file the digests differ in the format compared (`env.H` is arbitrary).
The last part evaluates everything on the two- and three-level trees of Proofs/ExampleWorlds.lean.
-/
import MhlProps.Proofs.SealedRunLemmas

namespace MhlProps.C03nested
open MhlModel MhlProps.C02rec MhlProps.C04 MhlProps.C04nested MhlProps.C08part

structure Setting_n2 (env : Env) (t : Node) (o : CreateOpts) (h : Hist) : Prop where
  load : loadHistory t = .ok h
  distinct : t.NamesDistinct
  namesOk : t.NamesOk
  /-- the command root is a folder … -/
  isDir : t.isDir = true
  /-- … that has no `ascmhl` folder yet (the nested ones may have, with generations) -/
  rootFresh : t.hist = none
  rootName : '\n' ∉ env.rootName.toList
  stamp : '\n' ∉ env.stamp.toList
  /-- no folder holding a nested history has a line feed in its name (else the new manifest's name does not parse) -/
  folderNames : ∀ c ∈ allDescendants h, ∀ n, c.root.getLast? = some n → '\n' ∉ n.toList
  singleFiles : o.singleFiles = []
  noRename : o.detectRenaming = false
  formats : o.formats ≠ []
  /-- every visible file is consistent with the history that owns it (C04nested) -/
  consistent : AllConsistent env t h o

def sealedTree_n2 (env : Env) (t : Node) (o : CreateOpts) : Node := applyWritten t (createFolder env t o).written

/-- the history the sealed tree loads as (`nested_sealed_tree_loads`) -/
def sealedHist_n2 (env : Env) (t : Node) (o : CreateOpts) (h : Hist) : Hist :=
  addWritten (createFolder env t o).written h

/-- the pattern list of the sealing run (the root has no generation yet) -/
abbrev pats_n2 (o : CreateOpts) : List String := setPatterns none o.ignoreCli o.ignoreFile

abbrev hit0_n2 (env : Env) (o : CreateOpts) : RelPath → Bool := env.hit (pats_n2 o)

section
variable {env : Env} {t : Node} {o : CreateOpts} {h : Hist}

theorem root_gens_nil (hS : Setting_n2 env t o h) : h.gens = [] ∧ h.root = [] := by
  obtain ⟨kids, -, rfl⟩ := loadHistory_ok_eq t h hS.load
  rw [hS.rootFresh]
  exact ⟨rfl, rfl⟩

theorem cHit_eq_n2 (hS : Setting_n2 env t o h) : cHit env h o = hit0_n2 env o := by
  unfold cHit
  rw [(root_gens_nil hS).1]
  rfl

theorem Setting_n2.run (hS : Setting_n2 env t o h) : SealedRun env t o h (createFolder env t o).written := by
  refine .of_consistent hS.load hS.distinct hS.namesOk hS.isDir hS.formats hS.noRename hS.consistent
    ⟨hS.stamp, fun x hxa => ?_⟩
  rcases List.mem_cons.1 hxa with rfl | hxd
  · rw [(root_gens_nil hS).2]; exact hS.rootName
  · cases hl : x.root.getLast? with
    | none => exact hS.rootName
    | some n => exact hS.folderNames x hxd n hl

/-! ### the sealed tree loads -/

/-- the tree with the written generations loads, as `addWritten written h`: the same
tree of histories (same roots, same children in the same order); a history that wrote has its old generations
followed by exactly the new one, numbered one above its latest; a history that did not write is unchanged; the root
history now consists of generation 1. -/
theorem nested_sealed_tree_loads (hS : Setting_n2 env t o h) :
    loadHistory (sealedTree_n2 env t o) = .ok (sealedHist_n2 env t o h) ∧
    (sealedHist_n2 env t o h).root = [] ∧
    (sealedHist_n2 env t o h).all.map (·.root) = h.all.map (·.root) ∧
    (sealedHist_n2 env t o h).all = h.all.map (addWritten (createFolder env t o).written) ∧
    (∀ x, (addWritten (createFolder env t o).written x).root = x.root ∧
      (addWritten (createFolder env t o).written x).children =
        x.children.map (addWritten (createFolder env t o).written)) ∧
    (∀ x ∈ h.all,
      (∃ w ∈ (createFolder env t o).written, w.histRoot = x.root ∧
        w.number = latestGenerationNumber x.gens + 1 ∧
        (addWritten (createFolder env t o).written x).gens = x.gens ++ [⟨w.number, w.gen⟩] ∧
        (addWritten (createFolder env t o).written x).chain = x.chain ++ [⟨w.number, w.gen.fileName⟩]) ∨
      ((∀ w ∈ (createFolder env t o).written, w.histRoot ≠ x.root) ∧
        (addWritten (createFolder env t o).written x).gens = x.gens ∧
        (addWritten (createFolder env t o).written x).chain = x.chain)) ∧
    (∃ w ∈ (createFolder env t o).written, w.histRoot = [] ∧ w.number = 1 ∧
      (sealedHist_n2 env t o h).gens = [⟨1, w.gen⟩]) := by
  have R := hS.run
  unfold sealedTree_n2 sealedHist_n2
  generalize (createFolder env t o).written = ws at R ⊢
  refine ⟨R.reload, ?_, ?_, all_addWritten ws h, fun x => ⟨addWritten_root ws x, addWritten_children ws x⟩, ?_, ?_⟩
  · rw [addWritten_root]; exact (root_gens_nil hS).2
  · rw [all_addWritten, List.map_map]
    exact List.map_congr_left fun x _ => addWritten_root ws x
  · intro x hx
    by_cases hw : ∃ w ∈ ws, w.histRoot = x.root
    · obtain ⟨w, hwm, hwx⟩ := hw
      obtain ⟨x', hx', hxr', hnum⟩ := R.written_for hwm
      cases mem_all_root_inj R.histOK.nodup hx' hx (hxr'.trans hwx)
      exact Or.inl ⟨w, hwm, hwx, hnum, R.gens_of hwm hwx.symm, R.chain_of hwm hwx.symm⟩
    · have hne : ∀ w ∈ ws, w.histRoot ≠ x.root := fun w hwm he => hw ⟨w, hwm, he⟩
      exact Or.inr ⟨hne, by rw [addWritten_gens, newGens_of_ne ws _ hne, List.append_nil],
        by rw [addWritten_chain, newChain_of_ne ws _ hne, List.append_nil]⟩
  · obtain ⟨w, hw, hwr, hg, hnum, -⟩ := R.root_gen
    rw [(root_gens_nil hS).1] at hg hnum
    exact ⟨w, hw, hwr, hnum, by rw [hg, hnum]; rfl⟩

/-! ### what verify / diff see on the sealed tree -/

theorem sameFiles_sealed (env : Env) (t : Node) (o : CreateOpts) : SameFilesDh t (sealedTree_n2 env t o) :=
  sameFilesDh_applyWritten t _

theorem sealedHist_gens_ne_n2 (hS : Setting_n2 env t o h) : (sealedHist_n2 env t o h).gens ≠ [] := hS.run.gens_ne

/-- the pattern list verify / diff (without options) build on the sealed tree is the list of the sealing run; so
they use the same matcher and see the same visible paths as `create` saw -/
theorem sealed_ignore_stable_n2 (hS : Setting_n2 env t o h) :
    setPatterns (latestIgnore (sealedHist_n2 env t o h).gens) [] [] = pats_n2 o ∧
    vHit env (sealedHist_n2 env t o h) {} = hit0_n2 env o ∧
    visiblePaths (vHit env (sealedHist_n2 env t o h) {}) (sealedTree_n2 env t o) = visiblePaths (hit0_n2 env o) t := by
  have hhit : vHit env (sealedHist_n2 env t o h) {} = hit0_n2 env o := hS.run.matcher.trans (cHit_eq_n2 hS)
  refine ⟨?_, hhit, by rw [hhit]; exact (sameFiles_sealed env t o).visiblePaths _⟩
  rw [sealedHist_n2, hS.run.patterns, (root_gens_nil hS).1]
  rfl

/-! ### every visible file is recorded -/

/-- the shape `create` leaves in the OLDER generations of the nested histories: in the history that owns it a visible
file either has no record at all (always so for the files of the root history and of nested histories without
generations), or it is recorded under its own name with an ORIGINAL entry that is the reference entry of its
format.  This is the invariant of `create`: it holds again on the sealed tree (`nested_every_file_recorded`); it
cannot be dropped (`old_shape_needed`). -/
def OldShaped (env : Env) (t : Node) (o : CreateOpts) (h : Hist) : Prop :=
  ∀ p, (p, false) ∈ visiblePaths (hit0_n2 env o) t →
    Unrecorded h p ∨ RecordedOriginal (owner_u h p).gens (ownerRel h p)

/-- on the sealed tree every file the sealing run saw is, in the history that owns
it (the same history as before the run, with its new generation), looked up under its own name, has an ORIGINAL entry
— from an older generation of a nested history, or from the new generation when the path had no record yet — which is
the reference entry of its format, and every reference digest is the digest of the (unchanged) content.  So the
invariant `OldShaped` ∧ `AllConsistent` holds again, with "recorded" in place of "unrecorded or recorded". -/
theorem nested_every_file_recorded (hS : Setting_n2 env t o h) (hshape : OldShaped env t o h) (p : RelPath)
    (hp : (p, false) ∈ visiblePaths (hit0_n2 env o) t) :
    RecordedConsistent env (sealedTree_n2 env t o) (sealedHist_n2 env t o h) p ∧
    recordedName (owner_u (sealedHist_n2 env t o h) p).gens (ownerRel (sealedHist_n2 env t o h) p) =
      ownerRel (sealedHist_n2 env t o h) p ∧
    ∃ e, findOriginal (owner_u (sealedHist_n2 env t o h) p).gens (ownerRel (sealedHist_n2 env t o h) p) = some e ∧
      e.action = "original" ∧ e.digest = env.H e.fmt (fileContent t p) := by
  have hp' := hp
  rw [← cHit_eq_n2 hS] at hp'
  have hrec := hS.run.file_recorded hS.consistent hp' (hshape p hp)
  obtain ⟨e, ho, ha, hd, -⟩ := hS.run.judge hS.consistent hp' (hshape p hp) t false
  exact ⟨hrec, hrec.1.1, e, ho, ha, hd⟩

/-! ### verify and diff on the unchanged sealed tree -/

theorem nested_snapshot (hS : Setting_n2 env t o h) (hshape : OldShaped env t o h) (hexp : ExpectedPresent env t h o) :
    Snapshot env (sealedHist_n2 env t o h) (hit0_n2 env o) t (origFmt (sealedHist_n2 env t o h)) := by
  rw [← cHit_eq_n2 hS]
  exact hS.run.snapshot hS.consistent (fun p hp => hshape p (cHit_eq_n2 hS ▸ hp)) hexp

theorem sealed_snapshot_n2 (hS : Setting_n2 env t o h) (hshape : OldShaped env t o h) (hexp : ExpectedPresent env t h o) :
    Snapshot env (sealedHist_n2 env t o h) (hit0_n2 env o) (sealedTree_n2 env t o) (origFmt (sealedHist_n2 env t o h)) :=
  (nested_snapshot hS hshape hexp).of_sameFiles (sameFiles_sealed env t o)

/-- on the tree unchanged since it was sealed from the outer root, `verify` and `diff`
end with exit code 0 and report no mismatch, no new file, no missing file.  Hypotheses beyond the setting: the older
generations of the nested histories have the shape `create` leaves (`OldShaped`; without it the statement is false:
`old_shape_needed`), and everything they recorded is still there or ignored (`ExpectedPresent`). -/
theorem nested_verify_after_seal (hS : Setting_n2 env t o h) (hshape : OldShaped env t o h)
    (hexp : ExpectedPresent env t h o) :
    ((verify env (sealedTree_n2 env t o) {}).err = none ∧ (verify env (sealedTree_n2 env t o) {}).exitCode = 0 ∧
      (verify env (sealedTree_n2 env t o) {}).report.mismatch = [] ∧
      (verify env (sealedTree_n2 env t o) {}).report.new = [] ∧
      (verify env (sealedTree_n2 env t o) {}).report.missing = []) ∧
    ((diff env (sealedTree_n2 env t o) {}).err = none ∧ (diff env (sealedTree_n2 env t o) {}).exitCode = 0 ∧
      (diff env (sealedTree_n2 env t o) {}).report.mismatch = [] ∧
      (diff env (sealedTree_n2 env t o) {}).report.new = [] ∧
      (diff env (sealedTree_n2 env t o) {}).report.missing = []) :=
  have hshape' := fun p hp => hshape p (cHit_eq_n2 hS ▸ hp)
  ⟨hS.run.verify_ok hS.consistent hshape' hexp true, hS.run.verify_ok hS.consistent hshape' hexp false⟩

/-! ### an altered file is detected, whichever history owns it -/

def alteredTree_n2 (env : Env) (t : Node) (o : CreateOpts) (p : RelPath) (c' : Bytes) : Node :=
  Node.updateAt (setContent c') (sealedTree_n2 env t o) p

/-- replace the content of a visible file `p` of the sealed tree by `c'` — `p` may
belong to the root history or to a nested one at any depth.  If the digest of `c'` differs from that of the sealed
content in the format of the entry `findOriginal` picks in the history that OWNS `p`, then `verify` from the outer
root ends with `VerificationFailedException` (exit code 11) and reports exactly `p`, with its path from the command
root: mismatch `[posix p]`, nothing new, nothing missing. -/
theorem nested_altered_detected (hS : Setting_n2 env t o h) (hshape : OldShaped env t o h)
    (hexp : ExpectedPresent env t h o) (p : RelPath) (hp : (p, false) ∈ visiblePaths (hit0_n2 env o) t)
    (c' : Bytes) (e : Entry)
    (he : findOriginal (owner_u (sealedHist_n2 env t o h) p).gens (ownerRel (sealedHist_n2 env t o h) p) = some e)
    (hdig : env.H e.fmt c' ≠ env.H e.fmt (fileContent t p)) :
    (verify env (alteredTree_n2 env t o p c') {}).err = some errVerifyFailed ∧
    (verify env (alteredTree_n2 env t o p c') {}).exitCode = 11 ∧
    posix p ∈ (verify env (alteredTree_n2 env t o p c') {}).report.mismatch ∧
    (verify env (alteredTree_n2 env t o p c') {}).report.mismatch = [posix p] ∧
    (verify env (alteredTree_n2 env t o p c') {}).report.new = [] ∧
    (verify env (alteredTree_n2 env t o p c') {}).report.missing = [] := by
  have hsf := sameFiles_sealed env t o
  obtain ⟨h1, h2, h3, h4, h5⟩ := (sealed_snapshot_n2 hS hshape hexp).alteredAt none p c'
    ((loadHistory_setContent_n1 c' _ p).trans (nested_sealed_tree_loads hS).1) (hsf.visiblePaths _ ▸ hp)
    (by rw [origFmt, he, hsf.fileContent]; exact hdig)
  exact ⟨h1, h2, h3 ▸ List.mem_singleton_self _, h3, h4, h5⟩

/-! ### a removed file is detected -/

def removedTree (env : Env) (t : Node) (o : CreateOpts) (pa : RelPath) (na : String) : Node :=
  Node.updateAt (removeChild na) (sealedTree_n2 env t o) pa

/-- remove a visible file `p = pa ++ [na]` of the sealed tree (the node is taken out of
its folder; `p` may belong to a nested history at any depth).  Then `diff` and `verify` from the outer root end with
`CompletenessCheckFailedException` (exit code 10) and report exactly `p`, with its path from the command root, as
missing; nothing is new, nothing mismatches. -/
theorem nested_removed_detected (hS : Setting_n2 env t o h) (hshape : OldShaped env t o h)
    (hexp : ExpectedPresent env t h o) (pa : RelPath) (na : String)
    (hp : (pa ++ [na], false) ∈ visiblePaths (hit0_n2 env o) t) :
    ((diff env (removedTree env t o pa na) {}).err = some errMissingFiles ∧
      (diff env (removedTree env t o pa na) {}).exitCode = 10 ∧
      (diff env (removedTree env t o pa na) {}).report.missing = [posix (pa ++ [na])] ∧
      (diff env (removedTree env t o pa na) {}).report.new = [] ∧
      (diff env (removedTree env t o pa na) {}).report.mismatch = []) ∧
    ((verify env (removedTree env t o pa na) {}).err = some errMissingFiles ∧
      (verify env (removedTree env t o pa na) {}).exitCode = 10 ∧
      (verify env (removedTree env t o pa na) {}).report.missing = [posix (pa ++ [na])] ∧
      (verify env (removedTree env t o pa na) {}).report.new = [] ∧
      (verify env (removedTree env t o pa na) {}).report.mismatch = []) := by
  have S := sealed_snapshot_n2 hS hshape hexp
  have hp' := (sameFiles_sealed env t o).visiblePaths _ ▸ hp
  obtain ⟨nm, c, hat⟩ := S.file_at hp'
  have hrun := fun hashing => S.removedAt none hashing pa na
    ((loadHistory_removeAt _ S.distinct pa na nm c hat).trans (nested_sealed_tree_loads hS).1) hp'
    (hS.run.file_expected (cHit_eq_n2 hS ▸ hp))
  exact ⟨⟨(hrun false).1, (hrun false).2.1, (hrun false).2.2.2.2, (hrun false).2.2.2.1, (hrun false).2.2.1⟩,
    (hrun true).1, (hrun true).2.1, (hrun true).2.2.2.2, (hrun true).2.2.2.1, (hrun true).2.2.1⟩

/-! ### an added file is detected -/

def addedTree (env : Env) (t : Node) (o : CreateOpts) (pb : RelPath) (nb : String) (c : Bytes) : Node :=
  Node.updateAt (addChild (.file nb c)) (sealedTree_n2 env t o) pb

theorem judge_new_of_unrecorded (env : Env) (T : Node) (H : Hist) (hashing : Bool) (q : RelPath)
    (hun : Unrecorded H q) : judgeFile env T H hashing q = .new := by
  exact judgeFile_of_none rfl (recordedName_of_unrecorded _ _ hun) (findOriginal_unrecorded hun) T hashing

/-- add a new file `q = pb ++ [nb]` to a visible folder `pb` of the sealed tree (below a
nested history root or not), not ignored, and new to the history that owns it (no older generation of that history
has a record for it — nothing to assume when the owner is the root history or a nested history without generations).
Then `verify` and `diff` from the outer root end with `NewFilesFoundException` (exit code 21) and report exactly `q`,
with its path from the command root, as new; nothing mismatches, nothing is missing. -/
theorem nested_added_detected (hS : Setting_n2 env t o h) (hshape : OldShaped env t o h)
    (hexp : ExpectedPresent env t h o) (pb : RelPath) (nb : String) (c : Bytes)
    (hpb : pb = [] ∨ (pb, true) ∈ visiblePaths (hit0_n2 env o) t) (hnb : NameOk nb)
    (hfresh : t.at? (pb ++ [nb]) = none) (hhit : hit0_n2 env o (pb ++ [nb]) = false)
    (hnew : Unrecorded h (pb ++ [nb])) :
    ((verify env (addedTree env t o pb nb c) {}).err = some errNewFiles ∧
      (verify env (addedTree env t o pb nb c) {}).exitCode = 21 ∧
      (verify env (addedTree env t o pb nb c) {}).report.new = [posix (pb ++ [nb])] ∧
      (verify env (addedTree env t o pb nb c) {}).report.mismatch = [] ∧
      (verify env (addedTree env t o pb nb c) {}).report.missing = []) ∧
    ((diff env (addedTree env t o pb nb c) {}).err = some errNewFiles ∧
      (diff env (addedTree env t o pb nb c) {}).exitCode = 21 ∧
      (diff env (addedTree env t o pb nb c) {}).report.new = [posix (pb ++ [nb])] ∧
      (diff env (addedTree env t o pb nb c) {}).report.mismatch = [] ∧
      (diff env (addedTree env t o pb nb c) {}).report.missing = []) := by
  have hqnames : ∀ s ∈ pb ++ [nb], NameOk s := by
    intro s hs
    rcases List.mem_append.1 hs with h1 | h1
    · rcases hpb with rfl | hv
      · cases h1
      · exact (visible_names_ok _ t hS.namesOk _ hv).2 s h1
    · exact List.mem_singleton.1 h1 ▸ hnb
  have hsf := sameFiles_sealed env t o
  have S := sealed_snapshot_n2 hS hshape hexp
  have hfresh' := (hsf.at? _).1.2 hfresh
  have hrun := fun hashing => S.addedAt none hashing pb nb c
    ((loadHistory_addAt _ S.distinct pb nb c hfresh').trans (nested_sealed_tree_loads hS).1) (hsf.isDir.trans hS.isDir)
    (hsf.visiblePaths _ ▸ hpb) hfresh' hhit
    (judge_new_of_unrecorded env _ _ hashing _ (hS.run.unrecorded_after (by simp) hqnames hfresh hnew))
  exact ⟨⟨(hrun true).1, (hrun true).2.1, (hrun true).2.2.2.1, (hrun true).2.2.1, (hrun true).2.2.2.2⟩,
    (hrun false).1, (hrun false).2.1, (hrun false).2.2.2.1, (hrun false).2.2.1, (hrun false).2.2.2.2⟩

end

/-! ### in any company: the precedence of the exit codes

The theorems above change ONE thing.  The following hold for ANY tree `T` that loads as the sealed history
(whatever else was altered, removed or added): each discrepancy is in its list, and the exit code follows the
precedence of the model — verify: mismatch (11) over new (21) over missing (10); diff: missing (10) over new (21). -/

section
variable {env : Env} {t : Node} {o : CreateOpts} {h : Hist}

/-- an altered file is named and `verify` ends with 11, whatever else happened to the tree -/
theorem altered_detected_any (hS : Setting_n2 env t o h) (hshape : OldShaped env t o h) (T : Node)
    (hl : loadHistory T = .ok (sealedHist_n2 env t o h)) (p : RelPath)
    (hp : (p, false) ∈ visiblePaths (hit0_n2 env o) t) (hpT : (p, false) ∈ visiblePaths (hit0_n2 env o) T) (e : Entry)
    (he : findOriginal (owner_u (sealedHist_n2 env t o h) p).gens (ownerRel (sealedHist_n2 env t o h) p) = some e)
    (hdig : env.H e.fmt (fileContent T p) ≠ env.H e.fmt (fileContent t p)) :
    posix p ∈ (verify env T {}).report.mismatch ∧ (verify env T {}).err = some errVerifyFailed ∧
    (verify env T {}).exitCode = 11 := by
  obtain ⟨-, hhit, -⟩ := sealed_ignore_stable_n2 hS
  obtain ⟨e', he', -, hd', hj⟩ := hS.run.judge hS.consistent (cHit_eq_n2 hS ▸ hp) (hshape p hp) T true
  cases he.symm.trans he'
  have hjm : judgeFile env T (sealedHist_n2 env t o h) true p = .mismatch := by
    rw [sealedHist_n2, hj, hd']; simp [hdig]
  obtain ⟨-, h2, h3, h4⟩ := MhlProps.C03.mismatch_complete env T {} true (sealedHist_n2 env t o h) hl
    (sealedHist_gens_ne_n2 hS) p (by rw [hhit]; exact hpT) (Or.inl rfl) hjm
  exact ⟨h2, h3, h4⟩

/-- a file that was not there at seal time and is new to its history is named as new by verify and diff, the exit
code is not 0; it is 21 for verify unless a mismatch takes precedence, and for diff unless something is missing -/
theorem added_detected_any (hS : Setting_n2 env t o h) (T : Node)
    (hl : loadHistory T = .ok (sealedHist_n2 env t o h)) (q : RelPath) (hne : q ≠ []) (hnames : ∀ s ∈ q, NameOk s)
    (hqT : (q, false) ∈ visiblePaths (hit0_n2 env o) T) (hfresh : t.at? q = none) (hnew : Unrecorded h q) :
    posix q ∈ (verify env T {}).report.new ∧ posix q ∈ (diff env T {}).report.new ∧
    (verify env T {}).exitCode ≠ 0 ∧ (diff env T {}).exitCode ≠ 0 ∧
    (vMism env T (sealedHist_n2 env t o h) {} true = [] → (verify env T {}).exitCode = 21) ∧
    (vMissing env T (sealedHist_n2 env t o h) {} = [] → (diff env T {}).exitCode = 21) := by
  obtain ⟨-, hhit, -⟩ := sealed_ignore_stable_n2 hS
  have hg := sealedHist_gens_ne_n2 hS
  have hun : Unrecorded (sealedHist_n2 env t o h) q := hS.run.unrecorded_after hne hnames hfresh hnew
  have hv : (q, false) ∈ visiblePaths (vHit env (sealedHist_n2 env t o h) {}) T := by rw [hhit]; exact hqT
  obtain ⟨-, a2, a3, -, a5⟩ := MhlProps.C03.new_complete env T {} true (sealedHist_n2 env t o h) hl hg q hv
    (Or.inl rfl) (judge_new_of_unrecorded env T _ true q hun)
  obtain ⟨-, b2, -, b4, b5⟩ := MhlProps.C03.new_complete env T {} false (sealedHist_n2 env t o h) hl hg q hv
    (Or.inl rfl) (judge_new_of_unrecorded env T _ false q hun)
  exact ⟨a2, b2, a5, b5, fun hm => (a3 rfl hm).2, fun hm => (b4 rfl hm).2⟩

/-- a file the sealing run saw that is gone is named as missing by diff and verify; diff ends with 10, verify does
not end with 0, and ends with 10 unless a mismatch or a new file takes precedence -/
theorem removed_detected_any (hS : Setting_n2 env t o h) (T : Node)
    (hl : loadHistory T = .ok (sealedHist_n2 env t o h)) (p : RelPath)
    (hp : (p, false) ∈ visiblePaths (hit0_n2 env o) t) (hgone : ∀ d, (p, d) ∉ visiblePaths (hit0_n2 env o) T) :
    posix p ∈ (diff env T {}).report.missing ∧ posix p ∈ (verify env T {}).report.missing ∧
    (diff env T {}).exitCode = 10 ∧ (verify env T {}).exitCode ≠ 0 ∧
    (vMism env T (sealedHist_n2 env t o h) {} true = [] → vNews env T (sealedHist_n2 env t o h) {} true = [] →
      (verify env T {}).exitCode = 10) := by
  obtain ⟨-, hhit, -⟩ := sealed_ignore_stable_n2 hS
  have hg := sealedHist_gens_ne_n2 hS
  have he : p ∈ expectedPaths (sealedHist_n2 env t o h) := hS.run.file_expected (cHit_eq_n2 hS ▸ hp)
  have hnv : ∀ d, (p, d) ∉ visiblePaths (vHit env (sealedHist_n2 env t o h) {}) T := by rw [hhit]; exact hgone
  have hh : hitAbove (vHit env (sealedHist_n2 env t o h) {}) p = false := by
    rw [hhit]; exact MhlProps.C03.hitAbove_false_of_visible _ t _ false hp
  obtain ⟨-, a2, a3, -, a5⟩ := MhlProps.C03.missing_complete env T {} true (sealedHist_n2 env t o h) hl hg p he hnv hh
  obtain ⟨-, b2, -, b4, -⟩ := MhlProps.C03.missing_complete env T {} false (sealedHist_n2 env t o h) hl hg p he hnv hh
  exact ⟨b2, a2, b4 rfl, a3, fun h1 h2 => a5 rfl h1 h2 (by simp)⟩

/-- `diff` does not hash: on the sealed tree with any file altered it still ends with 0 and reports nothing -/
theorem altered_diff_blind (hS : Setting_n2 env t o h) (hshape : OldShaped env t o h)
    (hexp : ExpectedPresent env t h o) (p : RelPath) (hp : (p, false) ∈ visiblePaths (hit0_n2 env o) t) (c' : Bytes) :
    (diff env (alteredTree_n2 env t o p c') {}).err = none ∧ (diff env (alteredTree_n2 env t o p c') {}).exitCode = 0 ∧
    (diff env (alteredTree_n2 env t o p c') {}).report.mismatch = [] ∧
    (diff env (alteredTree_n2 env t o p c') {}).report.new = [] ∧
    (diff env (alteredTree_n2 env t o p c') {}).report.missing = [] :=
  (sealed_snapshot_n2 hS hshape hexp).alteredAt_diff none p c'
    ((loadHistory_setContent_n1 c' _ p).trans (nested_sealed_tree_loads hS).1)

end

/-! ### tests for the hypotheses, to establish them on concrete trees by evaluation -/

def folderNamesB (h : Hist) : Bool :=
  (allDescendants h).all fun c =>
    match c.root.getLast? with
    | some n => !n.toList.contains '\n'
    | none => true

theorem folderNamesB_spec (h : Hist) (hb : folderNamesB h = true) :
    ∀ c ∈ allDescendants h, ∀ n, c.root.getLast? = some n → '\n' ∉ n.toList := by
  intro c hc n hn
  have := List.all_eq_true.1 hb c hc
  rw [hn] at this
  simpa using this

instance (env : Env) (t : Node) (o : CreateOpts) (h : Hist) : Decidable (OldShaped env t o h) :=
  inferInstanceAs (Decidable (∀ p, (p, false) ∈ _ → _))

def settingB (env : Env) (t : Node) (o : CreateOpts) : Bool :=
  (match loadHistory t with | .ok _ => true | .error _ => false) && namesDistinctB_u t &&
  decide (t.NamesOk ∧ t.isDir = true ∧ t.hist = none ∧ '\n' ∉ env.rootName.toList ∧ '\n' ∉ env.stamp.toList ∧
    o.singleFiles = [] ∧ o.detectRenaming = false ∧ o.formats ≠ []) &&
  folderNamesB (loadD t) && decide (AllConsistent env t (loadD t) o)

theorem settingB_spec (env : Env) (t : Node) (o : CreateOpts) (hb : settingB env t o = true) :
    Setting_n2 env t o (loadD t) := by
  simp only [settingB, Bool.and_eq_true, decide_eq_true_eq] at hb
  obtain ⟨⟨⟨⟨hl, hd⟩, hn, hdir, hfresh, hrn, hst, hsf, hnr, hfm⟩, hfn⟩, hc⟩ := hb
  exact ⟨loadD_spec t hl, namesDistinctB_spec t hd, hn, hdir, hfresh, hrn, hst, folderNamesB_spec _ hfn, hsf, hnr,
    hfm, hc⟩

/-! ### non-vacuity: the two- and three-level trees of Proofs/ExampleWorlds.lean, through the theorems -/

/- `NamesDistinct` and `NamesOk` recurse on the tree: left reducible, the elaborator evaluates the closed trees below
whenever it normalises a goal that states one of them. -/
seal Node.NamesDistinct Node.NamesOk

/-- what is evaluated on `big1`, together (the outer seal is run once, the tree loaded once): the setting and
`OldShaped`; then what the examples below need at the paths they change -/
theorem tests_big1 : (settingB envR big1 o1 = true ∧ OldShaped envR big1 o1 (loadD big1)) ∧
    ((["A", "x.mov"], false) ∈ visiblePaths (hit0_n2 envR o1) big1 ∧
      findOriginal (owner_u (sealedHist_n2 envR big1 o1 (loadD big1)) ["A", "x.mov"]).gens
        (ownerRel (sealedHist_n2 envR big1 o1 (loadD big1)) ["A", "x.mov"]) =
          some { fmt := "md5", digest := "md5:3", action := "original" } ∧
      envR.H "md5" [1, 2, 3, 4] ≠ envR.H "md5" (fileContent big1 ["A", "x.mov"])) ∧
    ((["B", "z"], false) ∈ visiblePaths (hit0_n2 envR o1) big1 ∧
      findOriginal (owner_u (sealedHist_n2 envR big1 o1 (loadD big1)) ["B", "z"]).gens
        (ownerRel (sealedHist_n2 envR big1 o1 (loadD big1)) ["B", "z"]) =
          some { fmt := "md5", digest := "md5:0", action := "original" } ∧
      envR.H "md5" [1] ≠ envR.H "md5" (fileContent big1 ["B", "z"])) ∧
    (["A"] ++ ["y.mov"], false) ∈ visiblePaths (hit0_n2 envR o1) big1 ∧
    ((["A", "sub"], true) ∈ visiblePaths (hit0_n2 envR o1) big1 ∧ big1.at? ["A", "sub", "new.mov"] = none ∧
      hit0_n2 envR o1 ["A", "sub", "new.mov"] = false ∧ Unrecorded (loadD big1) ["A", "sub", "new.mov"]) := by
  unfold sealedHist_n2
  rw [createFolder_eq_with]
  decide +kernel

/-- the setting holds on `big1`: the big tree with the nested history at `A/` (generation 1, sealed on its own with
md5) grafted in, no history at the root; the outer seal asks for xxh64 and md5 -/
theorem setting_big1 : Setting_n2 envR big1 o1 (loadD big1) := settingB_spec _ _ _ tests_big1.1.1

theorem shaped_big1 : OldShaped envR big1 o1 (loadD big1) := tests_big1.1.2

/-- `big2` IS the sealed tree -/
example : big2 = sealedTree_n2 envR big1 o1 := rfl

/-- the sealed tree loads; the root history has generation 1, the nested one generations 1, 2 -/
example : loadHistory big2 = .ok (sealedHist_n2 envR big1 o1 (loadD big1)) := (nested_sealed_tree_loads setting_big1).1

example : ((sealedHist_n2 envR big1 o1 (loadD big1)).all.map fun x => (x.root, x.gens.map (·.number))) =
    [([], [1]), (["A"], [1, 2])] :=
  shape_of_loaded (nested_sealed_tree_loads setting_big1).1 nested_two_level_e2e.2.2.2.2.2.2.2.1

example : (verify envR big2 {}).exitCode = 0 ∧ (diff envR big2 {}).exitCode = 0 :=
  ⟨(nested_verify_after_seal setting_big1 shaped_big1 hyps1.2.1).1.2.1,
    (nested_verify_after_seal setting_big1 shaped_big1 hyps1.2.1).2.2.1⟩

/-- a file of the NESTED history altered (four bytes instead of three): the entry verify compares is the original
entry of A's own generation 1 (md5, sealed on its own), not one of the outer seal; through the theorem -/
example :
    (verify envR (alteredTree_n2 envR big1 o1 ["A", "x.mov"] [1, 2, 3, 4]) {}).exitCode = 11 ∧
    (verify envR (alteredTree_n2 envR big1 o1 ["A", "x.mov"] [1, 2, 3, 4]) {}).report.mismatch = ["A/x.mov"] ∧
    (verify envR (alteredTree_n2 envR big1 o1 ["A", "x.mov"] [1, 2, 3, 4]) {}).report.new = [] ∧
    (verify envR (alteredTree_n2 envR big1 o1 ["A", "x.mov"] [1, 2, 3, 4]) {}).report.missing = [] := by
  have hc := tests_big1.2.1
  have h := nested_altered_detected setting_big1 shaped_big1 hyps1.2.1 ["A", "x.mov"] hc.1 [1, 2, 3, 4]
    { fmt := "md5", digest := "md5:3", action := "original" } hc.2.1 hc.2.2
  exact ⟨h.2.1, h.2.2.2.1, h.2.2.2.2.1, h.2.2.2.2.2⟩

/-- … and a file of the ROOT history: the entry is the one of the outer seal with the least format name -/
example :
    (verify envR (alteredTree_n2 envR big1 o1 ["B", "z"] [1]) {}).exitCode = 11 ∧
    (verify envR (alteredTree_n2 envR big1 o1 ["B", "z"] [1]) {}).report.mismatch = ["B/z"] := by
  have hc := tests_big1.2.2.1
  have h := nested_altered_detected setting_big1 shaped_big1 hyps1.2.1 ["B", "z"] hc.1 [1]
    { fmt := "md5", digest := "md5:0", action := "original" } hc.2.1 hc.2.2
  exact ⟨h.2.1, h.2.2.2.1⟩

/-- a file of the nested history removed; through the theorem -/
example :
    (diff envR (removedTree envR big1 o1 ["A"] "y.mov") {}).exitCode = 10 ∧
    (diff envR (removedTree envR big1 o1 ["A"] "y.mov") {}).report.missing = ["A/y.mov"] ∧
    (verify envR (removedTree envR big1 o1 ["A"] "y.mov") {}).exitCode = 10 ∧
    (verify envR (removedTree envR big1 o1 ["A"] "y.mov") {}).report.missing = ["A/y.mov"] := by
  have h := nested_removed_detected setting_big1 shaped_big1 hyps1.2.1 ["A"] "y.mov" tests_big1.2.2.2.1
  exact ⟨h.1.2.1, h.1.2.2.1, h.2.2.1, h.2.2.2.1⟩

/-- a file added two folders below the nested history root; through the theorem -/
example :
    (verify envR (addedTree envR big1 o1 ["A", "sub"] "new.mov" [5]) {}).exitCode = 21 ∧
    (verify envR (addedTree envR big1 o1 ["A", "sub"] "new.mov" [5]) {}).report.new = ["A/sub/new.mov"] ∧
    (diff envR (addedTree envR big1 o1 ["A", "sub"] "new.mov" [5]) {}).exitCode = 21 ∧
    (diff envR (addedTree envR big1 o1 ["A", "sub"] "new.mov" [5]) {}).report.new = ["A/sub/new.mov"] := by
  have hc := tests_big1.2.2.2.2
  have h := nested_added_detected setting_big1 shaped_big1 hyps1.2.1 ["A", "sub"] "new.mov" [5]
    (Or.inr hc.1) (by decide) hc.2.1 hc.2.2.1 hc.2.2.2
  exact ⟨h.1.2.1, h.1.2.2.1, h.2.2.1, h.2.2.2.1⟩

/-! ### three levels: a grand-child history at `A/sub/` -/

/-- the setting, `OldShaped` and `ExpectedPresent` on `c1`, and what the example below needs at the file of the
grand-child history, evaluated together -/
theorem tests_c1 : (settingB envR c1 o1 = true ∧ OldShaped envR c1 o1 (loadD c1) ∧
      ExpectedPresent envR c1 (loadD c1) o1) ∧
    ((["A", "sub", "s"], false) ∈ visiblePaths (hit0_n2 envR o1) c1 ∧
      findOriginal (owner_u (sealedHist_n2 envR c1 o1 (loadD c1)) ["A", "sub", "s"]).gens
        (ownerRel (sealedHist_n2 envR c1 o1 (loadD c1)) ["A", "sub", "s"]) =
          some { fmt := "sha1", digest := "sha1:2", action := "original" } ∧
      envR.H "sha1" [6] ≠ envR.H "sha1" (fileContent c1 ["A", "sub", "s"])) ∧
    (["A", "sub"], true) ∈ visiblePaths (hit0_n2 envR o1) c1 ∧ c1.at? ["A", "sub", "n"] = none ∧
    hit0_n2 envR o1 ["A", "sub", "n"] = false ∧ Unrecorded (loadD c1) ["A", "sub", "n"] := by
  unfold sealedHist_n2
  rw [createFolder_eq_with]
  decide +kernel

theorem setting_c1 : Setting_n2 envR c1 o1 (loadD c1) := settingB_spec _ _ _ tests_c1.1.1

theorem shaped_c1 : OldShaped envR c1 o1 (loadD c1) := tests_c1.1.2.1

theorem expected_c1 : ExpectedPresent envR c1 (loadD c1) o1 := tests_c1.1.2.2

example : c2 = sealedTree_n2 envR c1 o1 := rfl

/-- every history wrote: the root has generation 1, `A` generations 1, 2, `A/sub` generations 1, 2, 3 -/
example : ((sealedHist_n2 envR c1 o1 (loadD c1)).all.map fun x => (x.root, x.gens.map (·.number))) =
    [([], [1]), (["A"], [1, 2]), (["A", "sub"], [1, 2, 3])] :=
  shape_of_loaded (nested_sealed_tree_loads setting_c1).1 nested_three_level_e2e.2.2.2.2.2.2.2.2.2.1

example : (verify envR c2 {}).exitCode = 0 ∧ (diff envR c2 {}).exitCode = 0 :=
  ⟨(nested_verify_after_seal setting_c1 shaped_c1 expected_c1).1.2.1,
    (nested_verify_after_seal setting_c1 shaped_c1 expected_c1).2.2.1⟩

/-- a file of the GRAND-CHILD history altered: judged against the sha1 entry of that history's own generation 1,
reported with its path from the outer root; removed: missing; a new file beside it: new — through the theorems -/
example :
    (verify envR (alteredTree_n2 envR c1 o1 ["A", "sub", "s"] [6]) {}).exitCode = 11 ∧
    (verify envR (alteredTree_n2 envR c1 o1 ["A", "sub", "s"] [6]) {}).report.mismatch = ["A/sub/s"] ∧
    (diff envR (removedTree envR c1 o1 ["A", "sub"] "s") {}).exitCode = 10 ∧
    (diff envR (removedTree envR c1 o1 ["A", "sub"] "s") {}).report.missing = ["A/sub/s"] ∧
    (verify envR (addedTree envR c1 o1 ["A", "sub"] "n" []) {}).exitCode = 21 ∧
    (verify envR (addedTree envR c1 o1 ["A", "sub"] "n" []) {}).report.new = ["A/sub/n"] := by
  have hc := tests_c1.2
  have h1 := nested_altered_detected setting_c1 shaped_c1 expected_c1 ["A", "sub", "s"] hc.1.1 [6]
    { fmt := "sha1", digest := "sha1:2", action := "original" } hc.1.2.1 hc.1.2.2
  have h2 := nested_removed_detected setting_c1 shaped_c1 expected_c1 ["A", "sub"] "s" hc.1.1
  have h3 := nested_added_detected setting_c1 shaped_c1 expected_c1 ["A", "sub"] "n" []
    (Or.inr hc.2.1) (by decide) hc.2.2.1 hc.2.2.2.1 hc.2.2.2.2
  exact ⟨h1.2.1, h1.2.2.2.1, h2.1.2.1, h2.1.2.2.1, h3.1.2.1, h3.1.2.2.1⟩

/-! ### the same by evaluation, and the precedence of the exit codes when several things happen at once -/

/-- independent of the theorems: the three single changes on the two-level tree, evaluated -/
theorem closed_single_changes :
    (verify envR (alteredTree_n2 envR big1 o1 ["A", "x.mov"] [1, 2, 3, 4]) {}).exitCode = 11 ∧
    (verify envR (alteredTree_n2 envR big1 o1 ["A", "x.mov"] [1, 2, 3, 4]) {}).report.mismatch = ["A/x.mov"] ∧
    (verify envR (alteredTree_n2 envR big1 o1 ["A", "x.mov"] [1, 2, 3, 4]) {}).report.new = [] ∧
    (verify envR (alteredTree_n2 envR big1 o1 ["A", "x.mov"] [1, 2, 3, 4]) {}).report.missing = [] ∧
    (diff envR (alteredTree_n2 envR big1 o1 ["A", "x.mov"] [1, 2, 3, 4]) {}).exitCode = 0 ∧
    (verify envR (removedTree envR big1 o1 ["A"] "y.mov") {}).exitCode = 10 ∧
    (verify envR (removedTree envR big1 o1 ["A"] "y.mov") {}).report.missing = ["A/y.mov"] ∧
    (diff envR (removedTree envR big1 o1 ["A"] "y.mov") {}).exitCode = 10 ∧
    (verify envR (addedTree envR big1 o1 ["A", "sub"] "new.mov" [5]) {}).exitCode = 21 ∧
    (verify envR (addedTree envR big1 o1 ["A", "sub"] "new.mov" [5]) {}).report.new = ["A/sub/new.mov"] ∧
    (diff envR (addedTree envR big1 o1 ["A", "sub"] "new.mov" [5]) {}).exitCode = 21 := by
  unfold alteredTree_n2 removedTree addedTree sealedTree_n2
  simp only [verify_eq_with, diff_eq_with, createFolder_eq_with]
  decide +kernel

/-- all three at once below the nested history root: a file altered, one removed, one added -/
def big2Mixed : Node :=
  Node.updateAt (addChild (.file "new.mov" [5]))
    (Node.updateAt (removeChild "y.mov") (Node.updateAt (setContent [1, 2, 3, 4]) big2 ["A", "x.mov"]) ["A"])
    ["A", "sub"]

def big2RemAdd : Node :=
  Node.updateAt (addChild (.file "new.mov" [5])) (Node.updateAt (removeChild "y.mov") big2 ["A"]) ["A", "sub"]

/-- the precedence of the model: verify — mismatch (11) over new (21) over missing (10); diff — missing (10) over
new (21); every discrepancy is in its list whatever the exit code is -/
theorem closed_precedence :
    (verify envR big2Mixed {}).exitCode = 11 ∧
    (verify envR big2Mixed {}).report.mismatch = ["A/x.mov"] ∧
    (verify envR big2Mixed {}).report.new = ["A/sub/new.mov"] ∧
    (verify envR big2Mixed {}).report.missing = ["A/y.mov"] ∧
    (diff envR big2Mixed {}).exitCode = 10 ∧
    (diff envR big2Mixed {}).report.mismatch = [] ∧
    (diff envR big2Mixed {}).report.new = ["A/sub/new.mov"] ∧
    (diff envR big2Mixed {}).report.missing = ["A/y.mov"] ∧
    (verify envR big2RemAdd {}).exitCode = 21 ∧
    (verify envR big2RemAdd {}).report.new = ["A/sub/new.mov"] ∧
    (verify envR big2RemAdd {}).report.missing = ["A/y.mov"] ∧
    (diff envR big2RemAdd {}).exitCode = 10 := by
  unfold big2Mixed big2RemAdd big2
  simp only [verify_eq_with, diff_eq_with, createFolder_eq_with]
  decide +kernel

/-- the same changes after a reseal (`big3`: generations 1, 2 at the root and 1, 2, 3 at `A/`): the entry compared is
still the one of A's generation 1 -/
theorem closed_after_reseal :
    (verify envR (Node.updateAt (setContent [1, 2, 3, 4]) big3 ["A", "x.mov"]) {}).exitCode = 11 ∧
    (verify envR (Node.updateAt (setContent [1, 2, 3, 4]) big3 ["A", "x.mov"]) {}).report.mismatch = ["A/x.mov"] ∧
    (diff envR (Node.updateAt (removeChild "y.mov") big3 ["A"]) {}).exitCode = 10 ∧
    (diff envR (Node.updateAt (removeChild "y.mov") big3 ["A"]) {}).report.missing = ["A/y.mov"] ∧
    (verify envR (Node.updateAt (addChild (.file "new.mov" [5])) big3 ["A", "sub"]) {}).exitCode = 21 ∧
    (verify envR (Node.updateAt (addChild (.file "new.mov" [5])) big3 ["A", "sub"]) {}).report.new =
      ["A/sub/new.mov"] := by
  unfold big3 big2
  simp only [verify_eq_with, diff_eq_with, createFolder_eq_with]
  decide +kernel

theorem closed_three_levels :
    (verify envR (alteredTree_n2 envR c1 o1 ["A", "sub", "s"] [6]) {}).exitCode = 11 ∧
    (verify envR (alteredTree_n2 envR c1 o1 ["A", "sub", "s"] [6]) {}).report.mismatch = ["A/sub/s"] ∧
    (verify envR (removedTree envR c1 o1 ["A", "sub"] "s") {}).exitCode = 10 ∧
    (verify envR (removedTree envR c1 o1 ["A", "sub"] "s") {}).report.missing = ["A/sub/s"] ∧
    (diff envR (addedTree envR c1 o1 ["A", "sub"] "n" []) {}).exitCode = 21 ∧
    (diff envR (addedTree envR c1 o1 ["A", "sub"] "n" []) {}).report.new = ["A/sub/n"] := by
  unfold alteredTree_n2 removedTree addedTree sealedTree_n2
  simp only [verify_eq_with, diff_eq_with, createFolder_eq_with]
  decide +kernel

/-! ### `OldShaped` and the hypothesis on the folder names (`Setting_n2.folderNames`) cannot be dropped -/

/-- a nested history at `A/` as no `create` leaves it but as it loads: generation 1 records `old.txt` (original),
generation 2 records `a.txt` as renamed from `old.txt` with the digest of the present content -/
def wnG1 : Generation :=
  { fileName := "0001_A_2020-01-16_091500Z.mhl", ignore := wIgnore,
    records := [{ path := "old.txt", size := some 7,
                  entries := [{ fmt := "md5", digest := "md5:7", action := "original" }] }] }
def wnG2 : Generation :=
  { fileName := "0002_A_2020-01-17_091500Z.mhl", ignore := wIgnore,
    records := [{ path := "a.txt", size := some 2, prev := some "old.txt",
                  entries := [{ fmt := "md5", digest := "md5:2", action := "verified" }] }] }
def wnStore : HistStore := { gens := [wnG1, wnG2], chain := [⟨1, wnG1.fileName⟩, ⟨2, wnG2.fileName⟩] }
def wnTree : Node := .dir "root" [.dir "A" [.file "a.txt" [1, 2]] (some wnStore)] none
def wnOpts : CreateOpts := { formats := ["md5"] }

/-- without `OldShaped`, `nested_verify_after_seal` is false of the model: verify on the unchanged sealed tree need not
end with 0.  The whole setting holds (in particular every visible file is consistent with its owner history,
C04nested's `AllConsistent`), everything the older generations recorded is still there, the outer seal ends with exit
code 0 — and `verify` on the unchanged sealed tree ends with 11 and names `A/a.txt`: it follows the recorded rename to
`old.txt` and compares with that record's original entry.  (`create` looks the file up under its own name and is
content.) -/
theorem old_shape_needed :
    Setting_n2 wEnv wnTree wnOpts (loadD wnTree) ∧ ExpectedPresent wEnv wnTree (loadD wnTree) wnOpts ∧
    ¬ OldShaped wEnv wnTree wnOpts (loadD wnTree) ∧
    (createFolder wEnv wnTree wnOpts).exitCode = 0 ∧
    (verify wEnv (sealedTree_n2 wEnv wnTree wnOpts) {}).exitCode = 11 ∧
    (verify wEnv (sealedTree_n2 wEnv wnTree wnOpts) {}).report.mismatch = ["A/a.txt"] := by
  suffices h : settingB wEnv wnTree wnOpts = true ∧ _ from ⟨settingB_spec _ _ _ h.1, h.2⟩
  unfold sealedTree_n2
  rw [verify_eq_with, createFolder_eq_with]
  decide +kernel

def nlTree : Node := .dir "root" [.dir "a\nb" [.file "x" [1]] (some {})] none

/-- without the hypothesis on the folder names of the nested histories the sealed tree does not load as
`sealedHist_n2` and verify does not end with 0: every other hypothesis holds, the outer seal ends with 0 and writes
generation 1 of the nested history, but its manifest name `0001_a\nb_….mhl` is not recognised (the `.+` of the
file-name pattern does not match a line feed, C06), so the nested history reloads WITHOUT generations and `verify`
calls its file new (21) -/
theorem folder_names_needed :
    loadHistory nlTree = .ok (loadD nlTree) ∧ nlTree.NamesDistinct ∧ nlTree.NamesOk ∧
    AllConsistent wEnv nlTree (loadD nlTree) wnOpts ∧ OldShaped wEnv nlTree wnOpts (loadD nlTree) ∧
    ExpectedPresent wEnv nlTree (loadD nlTree) wnOpts ∧ folderNamesB (loadD nlTree) = false ∧
    (createFolder wEnv nlTree wnOpts).exitCode = 0 ∧
    ((createFolder wEnv nlTree wnOpts).written.map fun w => (w.histRoot, w.number)) = [(["a\nb"], 1), ([], 1)] ∧
    histShape (sealedTree_n2 wEnv nlTree wnOpts) = some [([], [1]), (["a\nb"], [])] ∧
    (verify wEnv (sealedTree_n2 wEnv nlTree wnOpts) {}).exitCode = 21 ∧
    (verify wEnv (sealedTree_n2 wEnv nlTree wnOpts) {}).report.new = ["a\nb/x"] := by
  suffices h : namesDistinctB_u nlTree = true ∧ _ ∧ _ from ⟨h.2.1, namesDistinctB_spec _ h.1, h.2.2⟩
  unfold sealedTree_n2 histShape
  rw [verify_eq_with, createFolder_eq_with]
  decide +kernel

end MhlProps.C03nested
