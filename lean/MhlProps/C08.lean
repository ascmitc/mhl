/-
C08 — Nested histories partition the tree and reference each other correctly.

Routing (`MhlModel.route`, history.py `find_history_for_path`), commit order (`walkPost`, `commitStep`) and references
(`writeOne`).  The partition of the records themselves follows from routing every traversed entry through `route`
(createVisit → sealFile / appendDirHashes); it is proved for whole runs in MhlProps/C08part.lean.
-/
import MhlProps.Proofs.SealLemmas

namespace MhlProps.C08
open MhlModel

/-- picking the candidate with the longest root (first among equals), as the loop that shortens the path does -/
def pickStep (best : Option Hist) (c : Hist) : Option Hist :=
  match best with
  | none => some c
  | some b => if c.root.length > b.root.length then some c else some b

theorem route_unfold (h : Hist) (p : RelPath) :
    route h p =
      match ((allDescendants h).filter fun c => !c.root.isEmpty && isPrefixOf c.root p).foldl pickStep none with
      | some c => (c, p.drop c.root.length)
      | none => (h, p) := by
  unfold route; rfl

theorem pickStep_some (b c : Hist) :
    pickStep (some b) c = some (if c.root.length > b.root.length then c else b) := by
  simp only [pickStep]; split <;> rfl

theorem foldl_pickStep_some (l : List Hist) (b : Hist) :
    ∃ r, l.foldl pickStep (some b) = some r ∧ (r = b ∨ r ∈ l) ∧ b.root.length ≤ r.root.length ∧
      ∀ c ∈ l, c.root.length ≤ r.root.length := by
  induction l generalizing b with
  | nil => exact ⟨b, rfl, .inl rfl, Nat.le_refl _, by simp⟩
  | cons a as ih =>
    rw [List.foldl_cons, pickStep_some]
    obtain ⟨r, hr, hm, hb, hall⟩ := ih (if a.root.length > b.root.length then a else b)
    refine ⟨r, hr, ?_, ?_, ?_⟩
    · rcases hm with rfl | hm
      · split <;> simp
      · exact .inr (List.mem_cons_of_mem _ hm)
    · split at hb <;> omega
    · intro c hc
      rcases List.mem_cons.1 hc with rfl | hc
      · split at hb <;> omega
      · exact hall c hc

theorem foldl_pickStep_none (l : List Hist) :
    match l.foldl pickStep none with
    | none => l = []
    | some r => r ∈ l ∧ ∀ c ∈ l, c.root.length ≤ r.root.length := by
  cases l with
  | nil => rfl
  | cons a as =>
    obtain ⟨r, hr, hm, hb, hall⟩ := foldl_pickStep_some as a
    rw [List.foldl_cons, show pickStep none a = some a from rfl, hr]
    refine ⟨by simpa [eq_comm] using hm, fun c hc => ?_⟩
    rcases List.mem_cons.1 hc with rfl | hc
    · exact hb
    · exact hall c hc

/-- the history a path is routed to is the root history or one of its (transitive) nested histories whose root is a
component-wise prefix of the path, and no nested history with a LONGER matching root exists: the deepest one wins.
The returned path is the given path relative to that history's root. -/
theorem route_deepest (h : Hist) (p : RelPath) (hroot : h.root = []) :
    ((route h p).1 = h ∨ (route h p).1 ∈ allDescendants h) ∧
    isPrefixOf (route h p).1.root p = true ∧
    (route h p).2 = p.drop (route h p).1.root.length ∧
    (∀ c ∈ allDescendants h, c.root ≠ [] → isPrefixOf c.root p = true →
      c.root.length ≤ (route h p).1.root.length) := by
  have hmem : ∀ c, c ∈ (allDescendants h).filter (fun c => !c.root.isEmpty && isPrefixOf c.root p) ↔
      c ∈ allDescendants h ∧ c.root ≠ [] ∧ isPrefixOf c.root p = true := by
    intro c; simp
  have hM := foldl_pickStep_none ((allDescendants h).filter fun c => !c.root.isEmpty && isPrefixOf c.root p)
  rw [route_unfold]
  cases hf : ((allDescendants h).filter fun c => !c.root.isEmpty && isPrefixOf c.root p).foldl pickStep none with
  | none =>
    rw [hf] at hM
    refine ⟨.inl rfl, by simp [isPrefixOf, hroot], by simp [hroot], fun c hc hne hpre => ?_⟩
    have := (hmem c).2 ⟨hc, hne, hpre⟩
    rw [hM] at this; cases this
  | some c0 =>
    rw [hf] at hM
    obtain ⟨h1, -, h3⟩ := (hmem c0).1 hM.1
    exact ⟨.inr h1, h3, rfl, fun c hc hne hpre => hM.2 c ((hmem c).2 ⟨hc, hne, hpre⟩)⟩

/-- sibling folders whose names are string prefixes of each other are not confused: the match is component-wise -/
example : isPrefixOf ["A"] ["AB", "x.txt"] = false ∧ isPrefixOf ["Clips"] ["Clips_proxy", "p.mov"] = false ∧
    isPrefixOf ["A"] ["A", "x.txt"] = true := by decide

/-! children are committed before their parents: the post-order walk ends with the history itself and every nested
history is listed before it -/

theorem walkPost_self_last (h : Hist) : (walkPost h).getLast? = some h := by
  cases h with
  | mk r g c e cs => simp [walkPost]

theorem walkPost_children_before (r : RelPath) (g : List LGen) (c : List ChainEntry) (e : Bool) (cs : List Hist) :
    walkPost (.mk r g c e cs) = walkPostList cs ++ [.mk r g c e cs] := by
  simp [walkPost]

/-- a history that received no record (has no list in the session) and none of whose direct children wrote is left
alone by the commit -/
theorem commitStep_skip (rootHist : Hist) (s : Session) (fn stamp process : String) (cb : Option String)
    (written : List Written) (h : Hist)
    (hno : (s.lists.any fun l => l.root == h.root) = false)
    (hrefs : (written.filter fun w => parentRoot rootHist w.histRoot == some h.root) = []) :
    commitStep rootHist s fn stamp process cb written h = .ok written := by
  unfold commitStep
  simp [hno, hrefs]
  rfl

/-- the references written into a parent manifest are exactly the direct children that wrote a generation in this
run, in the order they wrote, each as <child root relative to the parent>/ascmhl/<new manifest name> -/
theorem writeOne_refs (rootHist : Hist) (s : Session) (fn stamp process : String) (cb : Option String) (h : Hist)
    (refs : List Written) (w : Written) (hw : writeOne rootHist s fn stamp process cb h refs = .ok w) :
    w.gen.refs = refs.map fun c => posix (c.histRoot.drop h.root.length ++ [Gen.folderName, c.gen.fileName]) := by
  obtain ⟨recs, -, rfl⟩ := writeOne_ok_eq rootHist s fn stamp process cb h refs w hw
  rfl

end MhlProps.C08
