/-
Helper lemmas for C03 and for every module that speaks of a verify / diff run.  The exit codes as numbers; the verdict
on a file from its original entry (`judgeFile_of_original`, `judgeFile_of_none`); a named form of what `verifyOrDiff`
computes against the history it is given (the one on disk or a packing list, `loadedHist`): three path lists
(`verifyOrDiff_loaded`), and from them, for any options and either source, the report (`verifyOrDiff_report`) and how
the run ends (`verifyOrDiff_err`, `verifyOrDiff_exitCode`: the precedence of the exit codes, stated once; their
readings without options serve C18e2e); membership in the named lists, `hitAbove` and `missingAfter`.  Also, for C05,
C09, C14 and C19seq: every command (create, verify -dh, flatten, info as well) returns the loader's error.
-/
import MhlModel.Commands
import MhlProps.Proofs.ListLemmas

namespace MhlModel

/-- the nine look-ups in `Gen.exitCodes` -/
theorem exit_codes_table :
    errMissingFiles = .exit 10 ∧ errVerifyFailed = .exit 11 ∧ errDirVerifyFailed = .exit 12 ∧
    errSingleFileNotFound = .exit 20 ∧ errNewFiles = .exit 21 ∧ errNoHistory = .exit 30 ∧
    errModified = .exit 31 ∧ errNoChain = .exit 32 ∧ errMissingManifest = .exit 33 := by decide +kernel

theorem errMissingFiles_eq : errMissingFiles = .exit 10 := exit_codes_table.1
theorem errVerifyFailed_eq : errVerifyFailed = .exit 11 := exit_codes_table.2.1
theorem errDirVerifyFailed_eq : errDirVerifyFailed = .exit 12 := exit_codes_table.2.2.1
theorem errSingleFileNotFound_eq : errSingleFileNotFound = .exit 20 := exit_codes_table.2.2.2.1
theorem errNewFiles_eq : errNewFiles = .exit 21 := exit_codes_table.2.2.2.2.1
theorem errNoHistory_eq : errNoHistory = .exit 30 := exit_codes_table.2.2.2.2.2.1
theorem errModified_eq : errModified = .exit 31 := exit_codes_table.2.2.2.2.2.2.1
theorem errNoChain_eq : errNoChain = .exit 32 := exit_codes_table.2.2.2.2.2.2.2.1
theorem errMissingManifest_eq : errMissingManifest = .exit 33 := exit_codes_table.2.2.2.2.2.2.2.2

/-- the verdict from the original entry: `p` is routed to the history `h` as `rel` (`hr` is `rfl` for
`h = (route H p).1`, `route_flat` for a history without nested ones), was recorded there under `name` (renames
followed back), and `e` is the original entry of that name -/
theorem judgeFile_of_original {env : Env} {H h : Hist} {p rel : RelPath} {name : String} {e : Entry}
    (hr : route H p = (h, rel)) (hname : recordedName h.gens (posix rel) = name)
    (ho : findOriginal h.gens name = some e) (T : Node) (hashing : Bool) :
    judgeFile env T H hashing p =
      if hashing && env.H e.fmt (fileContent T p) != e.digest then .mismatch else .ok := by
  unfold judgeFile
  rw [hr]
  dsimp only
  rw [hname, ho]

theorem judgeFile_of_none {env : Env} {H h : Hist} {p rel : RelPath} {name : String}
    (hr : route H p = (h, rel)) (hname : recordedName h.gens (posix rel) = name)
    (ho : findOriginal h.gens name = none) (T : Node) (hashing : Bool) :
    judgeFile env T H hashing p = .new := by
  unfold judgeFile
  rw [hr]
  dsimp only
  rw [hname, ho]

/-! ## the pieces of `verifyOrDiff`, named -/

/-- the matcher a verify / diff run uses: recorded patterns of the latest generation plus the ones given -/
def vHit (env : Env) (rootHist : Hist) (o : VerifyOpts) : RelPath → Bool :=
  env.hit (setPatterns (latestIgnore rootHist.gens) o.ignoreCli o.ignoreFile)

def vFound (env : Env) (t : Node) (rootHist : Hist) (o : VerifyOpts) : List RelPath :=
  (visiblePaths (vHit env rootHist o) t).map (·.1)

def vFiles (env : Env) (t : Node) (rootHist : Hist) (o : VerifyOpts) : List RelPath :=
  ((visiblePaths (vHit env rootHist o) t).filter fun x => !x.2).map (·.1)

/-- the visited files that are looked at (all of them, or the single file asked for) -/
def vConsidered (env : Env) (t : Node) (rootHist : Hist) (o : VerifyOpts) : List RelPath :=
  (vFiles env t rootHist o).filter fun p => o.singleFile.isNone || o.singleFile == some p

def vNews (env : Env) (t : Node) (rootHist : Hist) (o : VerifyOpts) (hashing : Bool) : List RelPath :=
  (vConsidered env t rootHist o).filter fun p => judgeFile env t rootHist hashing p == .new

def vMism (env : Env) (t : Node) (rootHist : Hist) (o : VerifyOpts) (hashing : Bool) : List RelPath :=
  (vConsidered env t rootHist o).filter fun p => judgeFile env t rootHist hashing p == .mismatch

def vFoundSingle (env : Env) (t : Node) (rootHist : Hist) (o : VerifyOpts) (hashing : Bool) : Bool :=
  (vConsidered env t rootHist o).any fun p => judgeFile env t rootHist hashing p != .new

def vMissing (env : Env) (t : Node) (rootHist : Hist) (o : VerifyOpts) : List RelPath :=
  missingAfter (vHit env rootHist o)
    ((expectedPaths rootHist).filter fun p => !(vFound env t rootHist o).contains p)

/-- the one-generation history `verify -pl` judges against -/
def plHist (g : Generation) : Hist := .mk [] [⟨1, g⟩] [] true []

/-- the history a `verify` / `diff` run judges `t` against: the packing list if one is given, else what `t` loads as -/
def loadedHist (t : Node) : Option Generation → Except Err Hist
  | some g => .ok (plHist g)
  | none => loadHistory t

theorem verifyOrDiff_loaded (env : Env) (t : Node) (o : VerifyOpts) (hashing : Bool) (pl : Option Generation)
    (rootHist : Hist) (hl : loadedHist t pl = .ok rootHist) (hg : rootHist.gens ≠ []) :
    verifyOrDiff env t o hashing pl =
      { err := if hashing then
            verifyExit ((vMism env t rootHist o hashing).map posix) ((vNews env t rootHist o hashing).map posix)
              o.singleFile.isSome (vFoundSingle env t rootHist o hashing) (vMissing env t rootHist o)
          else diffExit ((vNews env t rootHist o hashing).map posix) (vMissing env t rootHist o),
        report := { mismatch := (vMism env t rootHist o hashing).map posix,
                    missing := (vMissing env t rootHist o).map posix,
                    new := (vNews env t rootHist o hashing).map posix } } := by
  have he : rootHist.gens.isEmpty = false := List.isEmpty_eq_false_iff.2 hg
  cases pl with
  | none =>
    have hl' : loadHistory t = .ok rootHist := hl
    unfold verifyOrDiff
    simp only [hl', he]
    rfl
  | some g =>
    cases hl
    unfold verifyOrDiff
    rfl

theorem exitCode_ite (c : Prop) [Decidable c] (a b : Option Err) (r : Report) (w : List Written) :
    ({ err := if c then a else b, report := r, written := w } : Outcome).exitCode =
      if c then ({ err := a, report := r, written := w } : Outcome).exitCode
      else ({ err := b, report := r, written := w } : Outcome).exitCode := by
  split <;> rfl

section run
variable {env : Env} {t : Node} {o : VerifyOpts} {hashing : Bool} {pl : Option Generation} {rootHist : Hist}

/-- the report is the `posix` image of the three path lists; nothing is ever reported as renamed / dir mismatch -/
theorem verifyOrDiff_report (hl : loadedHist t pl = .ok rootHist) (hg : rootHist.gens ≠ []) :
    (verifyOrDiff env t o hashing pl).report =
      { mismatch := (vMism env t rootHist o hashing).map posix, missing := (vMissing env t rootHist o).map posix,
        new := (vNews env t rootHist o hashing).map posix } := by
  rw [verifyOrDiff_loaded env t o hashing pl rootHist hl hg]

/-- how a run ends: the first of the conditions that holds, in the order the command tests them.  verify: mismatch
over new over single file not found over missing; diff: missing over new -/
theorem verifyOrDiff_err (hl : loadedHist t pl = .ok rootHist) (hg : rootHist.gens ≠ []) :
    (verifyOrDiff env t o hashing pl).err =
      if hashing = true then
        if vMism env t rootHist o hashing ≠ [] then some errVerifyFailed
        else if vNews env t rootHist o hashing ≠ [] then some errNewFiles
        else if o.singleFile.isSome = true ∧ vFoundSingle env t rootHist o hashing = false then
          some errSingleFileNotFound
        else if vMissing env t rootHist o ≠ [] then some errMissingFiles
        else none
      else if vMissing env t rootHist o ≠ [] then some errMissingFiles
      else if vNews env t rootHist o hashing ≠ [] then some errNewFiles
      else none := by
  rw [verifyOrDiff_loaded env t o hashing pl rootHist hl hg]
  simp only [verifyExit, diffExit, List.isEmpty_map, Bool.not_eq_true', List.isEmpty_eq_false_iff, Bool.and_eq_true]

theorem verifyOrDiff_exitCode (hl : loadedHist t pl = .ok rootHist) (hg : rootHist.gens ≠ []) :
    (verifyOrDiff env t o hashing pl).exitCode =
      if hashing = true then
        if vMism env t rootHist o hashing ≠ [] then 11
        else if vNews env t rootHist o hashing ≠ [] then 21
        else if o.singleFile.isSome = true ∧ vFoundSingle env t rootHist o hashing = false then 20
        else if vMissing env t rootHist o ≠ [] then 10
        else 0
      else if vMissing env t rootHist o ≠ [] then 10
      else if vNews env t rootHist o hashing ≠ [] then 21
      else 0 := by
  rw [verifyOrDiff_loaded env t o hashing pl rootHist hl hg]
  simp only [verifyExit, diffExit, exitCode_ite, errVerifyFailed_eq, errNewFiles_eq, errSingleFileNotFound_eq,
    errMissingFiles_eq, List.isEmpty_map, Bool.not_eq_true', List.isEmpty_eq_false_iff, Bool.and_eq_true]
  rfl

end run

/-- `verify` without options: no single file is asked for -/
theorem verify_err_of_loaded (env : Env) (T : Node) (pl : Option Generation) (H : Hist)
    (hl : loadedHist T pl = .ok H) (hg : H.gens ≠ []) :
    (verifyOrDiff env T {} true pl).err =
      (if vMism env T H {} true ≠ [] then some errVerifyFailed
       else if vNews env T H {} true ≠ [] then some errNewFiles
       else if vMissing env T H {} ≠ [] then some errMissingFiles
       else none) :=
  (verifyOrDiff_err hl hg).trans (by simp)

theorem verify_precedence_of_loaded (env : Env) (T : Node) (pl : Option Generation) (H : Hist)
    (hl : loadedHist T pl = .ok H) (hg : H.gens ≠ []) :
    ((verifyOrDiff env T {} true pl).exitCode = 11 ↔ (verifyOrDiff env T {} true pl).report.mismatch ≠ []) ∧
    ((verifyOrDiff env T {} true pl).exitCode = 21 ↔
      (verifyOrDiff env T {} true pl).report.mismatch = [] ∧ (verifyOrDiff env T {} true pl).report.new ≠ []) ∧
    ((verifyOrDiff env T {} true pl).exitCode = 10 ↔
      (verifyOrDiff env T {} true pl).report.mismatch = [] ∧ (verifyOrDiff env T {} true pl).report.new = [] ∧
      (verifyOrDiff env T {} true pl).report.missing ≠ []) ∧
    ((verifyOrDiff env T {} true pl).exitCode = 0 ↔
      (verifyOrDiff env T {} true pl).report.mismatch = [] ∧ (verifyOrDiff env T {} true pl).report.new = [] ∧
      (verifyOrDiff env T {} true pl).report.missing = []) := by
  rw [verifyOrDiff_exitCode hl hg, verifyOrDiff_report hl hg]
  simp only [List.map_eq_nil_iff, ne_eq]
  generalize vMism env T H {} true = M
  generalize vNews env T H {} true = N
  generalize vMissing env T H {} = X
  cases M <;> cases N <;> cases X <;> simp

/-! Every command starts with `loadHistory` and returns its error: no report, nothing written. -/

theorem verifyOrDiff_load_error (env : Env) (t : Node) (o : VerifyOpts) (hashing : Bool) (e : Err)
    (hl : loadHistory t = .error e) : verifyOrDiff env t o hashing none = { err := some e } := by
  unfold verifyOrDiff
  simp only [hl]

theorem createFolder_load_error (env : Env) (t : Node) (o : CreateOpts) (e : Err) (hl : loadHistory t = .error e) :
    createFolder env t o = { err := some e } := by
  simp only [createFolder, hl]

theorem createSingleFiles_load_error (env : Env) (t : Node) (o : CreateOpts) (e : Err)
    (hl : loadHistory t = .error e) : createSingleFiles env t o = { err := some e } := by
  simp only [createSingleFiles, hl]

theorem create_load_error (env : Env) (t : Node) (o : CreateOpts) (e : Err) (hl : loadHistory t = .error e) :
    create env t o = { err := some e } := by
  unfold create
  split
  · exact createFolder_load_error env t o e hl
  · exact createSingleFiles_load_error env t o e hl

theorem verifyDh_load_error (env : Env) (t : Node) (o : DhOpts) (e : Err) (hl : loadHistory t = .error e) :
    verifyDh env t o = { err := some e } := by
  simp only [verifyDh, hl]

theorem flatten_load_error (env : Env) (t : Node) (a b : List String) (e : Err) (hl : loadHistory t = .error e) :
    flatten env t a b = { err := some e } := by
  simp only [flatten, hl]

theorem info_load_error (t : Node) (e : Err) (hl : loadHistory t = .error e) : info t = .error e := by
  simp [info, hl, bind, Except.bind]

theorem infoSingleFile_load_error (t : Node) (f : RelPath) (e : Err) (hl : loadHistory t = .error e) :
    infoSingleFile t f = .error e := by
  simp [infoSingleFile, hl, bind, Except.bind]

theorem verifyOrDiff_no_gens (env : Env) (t : Node) (o : VerifyOpts) (hashing : Bool) (rootHist : Hist)
    (hl : loadHistory t = .ok rootHist) (hg : rootHist.gens = []) :
    verifyOrDiff env t o hashing none = { err := some errNoHistory } := by
  unfold verifyOrDiff
  simp [hl, hg]

/-! ## membership in the named pieces; `hitAbove`, `missingAfter` -/

theorem mem_vFiles (env : Env) (t : Node) (rootHist : Hist) (o : VerifyOpts) (p : RelPath) :
    p ∈ vFiles env t rootHist o ↔ (p, false) ∈ visiblePaths (vHit env rootHist o) t := by
  unfold vFiles
  simp only [List.mem_map, List.mem_filter, Bool.not_eq_true']
  constructor
  · rintro ⟨⟨q, d⟩, ⟨hm, hd⟩, rfl⟩
    simp only at hd
    subst hd
    exact hm
  · intro h
    exact ⟨(p, false), ⟨h, rfl⟩, rfl⟩

theorem mem_vFound (env : Env) (t : Node) (rootHist : Hist) (o : VerifyOpts) (p : RelPath) :
    p ∈ vFound env t rootHist o ↔ ∃ d, (p, d) ∈ visiblePaths (vHit env rootHist o) t := by
  unfold vFound
  simp only [List.mem_map]
  constructor
  · rintro ⟨⟨q, d⟩, hm, rfl⟩
    exact ⟨d, hm⟩
  · rintro ⟨d, h⟩
    exact ⟨(p, d), h, rfl⟩

theorem mem_vConsidered (env : Env) (t : Node) (rootHist : Hist) (o : VerifyOpts) (p : RelPath) :
    p ∈ vConsidered env t rootHist o ↔
      (p, false) ∈ visiblePaths (vHit env rootHist o) t ∧ (o.singleFile = none ∨ o.singleFile = some p) := by
  unfold vConsidered
  rw [List.mem_filter, mem_vFiles]
  cases o.singleFile <;> simp

theorem mem_vNews (env : Env) (t : Node) (rootHist : Hist) (o : VerifyOpts) (hashing : Bool) (p : RelPath) :
    p ∈ vNews env t rootHist o hashing ↔
      p ∈ vConsidered env t rootHist o ∧ judgeFile env t rootHist hashing p = .new := by
  unfold vNews
  simp [List.mem_filter]

theorem mem_vMism (env : Env) (t : Node) (rootHist : Hist) (o : VerifyOpts) (hashing : Bool) (p : RelPath) :
    p ∈ vMism env t rootHist o hashing ↔
      p ∈ vConsidered env t rootHist o ∧ judgeFile env t rootHist hashing p = .mismatch := by
  unfold vMism
  simp [List.mem_filter]

theorem hitAbove_false_iff (hit : RelPath → Bool) (p : RelPath) :
    hitAbove hit p = false ↔ ∀ i, i < p.length → hit (p.take (i + 1)) = false := by
  unfold hitAbove
  rw [Bool.eq_false_iff]
  simp only [ne_eq, List.any_eq_true, List.mem_range, not_exists, not_and, Bool.not_eq_true]

theorem hitAbove_true_iff (hit : RelPath → Bool) (p : RelPath) :
    hitAbove hit p = true ↔ ∃ k, 0 < k ∧ k ≤ p.length ∧ hit (p.take k) = true := by
  unfold hitAbove
  simp only [List.any_eq_true, List.mem_range]
  exact ⟨fun ⟨i, hi, h⟩ => ⟨i + 1, by omega, by omega, h⟩,
    fun ⟨k, h0, hk, h⟩ => ⟨k - 1, by omega, by rwa [Nat.sub_add_cancel h0]⟩⟩

/-- a matched path is excluded (the last prefix is the path itself) -/
theorem hitAbove_of_hit (hit : RelPath → Bool) (p : RelPath) (hne : p ≠ []) (h : hit p = true) :
    hitAbove hit p = true :=
  (hitAbove_true_iff hit p).2 ⟨p.length, List.length_pos_iff.2 hne, Nat.le_refl _, by rwa [List.take_length]⟩

theorem hitAbove_false_of_prefixes (hit : RelPath → Bool) (p : RelPath)
    (h : ∀ q, q ≠ [] → q <+: p → hit q = false) : hitAbove hit p = false := by
  rw [hitAbove_false_iff]
  intro i hi
  apply h
  · intro hnil
    have := congrArg List.length hnil
    simp only [List.length_take, List.length_nil] at this
    omega
  · exact List.take_prefix _ _

theorem hitAbove_false_hit (hit : RelPath → Bool) (p : RelPath) (hne : p ≠ []) (h : hitAbove hit p = false) :
    hit p = false := by
  cases hh : hit p with
  | false => rfl
  | true => rw [hitAbove_of_hit hit p hne hh] at h; exact absurd h (by simp)

theorem mem_missingAfter (hit : RelPath → Bool) (l : List RelPath) (p : RelPath) :
    p ∈ missingAfter hit l ↔ p ∈ l ∧ hitAbove hit p = false := by
  unfold missingAfter
  simp [List.mem_filter]

theorem mem_vMissing (env : Env) (t : Node) (rootHist : Hist) (o : VerifyOpts) (p : RelPath) :
    p ∈ vMissing env t rootHist o ↔
      p ∈ expectedPaths rootHist ∧ p ∉ vFound env t rootHist o ∧ hitAbove (vHit env rootHist o) p = false := by
  unfold vMissing
  rw [mem_missingAfter, List.mem_filter]
  simp [and_assoc]

theorem expectedPaths_nodup (h : Hist) : (expectedPaths h).Nodup := by
  unfold expectedPaths
  apply MhlModel.foldl_invariant (fun acc : List RelPath => acc.Nodup)
  · intro acc x _ hacc
    exact (foldl_appendNew_nodup _ _).2 hacc
  · exact List.nodup_nil

end MhlModel
