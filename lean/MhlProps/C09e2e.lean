/-
C09 (end to end) — `verify -dh` exits 0 on the tree a fresh `create` has just sealed, and 12 on a tree whose root
content hash differs from the sealed one; and the refinement of the directory-hash computation inside `verifyDh` to the
compositional definition `nodeHashes` (section 1; the lemmas are in MhlProps/Proofs/DhLemmas.lean).  The end-to-end
theorems (sections 2, 3) are those of MhlProps/C09nested.lean, which hold for any tree whose history loads, at a tree
that loads as the empty history.

Hypotheses (all shown satisfiable on `exT` below, where `verifyDh` is also evaluated by `decide`):
sibling names distinct (`Node.NamesDistinct`), names free of '/' and not "." (`Node.NamesOk`), the folder name and the
stamp free of line feeds (else the generation just written is not recognised as a manifest, C06), at least one format
(the CLI always has one; with none, files get no record and the lemmas of C02rec do not apply).
-/
import MhlProps.C09nested

namespace MhlProps.C09e2e
open MhlModel
open MhlProps.C07impl (specHashes)

/-! ### 1. the refinement theorem for `verify -dh` -/

/-- REFINEMENT (the statement of `foldl_dhVisit_dirHashes`, Proofs/DhLemmas.lean, under the name the property is
claimed by).  From ANY state whose `dirHashes` has no key at or below `here`, the visits of the directory `d` found
at `here` append to `dirHashes` exactly one entry: `here` with the hashes `nodeHashes` specifies, for each computed
format (repetitions dropped).  No hypothesis on `H`, `D`, the matcher, the history, the options. -/
theorem dhVisit_fold_dirHashes (env : Env) (t : Node) (rootHist : Hist) (fmts : List String) (o : DhOpts)
    (hit : RelPath → Bool) (here : RelPath) (d : Node) (st : DhState)
    (hdir : d.isDir = true) (hat : t.at? here = some d) (hnd : d.NamesDistinct)
    (hst : ∀ x ∈ st.dirHashes, ¬ here <+: x.1) :
    ((traverse hit here d).foldl (dhVisit env t rootHist fmts o) st).dirHashes =
      st.dirHashes ++ [(here, specHashes env hit (ctxKeys fmts) here d)] :=
  foldl_dhVisit_dirHashes env t rootHist fmts o hit d hdir here st hat hnd hst

/-- the same for duplicate-free formats (as the formats of `verifyDh` are, `dhFormats_nodup`) -/
theorem dhVisit_fold_dirHashes_nodup (env : Env) (t : Node) (rootHist : Hist) (fmts : List String) (o : DhOpts)
    (hit : RelPath → Bool) (here : RelPath) (d : Node) (st : DhState)
    (hfm : fmts.Nodup) (hdir : d.isDir = true) (hat : t.at? here = some d) (hnd : d.NamesDistinct)
    (hst : ∀ x ∈ st.dirHashes, ¬ here <+: x.1) :
    ((traverse hit here d).foldl (dhVisit env t rootHist fmts o) st).dirHashes =
      st.dirHashes ++ [(here, fmts.map fun f =>
        (f, (nodeHashes env.H env.D f hit here d).1, (nodeHashes env.H env.D f hit here d).2))] := by
  have := dhVisit_fold_dirHashes env t rootHist fmts o hit here d st hdir hat hnd hst
  rwa [ctxKeys_of_nodup fmts hfm] at this

/-- the hashes `verify -dh` and `create` compute for the same folder from the same visible entries are the same:
both are the specified ones -/
theorem dhVisit_agrees_with_createVisit (env : Env) (t : Node) (rootHist rootHist' : Hist) (fmts : List String)
    (o : DhOpts) (hit : RelPath → Bool) (here : RelPath) (d : Node) (st : DhState) (st' : CreateState)
    (hdir : d.isDir = true) (hat : t.at? here = some d) (hnd : d.NamesDistinct)
    (hst : ∀ x ∈ st.dirHashes, ¬ here <+: x.1) (hst' : ∀ x ∈ st'.dirHashes, ¬ here <+: x.1) :
    ((traverse hit here d).foldl (dhVisit env t rootHist fmts o) st).dirHashes.drop st.dirHashes.length =
    ((traverse hit here d).foldl (createVisit env t rootHist' fmts false) st').dirHashes.drop st'.dirHashes.length := by
  rw [dhVisit_fold_dirHashes env t rootHist fmts o hit here d st hdir hat hnd hst,
    MhlProps.C07impl.createVisit_fold_dirHashes_general env t rootHist' fmts hit here d st' hdir hat hnd hst']
  simp

/-! ### 2. end to end: seal, then `verify -dh` -/

/-- the matcher of the sealing run (no history yet: the defaults plus what is given) -/
def sealHit (env : Env) (o : CreateOpts) : RelPath → Bool :=
  env.hit (setPatterns none o.ignoreCli o.ignoreFile)

/-- the sealed tree: the generations `create` wrote, put into the `ascmhl` folders -/
def sealed (env : Env) (t : Node) (o : CreateOpts) : Node := applyWritten t (createFolder env t o).written

/-! #### a tree without any `ascmhl` folder is the setting of C09nested with the empty history: what loads, what the
first seal writes -/

theorem mem_all_emptyHist {x : Hist} (hx : x ∈ emptyHist.all) : x = emptyHist := by
  rw [Hist.all, allDescendants_flat emptyHist rfl, List.mem_singleton] at hx
  exact hx

theorem noDirHashesYet_emptyHist : MhlProps.C09nested.NoDirHashesYet emptyHist := by
  intro x hx g hg
  rw [mem_all_emptyHist hx] at hg
  cases hg

theorem noLineFeeds_emptyHist {rn stamp : String} (hrn : '\n' ∉ rn.toList) (hstamp : '\n' ∉ stamp.toList) :
    NoLineFeeds emptyHist rn stamp :=
  ⟨hstamp, fun x hx => by rw [mem_all_emptyHist hx]; exact hrn⟩

/-- the commit of the first seal goes through (no file has a record it could disagree with) and is what `createFolder`
returns -/
theorem fresh_commit (env : Env) (t : Node) (o : CreateOpts) (hl : loadHistory t = .ok emptyHist)
    (hdr : o.detectRenaming = false) :
    commit emptyHist (MhlProps.C02rec.cSession env t emptyHist o) env.rootName env.stamp "in-place" =
      .ok (createFolder env t o).written := by
  have hcons : MhlProps.C04nested.AllConsistent env t emptyHist o := fun p _ => Or.inl (by
    intro g hg
    rw [MhlProps.C04nested.owner_u, route_flat emptyHist rfl p] at hg
    cases hg)
  obtain ⟨ws, hcm, hwr, -⟩ := MhlProps.C04nested.nested_commit_ok hl hcons
  rw [cRen_noDr env t emptyHist o hdr] at hcm
  rw [hwr]
  exact hcm

theorem loadHistory_congr_hist {t t' : Node} (h : noNested t = true) (h' : noNested t' = true)
    (hh : t.hist = t'.hist) : loadHistory t = loadHistory t' := by
  rw [loadHistory_of_noNested t h, loadHistory_of_noNested t' h', hh]

/-- the first seal writes into the `ascmhl` folder of the root only -/
theorem noNested_first_seal (env : Env) (t : Node) (o : CreateOpts) (hl : loadHistory t = .ok emptyHist)
    (hdr : o.detectRenaming = false) (hnn : noNested t = true) :
    noNested (applyWritten t (createFolder env t o).written) = true := by
  have hroot : ∀ w ∈ (createFolder env t o).written, w.histRoot = [] := fun w hw => by
    obtain ⟨h, hh, hr, -⟩ := commit_records (fresh_commit env t o hl hdr) hw
    rw [walkPost_flat emptyHist rfl, List.mem_singleton] at hh
    rw [hr, hh]
    rfl
  clear hl
  unfold applyWritten
  generalize (createFolder env t o).written = ws at hroot
  induction ws generalizing t with
  | nil => exact hnn
  | cons w ws ih =>
    rw [List.foldl_cons, hroot w List.mem_cons_self, updateAt_nil]
    refine ih _ ?_ fun w' hw' => hroot w' (List.mem_cons_of_mem _ hw')
    cases t <;> exact hnn

/-- END TO END (C09, positive half).  `t` is a folder without any `ascmhl` folder; `create` in folder mode with
directory hashes, without `-dr`, in at least one format, seals it; the written generation is put into the tree.  Then
`verify -dh` (no options) ends normally: exit code 0.

Why: the tree loads as the empty history, which has no directory hashes yet and against which the commit of the run
cannot fail (`fresh_commit`); so this is `MhlProps.C09nested.verifyDh_after_first_nested_seal`. -/
theorem verifyDh_after_seal (env : Env) (t : Node) (o : CreateOpts) (hnh : noHist t = true)
    (hdir : t.isDir = true) (hd : t.NamesDistinct) (hn : t.NamesOk) (hf : o.formats ≠ [])
    (hno : o.noDirHashes = false) (hdr : o.detectRenaming = false)
    (hrn : '\n' ∉ env.rootName.toList) (hstamp : '\n' ∉ env.stamp.toList) :
    (verifyDh env (applyWritten t (createFolder env t o).written) {}).err = none ∧
    (verifyDh env (applyWritten t (createFolder env t o).written) {}).exitCode = 0 := by
  have hl := loadHistory_noHist t hnh hdir
  have := MhlProps.C09nested.verifyDh_after_first_nested_seal env t o emptyHist hl hd hn hdir hf hno _
    (fresh_commit env t o hl hdr) (noLineFeeds_emptyHist hrn hstamp) noDirHashesYet_emptyHist
  exact ⟨this.1, this.2.1⟩

/-- the same for the command `create` without `-sf` -/
theorem verifyDh_after_create (env : Env) (t : Node) (o : CreateOpts) (hnh : noHist t = true)
    (hdir : t.isDir = true) (hd : t.NamesDistinct) (hn : t.NamesOk) (hf : o.formats ≠ [])
    (hno : o.noDirHashes = false) (hsf : o.singleFiles = []) (hdr : o.detectRenaming = false)
    (hrn : '\n' ∉ env.rootName.toList) (hstamp : '\n' ∉ env.stamp.toList) :
    (verifyDh env (applyWritten t (create env t o).written) {}).exitCode = 0 := by
  rw [create_eq_createFolder env t o hsf]
  exact (verifyDh_after_seal env t o hnh hdir hd hn hf hno hdr hrn hstamp).2

/-! ### 3. a change of the content is detected -/

/-- On the history of the sealed tree: a tree `tc` (same `ascmhl` folder at the root, no nested `ascmhl` folder,
distinct sibling names; otherwise arbitrary — files changed, added, removed, the folder renamed) whose ROOT content
hash differs from the sealed one in EVERY requested format makes `verify -dh` end with 12.
(`_partial`: the hypothesis is on the root content hash, i.e. the change must have propagated to the root — which it
does when `H` and `D` are injective enough, C07; a structure-hash-only change is detected the same way, see
`compareDir`.) -/
theorem verifyDh_detects_content_change_partial (env : Env) (t : Node) (o : CreateOpts) (hnh : noHist t = true)
    (hdir : t.isDir = true) (hd : t.NamesDistinct) (hn : t.NamesOk) (hf : o.formats ≠ [])
    (hno : o.noDirHashes = false) (hdr : o.detectRenaming = false)
    (hrn : '\n' ∉ env.rootName.toList) (hstamp : '\n' ∉ env.stamp.toList)
    (tc : Node) (hch : tc.hist = (applyWritten t (createFolder env t o).written).hist)
    (hcdir : tc.isDir = true) (hcnn : noNested tc = true) (hcd : tc.NamesDistinct)
    (hdiff : ∀ f ∈ o.formats, (nodeHashes env.H env.D f (sealHit env o) [] tc).1 ≠
      (nodeHashes env.H env.D f (sealHit env o) [] t).1) :
    (verifyDh env tc {}).err = some errDirVerifyFailed ∧ (verifyDh env tc {}).exitCode = 12 := by
  have hl := loadHistory_noHist t hnh hdir
  refine MhlProps.C09nested.verifyDh_detects_change_after_nested_seal env t o emptyHist hl hd hn hdir hf hno _
    (fresh_commit env t o hl hdr) (noLineFeeds_emptyHist hrn hstamp)
    (MhlProps.C09nested.oldMatch_of_noDirHashesYet env t emptyHist _ hl noDirHashesYet_emptyHist) tc
    (loadHistory_congr_hist hcnn (noNested_first_seal env t o hl hdr (noHist_parts t hnh).2) hch) hcdir hcd ?_
  rintro f (hfm | ⟨g, hg, -⟩)
  · exact hdiff f hfm
  · cases hg

/-! ### non-vacuity -/

section Examples

/-- toy hashing layer: the "digest" is the format name followed by the sum of the input bytes -/
def exEnv : Env :=
  { H := fun f c => f ++ toString (c.foldl (fun a u => a + u.toNat) 0), D := fun _ s => some s.toUTF8.toList,
    hit := fun pats p => pats.contains (posix p) || p.getLast? == some ".DS_Store", rootName := "root" }

/-- a folder without any `ascmhl` folder: a file, a nested folder with a file and a deeper folder, an ignored file -/
def exT : Node :=
  .dir "root"
    [ .file "a.txt" [7],
      .dir "sub" [.file "b.txt" [1, 2], .dir "deep" [.file "c" [5]] none] none,
      .file ".DS_Store" [9] ] none

def exO : CreateOpts := { formats := ["xxh64", "md5"] }

theorem exT_distinct : exT.NamesDistinct := by
  simp [exT, Node.NamesDistinct, Node.NamesDistinctKids, Node.name]

theorem exT_namesOk : exT.NamesOk := by decide +kernel

theorem exEnv_stamp : '\n' ∉ exEnv.stamp.toList := by decide +kernel

/-- every hypothesis of `verifyDh_after_seal` holds on `exT` -/
example : noHist exT = true ∧ exT.isDir = true ∧ exT.NamesDistinct ∧ exT.NamesOk ∧ exO.formats ≠ [] ∧
    exO.noDirHashes = false ∧ exO.singleFiles = [] ∧ exO.detectRenaming = false ∧
    '\n' ∉ exEnv.rootName.toList ∧ '\n' ∉ exEnv.stamp.toList :=
  ⟨by rfl, rfl, exT_distinct, exT_namesOk, by decide, rfl, rfl, rfl, by decide, exEnv_stamp⟩

/-- the theorem applied … -/
example : (verifyDh exEnv (applyWritten exT (createFolder exEnv exT exO).written) {}).exitCode = 0 :=
  (verifyDh_after_seal exEnv exT exO (by rfl) rfl exT_distinct exT_namesOk (by decide) rfl rfl
    (by decide) exEnv_stamp).2

/-- … and the same by evaluation of the model -/
example : (verifyDh exEnv (applyWritten exT (createFolder exEnv exT exO).written) {}).exitCode = 0 := by
  decide +kernel

/-- what the seal recorded for the folders: two formats each, sorted, the root as root hash -/
example : (createFolder exEnv exT exO).written.map (fun w =>
      (w.gen.fileName, (w.gen.records.filter (·.isDir)).map (fun r => (r.path, r.entries.map (·.fmt))),
        (w.gen.rootHash.getD []).map (·.fmt))) =
    [("0001_root_1970-01-01_000000Z.mhl", [("sub/deep", ["md5", "xxh64"]), ("sub", ["md5", "xxh64"])],
      ["md5", "xxh64"])] := by
  decide +kernel

/-- the sealed tree with `sub/b.txt` altered -/
def exChanged : Node :=
  .dir "root"
    [ .file "a.txt" [7],
      .dir "sub" [.file "b.txt" [1, 3], .dir "deep" [.file "c" [5]] none] none,
      .file ".DS_Store" [9] ] (applyWritten exT (createFolder exEnv exT exO).written).hist

/-- the hypotheses of `verifyDh_detects_content_change_partial` hold for it (the toy digest of the root content
changes in both formats) … -/
example : exChanged.hist = (applyWritten exT (createFolder exEnv exT exO).written).hist ∧ exChanged.isDir = true ∧
    noNested exChanged = true ∧
    ∀ f ∈ exO.formats, (nodeHashes exEnv.H exEnv.D f (sealHit exEnv exO) [] exChanged).1 ≠
      (nodeHashes exEnv.H exEnv.D f (sealHit exEnv exO) [] exT).1 :=
  ⟨by rw [exChanged, Node.hist], rfl, by decide +kernel, by decide +kernel⟩

/-- … and `verify -dh` ends with 12 -/
example : (verifyDh exEnv exChanged {}).exitCode = 12 := by decide +kernel

/-- the refinement on `exT`, for any history: the root hashes `verify -dh` computes are the specified ones -/
example (h : Hist) :
    dhRootHashes exEnv exT h {} =
      specHashes exEnv (exEnv.hit (setPatterns (latestIgnore h.gens) [] [])) (dhFormats h none) [] exT :=
  dhRootHashes_spec exEnv exT h {} rfl exT_distinct

/-- on the sealed `exT` (history `h` as loaded) every entry recorded for a visible sub-folder carries the specified
hashes, and there is something to record: two visible sub-folders, one nested in the other -/
example : ∃ h, loadHistory (sealed exEnv exT exO) = .ok h ∧
    ∀ q c, (q, true) ∈ visiblePaths (sealHit exEnv exO) (sealed exEnv exT exO) →
      (sealed exEnv exT exO).at? q = some c →
      ∀ e ∈ dirEntriesFor (route h q).1 (posix (route h q).2),
        e.digest = (nodeHashes exEnv.H exEnv.D e.fmt (sealHit exEnv exO) q c).1 ∧
        e.shash = some (nodeHashes exEnv.H exEnv.D e.fmt (sealHit exEnv exO) q c).2 := by
  have hl := loadHistory_noHist exT (by rfl) rfl
  obtain ⟨h, hl', -, hm⟩ := MhlProps.C09nested.oldMatch_after_nested_seal exEnv exT exO emptyHist hl exT_distinct
    exT_namesOk rfl (by decide) rfl _ (fresh_commit exEnv exT exO hl rfl) (noLineFeeds_emptyHist (by decide) exEnv_stamp)
    (MhlProps.C09nested.oldMatch_of_noDirHashesYet exEnv exT emptyHist _ hl noDirHashesYet_emptyHist)
  exact ⟨h, hl', hm.1⟩

example : (visiblePaths (sealHit exEnv exO) (sealed exEnv exT exO)).filter (·.2) =
    [(["sub", "deep"], true), (["sub"], true)] := by decide +kernel

/-- with a sub-folder recorded under a wrong content hash the traversal marks the format -/
example :
    let g : Generation :=
      { fileName := "0001_root_2020-01-01_000000Z.mhl",
        rootHash := some [{ fmt := "md5", digest := "x", shash := some "y" }],
        records := [{ path := "sub", isDir := true, entries := [{ fmt := "md5", digest := "WRONG", shash := some "z" }] }] }
    let t : Node := .dir "root" [.dir "sub" [.file "b.txt" [1, 2]] none]
      (some { gens := [g], chain := [⟨1, "0001_root_2020-01-01_000000Z.mhl"⟩] })
    ((traverse (fun _ => false) [] t).foldl
      (dhVisit exEnv t (.mk [] [⟨1, g⟩] [] true []) ["md5"] {}) {}).failedFormats = ["md5"] := by
  decide +kernel

end Examples

end MhlProps.C09e2e
