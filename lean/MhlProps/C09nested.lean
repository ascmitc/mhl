/-
C09nested — property C09 end to end for trees WITH NESTED HISTORIES: `verify -dh` exits 0 on a tree identical to the
one every generation recorded, exits 12 when the tree differs from what all recorded generations say, and never
aborts with an internal error.

Here `t` is any tree whose history loads, `loadHistory t = .ok h`; `h` may have children and grand-children; `env`
(hash function, decoder, matcher) arbitrary.  MhlProps/C09e2e.lean reads the case of a tree without any `ascmhl` folder
off these theorems.
Helper lemmas and the vocabulary (`dhHit`, `EntryOk`, `comparedEntries`): MhlProps/Proofs/DhNestedLemmas.lean.

What holds of ARBITRARY trees (when the command ends with 0, when with 12) comes before the sealing run (what it
records) and what follows from it (seal, then 0; a change after the seal, then 12); closed examples, with every
hypothesis discharged, at the end.

WHICH ENTRIES ARE COMPARED (read off `dhVisit` / `verifyDh`; `comparedEntries`, `compared_nested_root`):
* a visible sub-folder `q` that is NOT the root folder of a nested history: the directory entries recorded for
  `posix (route h q).2` in EVERY generation of the history `(route h q).1` that owns `q` (the deepest history whose root
  is a prefix of `q`);
* the root folder `q` of a NESTED history `c`: `route h q = (c, [])`, so the entries recorded under "." in `c`'s OWN
  generations — `c`'s root hashes, each entry twice — and NOT the directory record the PARENT history keeps for `q`
  (that one is never looked at by `verify -dh`);
* the command root: the root hashes of every generation of the root history `h`, at the end.
The formats are those of the ROOT history's root hashes (`dhFormats h`), also for the nested histories.

Hypotheses used where records are tied to paths (all shown satisfiable in the examples): sibling names distinct
(`Node.NamesDistinct`), names free of '/' and not "." (`Node.NamesOk`), the root is a folder, at least one format, no
`-dr` (the committed session is `cSession`), and for reloading `NoLineFeeds` (folder names of the histories and the
stamp free of line feeds — else the manifest just written is not recognised, C06; witness at the end).
-/
import MhlProps.C07impl
import MhlProps.C09
import MhlProps.Proofs.DhNestedLemmas
import MhlProps.Proofs.SealedRunLemmas

namespace MhlProps.C09nested
open MhlModel
open MhlProps.C07impl (specHashes)
open MhlProps.C02rec (cSession cHit)

/-! ### never an internal error -/

/-- `verify -dh` never ends with an uncaught exception, on ANY tree (nested histories or not), with any options: it
ends normally or with a `click` exit code; once the history loads (`loadHistory t = .ok h`, any shape of `h`) the only
possible code is 12.  (`MhlProps.C09.verifyDh_total` assumes nothing about the tree and so covers nested histories as
it stands: the comparison itself — `route`, `dirEntriesFor`, `dhCompare` — is total in the model; what can raise is
only the loading, and that raises 31 / 32 / 33.) -/
theorem verifyDh_never_internal_nested (env : Env) (t : Node) (o : DhOpts) :
    ((verifyDh env t o).err = none ∨ ∃ n, (verifyDh env t o).err = some (.exit n)) ∧
    (∀ k, (verifyDh env t o).err ≠ some (.internal k)) ∧
    (∀ h, loadHistory t = .ok h →
      (verifyDh env t o).err = none ∨ (verifyDh env t o).err = some errDirVerifyFailed) ∧
    (verifyDh env t o).exitCode ∈ [0, 12, 31, 32, 33] := by
  refine ⟨?_, MhlProps.C09.verifyDh_never_internal env t o, ?_, MhlProps.C09.verifyDh_exitCode env t o⟩
  · rcases MhlProps.C09.verifyDh_total env t o with h | h | ⟨e, -, h, rfl | rfl | rfl⟩
    · exact Or.inl h
    all_goals exact Or.inr ⟨_, h⟩
  · intro h hl
    rcases MhlProps.C09.verifyDh_total env t o with h1 | h1 | ⟨e, he, -⟩
    · exact Or.inl h1
    · exact Or.inr h1
    · rw [hl] at he; cases he

/-! ### which entries are compared (the vocabulary `dhHit`, `EntryOk`, `comparedEntries` is in DhNestedLemmas) -/

/-- for the root folder of a NESTED history `c` these are the entries under "." of the history `route` ends at, which is
rooted where `c` is (it is `c` itself, the roots of a loaded history being pairwise different: `mem_all_root_inj`) -/
theorem compared_nested_root_route (t : Node) (h : Hist) (hl : loadHistory t = .ok h) (hd : t.NamesDistinct)
    (c : Hist) (hc : c ∈ allDescendants h) :
    (route h c.root).1.root = c.root ∧ (route h c.root).2 = [] ∧
      comparedEntries h c.root = dirEntriesFor (route h c.root).1 "." := by
  have hg := loadHistory_histOK t h hl hd
  obtain ⟨h1, h2⟩ := owner_nested hg hc
  refine ⟨h1, h2, ?_⟩
  unfold comparedEntries
  rw [show (route h c.root).2 = [] from h2]
  rfl

/-- … and when no record of that history has the path or previous path "." (the tool never writes one), they are the
root hash entries of ALL its generations, each entry twice (once through the path map, once through the root-hash
branch of `find_directory_hash_entries_for_path`) — never the directory record the parent history keeps for the
folder -/
theorem compared_nested_root (c : Hist)
    (hclean : ∀ g ∈ c.gens, ∀ r ∈ g.gen.records, r.path ≠ "." ∧ r.prev ≠ some ".") :
    dirEntriesFor c "." = allRootEntries c ++ allRootEntries c := by
  simp only [dirEntriesFor, beq_self_eq_true, if_true]
  unfold allRootEntries
  congr 1
  apply List.flatMap_congr
  intro g hg
  rw [Generation.find_dot (hclean g hg)]
  cases hr : g.gen.rootHash <;> simp [Generation.rootRec, hr]

/-! ### every recorded entry matches the current tree ⇒ exit 0 (arbitrary nested trees) -/

/-- (ARBITRARY nested trees, any options.)  If every entry `verify -dh` compares — for every visible sub-folder `q`
the entries of `comparedEntries h q` (the history that owns `q`, or for the root folder of a nested history that
history's own root hashes), and the root hashes of every generation of the root history — that is in a computed
format carries the hashes the specification assigns to the CURRENT tree, then `verify -dh` ends normally and no
folder is reported. -/
theorem verifyDh_all_match_ok (env : Env) (t : Node) (o : DhOpts) (h : Hist) (hl : loadHistory t = .ok h)
    (hdir : t.isDir = true) (hnd : t.NamesDistinct)
    (hsub : ∀ q c, (q, true) ∈ visiblePaths (dhHit env h o) t → t.at? q = some c →
      ∀ e ∈ comparedEntries h q, e.fmt ∈ dhFormats h o.format → EntryOk env (dhHit env h o) q c e)
    (hroot : ∀ g ∈ h.gens, ∀ e ∈ g.gen.rootHash.getD [], e.fmt ∈ dhFormats h o.format →
      EntryOk env (dhHit env h o) [] t e) :
    (verifyDh env t o).err = none ∧ (verifyDh env t o).exitCode = 0 ∧ (verifyDh env t o).report.dirMismatch = [] := by
  have hnone : ∀ b, marksOf b (dhFinal env t h o) = [] := fun b => by
    rw [List.eq_nil_iff_forall_not_mem]
    intro x hx
    rcases (mem_marksOf_dhFinal b env t h o hdir hnd x).1 hx with
      ⟨-, q, hq, c, e, hat, he, hfm, hne, -⟩ | ⟨-, e, he, hfm, hne, -⟩
    · exact hne (hsub q c hq hat e he hfm)
    · obtain ⟨g, hg, heg⟩ := List.mem_flatMap.1 he
      exact hne (hroot g hg e heg hfm)
  have key : (verifyDh env t o).err = none := by
    rw [verifyDh_ok env t o h hl]
    exact congrArg (dhExit _) (hnone true)
  refine ⟨key, by simp [Outcome.exitCode, key], ?_⟩
  rw [verifyDh_ok env t o h hl]
  exact hnone false

/-! ### the exact condition for 12 on nested trees -/

/-- `verify -dh` ends with 12 EXACTLY when (no `-ro` and) for every computed format some compared entry of that
format differs from the specified hashes of the current tree: an entry of a visible sub-folder (looked up in the
history that owns it; for a nested root folder: that history's own root hashes) or a root hash entry of the root
history. -/
theorem verifyDh_12_iff_nested (env : Env) (t : Node) (o : DhOpts) (h : Hist) (hl : loadHistory t = .ok h)
    (hdir : t.isDir = true) (hnd : t.NamesDistinct) :
    (verifyDh env t o).err = some errDirVerifyFailed ↔
      (o.rootOnly = false ∧ ∀ f ∈ dhFormats h o.format,
        (∃ q c e, (q, true) ∈ visiblePaths (dhHit env h o) t ∧ t.at? q = some c ∧ e ∈ comparedEntries h q ∧
          e.fmt = f ∧ ¬ EntryOk env (dhHit env h o) q c e) ∨
        (∃ g ∈ h.gens, ∃ e ∈ g.gen.rootHash.getD [], e.fmt = f ∧ ¬ EntryOk env (dhHit env h o) [] t e)) := by
  rw [MhlProps.C09.verifyDh_12_final env t o h hl]
  have hmark := fun f => mem_marksOf_dhFinal true env t h o hdir hnd f
  constructor
  · intro hall
    have hro : o.rootOnly = false := by
      obtain ⟨f, hf⟩ := List.exists_mem_of_ne_nil _ (dhFormats_ne_nil h o.format)
      rcases (hmark f).1 (hall f hf) with ⟨h1, -⟩ | ⟨h1, -⟩
      · exact h1
      · exact h1 rfl
    refine ⟨hro, fun f hf => ?_⟩
    rcases (hmark f).1 (hall f hf) with ⟨-, q, hq, c, e, hat, he, -, hne, hef⟩ | ⟨-, e, he, -, hne, hef⟩
    · exact Or.inl ⟨q, c, e, hq, hat, he, hef, hne⟩
    · obtain ⟨g, hg, heg⟩ := List.mem_flatMap.1 he
      exact Or.inr ⟨g, hg, e, heg, hef, hne⟩
  · rintro ⟨hro, hall⟩ f hf
    apply (hmark f).2
    rcases hall f hf with ⟨q, c, e, hq, hat, he, hef, hne⟩ | ⟨g, hg, e, heg, hef, hne⟩
    · exact Or.inl ⟨hro, q, hq, c, e, hat, he, hef ▸ hf, hne, hef⟩
    · exact Or.inr ⟨fun _ => hro, e, List.mem_flatMap.2 ⟨g, hg, heg⟩, hef ▸ hf, hne, hef⟩

/-- the ⇐ direction of `verifyDh_12_iff_nested`, the difference spelt out per hash -/
theorem verifyDh_nested_mismatch_12 (env : Env) (t : Node) (o : DhOpts) (h : Hist) (hl : loadHistory t = .ok h)
    (hdir : t.isDir = true) (hnd : t.NamesDistinct) (hro : o.rootOnly = false)
    (hbad : ∀ f ∈ dhFormats h o.format,
      (∃ q c e, (q, true) ∈ visiblePaths (dhHit env h o) t ∧ t.at? q = some c ∧ e ∈ comparedEntries h q ∧
        e.fmt = f ∧ (e.digest ≠ (nodeHashes env.H env.D f (dhHit env h o) q c).1 ∨
          e.shash ≠ some (nodeHashes env.H env.D f (dhHit env h o) q c).2)) ∨
      (∃ g ∈ h.gens, ∃ e ∈ g.gen.rootHash.getD [], e.fmt = f ∧
        (e.digest ≠ (nodeHashes env.H env.D f (dhHit env h o) [] t).1 ∨
          e.shash ≠ some (nodeHashes env.H env.D f (dhHit env h o) [] t).2))) :
    (verifyDh env t o).err = some errDirVerifyFailed ∧ (verifyDh env t o).exitCode = 12 := by
  have key : (verifyDh env t o).err = some errDirVerifyFailed := by
    rw [verifyDh_12_iff_nested env t o h hl hdir hnd]
    refine ⟨hro, fun f hf => ?_⟩
    rcases hbad f hf with ⟨q, c, e, hq, hat, he, rfl, hne⟩ | ⟨g, hg, e, he, rfl, hne⟩
    · exact Or.inl ⟨q, c, e, hq, hat, he, rfl, fun hok => hne.elim (· hok.1) (· hok.2)⟩
    · exact Or.inr ⟨g, hg, e, he, rfl, fun hok => hne.elim (· hok.1) (· hok.2)⟩
  exact ⟨key, by rw [Outcome.exitCode, key]; decide⟩

/-! ### what a sealing run records, read back from the reloaded tree -/

/-- the formats that get directory hashes: the requested ones, sorted, each once -/
abbrev runKeys (o : CreateOpts) : List String := ctxKeys (isort strLe o.formats)

theorem mem_runKeys (o : CreateOpts) (f : String) : f ∈ runKeys o ↔ f ∈ o.formats := by
  unfold runKeys; rw [mem_ctxKeys, mem_isort]

section run
variable {env : Env} {t : Node} {o : CreateOpts} {rootHist : Hist} {ws : List Written}
  (R : SealedRun env t o rootHist ws) (hno : o.noDirHashes = false)
include R hno

/-- what the run writes about a folder it visited (`d`: a visible folder or the command root): `SInv.written_dir`
with the hashes spelt as the specified ones -/
theorem written_dir {d : RelPath} {c : Node} (hx : (d, true) ∈ recItems (traverse (cHit env rootHist o) [] t))
    (hat : t.at? d = some c) :
    ∃ w ∈ ws, w.histRoot = (route rootHist d).1.root ∧
      ((route rootHist d).2 ≠ [] → ∃ r ∈ w.gen.records, r.path = posix (route rootHist d).2 ∧ r.isDir = true ∧
        r.entries = dirEnts (specEntry env (cHit env rootHist o) (runKeys o) d c).2) ∧
      ((route rootHist d).2 = [] →
        w.gen.rootHash = some (dirEnts (specEntry env (cHit env rootHist o) (runKeys o) d c).2)) := by
  obtain ⟨w, hw, hwr, hrec, hroot⟩ := R.sinv.written_dir R.histOK R.commit hx
  -- the hashes the session records for `d` are the specified ones
  have hsp : visitSpecHashes env t (isort strLe o.formats) (cHit env rootHist o) o.noDirHashes d =
      (specEntry env (cHit env rootHist o) (runKeys o) d c).2 := by
    simp [visitSpecHashes, hno, hat]
  rw [hsp] at hrec hroot
  refine ⟨w, hw, hwr, fun hne => (hrec hne).imp fun r h => ⟨h.1, h.2⟩, fun h0 => ?_⟩
  obtain ⟨f0, hf0⟩ := List.exists_mem_of_ne_nil _ R.formats
  obtain ⟨e, he, -⟩ := dirEnts_spec_mem env (cHit env rootHist o) (runKeys o) d c f0 ((mem_runKeys o f0).2 hf0)
  rw [(hroot h0).1, if_neg]
  intro hemp
  rw [List.isEmpty_iff.1 hemp] at he
  cases he

theorem root_hash_written :
    ∃ w ∈ ws, w.histRoot = [] ∧ (addWritten ws rootHist).gens = rootHist.gens ++ [⟨w.number, w.gen⟩] ∧
      w.gen.rootHash = some (dirEnts (specEntry env (cHit env rootHist o) (runKeys o) [] t).2) := by
  obtain ⟨w, hw, hwr, hg, -, -⟩ := R.root_gen
  obtain ⟨w', hw', hwr', -, hrh⟩ :=
    written_dir R hno ((mem_recItems _ t _).2 (Or.inr ⟨rfl, R.isDir⟩)) (Node.at?_nil t)
  cases R.eq_of_root hw hw' (hwr.trans (hwr'.trans (owner_nil R.histOK.root).1).symm)
  exact ⟨w, hw, hwr, hg, hrh (owner_nil R.histOK.root).2⟩

theorem root_entries_after :
    allRootEntries (addWritten ws rootHist) =
      allRootEntries rootHist ++ dirEnts (specEntry env (cHit env rootHist o) (runKeys o) [] t).2 := by
  obtain ⟨w, -, -, hg, hrh⟩ := root_hash_written R hno
  unfold allRootEntries
  rw [hg, List.flatMap_append, List.flatMap_singleton, hrh]
  rfl

theorem mem_compared_after {q : RelPath} {c : Node} (hv : (q, true) ∈ visiblePaths (cHit env rootHist o) t)
    (hat : t.at? q = some c) (e : Entry) :
    e ∈ comparedEntries (addWritten ws rootHist) q ↔
      e ∈ comparedEntries rootHist q ∨ e ∈ dirEnts (specEntry env (cHit env rootHist o) (runKeys o) q c).2 := by
  obtain ⟨w, hw, hwr, hrec, hroot⟩ := written_dir R hno ((mem_recItems _ t _).2 (Or.inl hv)) hat
  obtain ⟨hclean, hpnd⟩ := R.clean hw
  unfold comparedEntries
  rw [route_addWritten, mem_dirEntriesFor_snoc (R.gens_of hw hwr.symm)]
  refine or_congr Iff.rfl ?_
  by_cases hrel : (route rootHist q).2 = []
  · -- the root folder of a nested history: the root hash, found under "." twice
    rw [hrel, show posix [] = "." from rfl, Generation.find_dot_clean hclean, Generation.rootRec, hroot hrel]
    simp
  · -- any other folder: its directory record
    have hpd : posix (route rootHist q).2 ≠ "." := fun h0 => hrel ((posix_eq_dot (R.rel_names hv).1).1 h0)
    obtain ⟨r, hr, hrp, hrd, hents⟩ := hrec hrel
    rw [← hrp, Generation.find_of_mem hpnd (fun x hx => (hclean x hx).1) hr]
    simp [hrd, hents, hrp ▸ hpd]

end run

/-! ### the hypothesis of "seal, then 0": the older generations recorded the same tree -/

/-- every directory entry recorded in the EXISTING generations — of whichever history `verify -dh` will look a
visible folder up in, and the root hashes of the root history — carries the hashes the specification assigns to the
current tree (over the entries visible under `hit`): "the older generations recorded the same tree" -/
def OldMatch (env : Env) (t : Node) (rootHist : Hist) (hit : RelPath → Bool) : Prop :=
  (∀ q c, (q, true) ∈ visiblePaths hit t → t.at? q = some c → ∀ e ∈ comparedEntries rootHist q,
    EntryOk env hit q c e) ∧
  (∀ g ∈ rootHist.gens, ∀ e ∈ g.gen.rootHash.getD [], EntryOk env hit [] t e)

/-- no generation of any history carries directory hashes yet (sealed with `--no_directory_hashes`, or never sealed) -/
def NoDirHashesYet (rootHist : Hist) : Prop :=
  ∀ x ∈ rootHist.all, ∀ g ∈ x.gens, g.gen.rootHash = none ∧ ∀ r ∈ g.gen.records, r.isDir = true → r.entries = []

theorem oldMatch_of_noDirHashesYet (env : Env) (t : Node) (rootHist : Hist) (hit : RelPath → Bool)
    (hl : loadHistory t = .ok rootHist) (h : NoDirHashesYet rootHist) :
    OldMatch env t rootHist hit := by
  constructor
  · intro q c _ _ e he
    exfalso
    obtain ⟨g, hgm, hfound⟩ := (mem_dirEntriesFor _ _ e).1 he
    obtain ⟨hrh, hrecs⟩ := h _ (route_mem (loadHistory_root t rootHist hl) q) g hgm
    obtain ⟨r, hf, hrd, her⟩ | ⟨-, her⟩ := hfound
    · obtain ⟨hm, -⟩ | ⟨-, h0⟩ := Generation.find_some hf
      · rw [hrecs r hm hrd] at her
        cases her
      · simp [Generation.rootRec, hrh] at h0
    · rw [hrh] at her
      cases her
  · intro g hgm e he
    rw [(h rootHist rootHist.self_mem_all g hgm).1] at he
    cases he

/- The theorems C09 is claimed by take the fields of `SealedRun` one by one (their statements are the property's);
each proof bundles them into `R : SealedRun …` first and goes on with the lemmas of `section run`. -/
section sealed
variable (env : Env) (t : Node) (o : CreateOpts) (rootHist : Hist) (hl : loadHistory t = .ok rootHist)
  (hd : t.NamesDistinct) (hn : t.NamesOk) (hdir : t.isDir = true) (hf : o.formats ≠ [])
  (hno : o.noDirHashes = false) (ws : List Written)
  (hcm : commit rootHist (cSession env t rootHist o) env.rootName env.stamp "in-place" = .ok ws)
  (hlf : NoLineFeeds rootHist env.rootName env.stamp)
include hl hd hn hdir hf hno hcm hlf

/-- After the run (its commit wrote `ws`; `(createFolder env t o).written = ws` without `-dr`,
`MhlProps.C08part.create_written`) the tree with the generations written back loads as a history `h'`, and
* for EVERY visible directory `d` the entries `verify -dh` will compare `d` with contain, for every requested format,
  an entry carrying exactly the content and structure hash the specification `nodeHashes` assigns to `d`;
* the root history's generation `w` is the last generation of `h'` and its root hash is, for every requested format,
  the specified hash of the whole tree. -/
theorem recorded_dir_hashes_are_spec :
    ∃ h', loadHistory (applyWritten t ws) = .ok h' ∧
      (∀ d c, (d, true) ∈ visiblePaths (cHit env rootHist o) t → t.at? d = some c → ∀ f ∈ o.formats,
        ∃ e ∈ comparedEntries h' d, e.fmt = f ∧ EntryOk env (cHit env rootHist o) d c e) ∧
      (∃ w ∈ ws, w.histRoot = [] ∧ h'.gens = rootHist.gens ++ [⟨w.number, w.gen⟩] ∧
        w.gen.rootHash = some (dirEnts (specHashes env (cHit env rootHist o) (runKeys o) [] t)) ∧
        ∀ f ∈ o.formats, ∃ e ∈ w.gen.rootHash.getD [], e.fmt = f ∧ EntryOk env (cHit env rootHist o) [] t e) := by
  have R : SealedRun env t o rootHist ws := ⟨hl, hd, hn, hdir, hf, hcm, hlf⟩
  have hspec : ∀ p c f, f ∈ o.formats →
      ∃ e ∈ dirEnts (specEntry env (cHit env rootHist o) (runKeys o) p c).2, e.fmt = f ∧
        EntryOk env (cHit env rootHist o) p c e := by
    intro p c f hfm
    obtain ⟨e, he, hef⟩ := dirEnts_spec_mem env (cHit env rootHist o) (runKeys o) p c f ((mem_runKeys o f).2 hfm)
    exact ⟨e, he, hef, (mem_dirEnts_spec env _ _ p c e he).2⟩
  refine ⟨addWritten ws rootHist, R.reload, fun d c hv hat f hfm => ?_, ?_⟩
  · obtain ⟨e, he, hef, heok⟩ := hspec d c f hfm
    exact ⟨e, (mem_compared_after R hno hv hat e).2 (Or.inr he), hef, heok⟩
  · obtain ⟨w, hw, hwr, hg, hrh⟩ := root_hash_written R hno
    exact ⟨w, hw, hwr, hg, hrh, fun f hfm => by rw [hrh]; exact hspec [] t f hfm⟩

/-- the same for the command: what `create` (folder mode, no `-dr`) wrote -/
theorem recorded_dir_hashes_are_spec_create (hsf : o.singleFiles = []) (hdr : o.detectRenaming = false) :
    (create env t o).written = ws ∧
    ∃ h', loadHistory (applyWritten t (create env t o).written) = .ok h' ∧
      (∀ d c, (d, true) ∈ visiblePaths (cHit env rootHist o) t → t.at? d = some c → ∀ f ∈ o.formats,
        ∃ e ∈ comparedEntries h' d, e.fmt = f ∧ EntryOk env (cHit env rootHist o) d c e) := by
  have hwr := MhlProps.C08part.create_written env t o rootHist hsf hl hdr ws hcm
  refine ⟨hwr, ?_⟩
  rw [hwr]
  obtain ⟨h', h1, h2, -⟩ := recorded_dir_hashes_are_spec env t o rootHist hl hd hn hdir hf hno ws hcm hlf
  exact ⟨h', h1, h2⟩

/-! ### seal from the outer root, then `verify -dh` → 0 -/

/-- The invariant.  `OldMatch` is KEPT by a sealing run: after the run the tree loads again, the next
`verify -dh` uses the ignore test of the run, and EVERY recorded directory entry of the reloaded tree — the older
ones and the ones just written, in every history — matches the specification of the tree.  (So any number of sealing
runs from the outer root with the same patterns keeps `verify -dh` at 0.) -/
theorem oldMatch_after_nested_seal (hold : OldMatch env t rootHist (cHit env rootHist o)) :
    ∃ h', loadHistory (applyWritten t ws) = .ok h' ∧ dhHit env h' {} = cHit env rootHist o ∧
      OldMatch env (applyWritten t ws) h' (cHit env rootHist o) := by
  have R : SealedRun env t o rootHist ws := ⟨hl, hd, hn, hdir, hf, hcm, hlf⟩
  have hsf := sameFilesDh_applyWritten t ws
  refine ⟨addWritten ws rootHist, R.reload, R.matcher, ?_, ?_⟩
  · rw [hsf.visiblePaths]
    intro q c' hv hat' e he
    obtain ⟨c, hat⟩ : ∃ c, t.at? q = some c := by
      cases hc : t.at? q with
      | none => rw [((hsf.at? q).1).2 hc] at hat'; cases hat'
      | some c => exact ⟨c, rfl⟩
    have hok : EntryOk env (cHit env rootHist o) q c e :=
      ((mem_compared_after R hno hv hat e).1 he).elim (hold.1 q c hv hat e) fun h => (mem_dirEnts_spec env _ _ q c e h).2
    unfold EntryOk at hok ⊢
    rw [((hsf.at? q).2 c c' hat hat').nodeHashes]
    exact hok
  · intro g hgm e he
    have hok : EntryOk env (cHit env rootHist o) [] t e := by
      have hm : e ∈ allRootEntries (addWritten ws rootHist) := List.mem_flatMap.2 ⟨g, hgm, he⟩
      rw [root_entries_after R hno, List.mem_append] at hm
      rcases hm with hm | hm
      · obtain ⟨g', hg', he'⟩ := List.mem_flatMap.1 hm
        exact hold.2 g' hg' e he'
      · exact (mem_dirEnts_spec env _ _ [] t e hm).2
    unfold EntryOk at hok ⊢
    rw [hsf.nodeHashes]
    exact hok

/-- Fully general.  `t` any tree whose history loads — nested histories to any depth, each possibly sealed on its
own before —; every directory entry the EXISTING generations record matches the specification of the current tree
(`OldMatch`; vacuous when no generation has directory hashes yet, `NoDirHashesYet`).  One sealing run from the outer
root (folder mode, directory hashes, at least one format) whose commit went through; the generations are written into
the `ascmhl` folders.  Then `verify -dh` (no options) on the result ends normally and reports no folder.

Why: the run records the specified hashes for every visible folder in the history that owns it, for the root folder
of every nested history as that history's root hash, and for the tree as the root history's root hash
(`written_dir`); the tree reloads with the same routing and the new generations appended (`SealedRun.reload`);
the pattern list read back is that of the run (`SealedRun.matcher`), and the tree differs in `ascmhl` folders only, so
the same entries are visible and the specified hashes are the same (`SameFilesDh`); hence every compared entry —
recorded before (`OldMatch`) or by the run — matches (`oldMatch_after_nested_seal`), and `verifyDh_all_match_ok`
applies. -/
theorem verifyDh_after_nested_seal (hold : OldMatch env t rootHist (cHit env rootHist o)) :
    (verifyDh env (applyWritten t ws) {}).err = none ∧ (verifyDh env (applyWritten t ws) {}).exitCode = 0 ∧
    (verifyDh env (applyWritten t ws) {}).report.dirMismatch = [] := by
  obtain ⟨h', hl', hhit, hm⟩ := oldMatch_after_nested_seal env t o rootHist hl hd hn hdir hf hno ws hcm hlf hold
  have hsf := sameFilesDh_applyWritten t ws
  apply verifyDh_all_match_ok env _ {} h' hl' (hsf.isDir.trans hdir) (hsf.namesDistinct.2 hd)
  · rw [hhit]
    exact fun q c hq hat e he _ => hm.1 q c hq hat e he
  · rw [hhit]
    exact fun g hg e he _ => hm.2 g hg e he

/-- The simplest setting: no history of the tree has directory hashes yet — e.g. nested histories that were sealed
with `--no_directory_hashes`, or `ascmhl` folders without a generation — and the tree is sealed from the outer root:
`verify -dh` ends with 0 -/
theorem verifyDh_after_first_nested_seal (hnone : NoDirHashesYet rootHist) :
    (verifyDh env (applyWritten t ws) {}).err = none ∧ (verifyDh env (applyWritten t ws) {}).exitCode = 0 ∧
    (verifyDh env (applyWritten t ws) {}).report.dirMismatch = [] :=
  verifyDh_after_nested_seal env t o rootHist hl hd hn hdir hf hno ws hcm hlf
    (oldMatch_of_noDirHashesYet env t rootHist _ hl hnone)

/-- `verifyDh_after_nested_seal` for the command `create` (folder mode, no `-dr`) -/
theorem verifyDh_after_nested_create (hsf : o.singleFiles = []) (hdr : o.detectRenaming = false)
    (hold : OldMatch env t rootHist (cHit env rootHist o)) :
    (verifyDh env (applyWritten t (create env t o).written) {}).exitCode = 0 := by
  rw [MhlProps.C08part.create_written env t o rootHist hsf hl hdr ws hcm]
  exact (verifyDh_after_nested_seal env t o rootHist hl hd hn hdir hf hno ws hcm hlf hold).2.1

/-- … and for the NEXT sealing run from the same root without new ignore options (any formats): its hypothesis
`OldMatch` holds on the sealed tree.  So `verifyDh_after_nested_seal` can be iterated: seal, reseal, …, `verify -dh`
→ 0 each time. -/
theorem oldMatch_for_next_run (hold : OldMatch env t rootHist (cHit env rootHist o)) (o₂ : CreateOpts)
    (hi : o₂.ignoreCli = [] ∧ o₂.ignoreFile = []) :
    ∃ h', loadHistory (applyWritten t ws) = .ok h' ∧ OldMatch env (applyWritten t ws) h' (cHit env h' o₂) := by
  obtain ⟨h', hl', hhit, hm⟩ := oldMatch_after_nested_seal env t o rootHist hl hd hn hdir hf hno ws hcm hlf hold
  have : cHit env h' o₂ = dhHit env h' {} := by
    unfold MhlProps.C02rec.cHit dhHit
    rw [hi.1, hi.2]
  refine ⟨h', hl', ?_⟩
  rw [this, hhit]
  exact hm

/-! ### end to end: a change that reaches the root hash is detected on the sealed nested tree -/

/-- The setting of `verifyDh_after_nested_seal`.  `tc` is a tree with the SAME `ascmhl` folders as the sealed tree (it
loads as the same history) but otherwise arbitrary — files altered, added, removed anywhere, also below nested
histories.  If its ROOT content hash differs from the sealed one in every format that is requested or occurs in an
older root hash of the root history, `verify -dh` ends with 12.  (The change must have propagated to the root, which
it does for a collision-free hash layer, C07; by `verifyDh_12_iff_nested` a difference at ANY visible folder in every
verified format does the same.) -/
theorem verifyDh_detects_change_after_nested_seal (hold : OldMatch env t rootHist (cHit env rootHist o))
    (tc : Node) (hsame : loadHistory tc = loadHistory (applyWritten t ws))
    (hcdir : tc.isDir = true) (hcd : tc.NamesDistinct)
    (hdiff : ∀ f, (f ∈ o.formats ∨ ∃ g ∈ rootHist.gens, ∃ e ∈ g.gen.rootHash.getD [], e.fmt = f) →
      (nodeHashes env.H env.D f (cHit env rootHist o) [] tc).1 ≠
        (nodeHashes env.H env.D f (cHit env rootHist o) [] t).1) :
    (verifyDh env tc {}).err = some errDirVerifyFailed ∧ (verifyDh env tc {}).exitCode = 12 := by
  have R : SealedRun env t o rootHist ws := ⟨hl, hd, hn, hdir, hf, hcm, hlf⟩
  have hroot := root_entries_after R hno
  have hhit : dhHit env (addWritten ws rootHist) {} = cHit env rootHist o := R.matcher
  rw [R.reload] at hsame
  generalize addWritten ws rootHist = h' at hroot hhit hsame
  obtain ⟨f0, hf0⟩ := List.exists_mem_of_ne_nil _ hf
  obtain ⟨e0, he0, -⟩ := dirEnts_spec_mem env (cHit env rootHist o) (runKeys o) [] t f0 ((mem_runKeys o f0).2 hf0)
  have hsome : ∃ g ∈ h'.gens, ∃ e, e ∈ g.gen.rootHash.getD [] := by
    obtain ⟨g, hg, he⟩ := List.mem_flatMap.1
      (show e0 ∈ allRootEntries h' by rw [hroot]; exact List.mem_append_right _ he0)
    exact ⟨g, hg, e0, he⟩
  apply verifyDh_nested_mismatch_12 env tc {} h' hsame hcdir hcd rfl
  intro f hfm
  obtain ⟨g, hgm, e, he, hef⟩ := ((MhlProps.C09.dhFormats_spec h' hsome).2.2 f).1 hfm
  refine Or.inr ⟨g, hgm, e, he, hef, Or.inl ?_⟩
  -- the digest of `e` is the content hash of `t`: an older entry (`OldMatch`) or one of the root hash just written
  have hm : e ∈ allRootEntries h' := List.mem_flatMap.2 ⟨g, hgm, he⟩
  rw [hroot, List.mem_append] at hm
  rw [hhit]
  rcases hm with hm | hm
  · obtain ⟨g', hg', he'⟩ := List.mem_flatMap.1 hm
    rw [(hold.2 g' hg' e he').1, hef]
    exact Ne.symm (hdiff f (Or.inr ⟨g', hg', e, he', hef⟩))
  · obtain ⟨hk, h1, -⟩ := mem_dirEnts_spec env (cHit env rootHist o) (runKeys o) [] t e hm
    rw [h1, hef]
    exact Ne.symm (hdiff f (Or.inl ((mem_runKeys o f).1 (hef ▸ hk))))

end sealed

/-! ### closed examples (evaluated by `decide +kernel`) and non-vacuity of the general theorems -/

section Examples
open MhlProps.C04nested

/- `NamesDistinct` and `NamesOk` recurse on the tree: left reducible, the elaborator evaluates the sealed trees below
whenever it normalises a goal that states one of them. -/
seal Node.NamesDistinct Node.NamesOk

/-- C04nested's two-level trees under `verify -dh`, the sealed ones and the one with `A/x.mov` altered, evaluated
together -/
theorem two_level_dh_eval :
    ((verifyDh envR big2 {}).exitCode = 0 ∧ (verifyDh envR big2 {}).report.dirMismatch = [] ∧
      (verifyDh envR big3 {}).exitCode = 0) ∧ (verifyDh envR big2Altered {}).exitCode = 0 := by decide +kernel

/-- C04nested's TWO-LEVEL tree (`A/` sealed on its own, grafted, sealed from the outer root = `big2`; resealed
without directory hashes = `big3`): `verify -dh` from the outer root ends with 0 and reports no folder -/
theorem nested_two_level_dh :
    (verifyDh envR big2 {}).exitCode = 0 ∧ (verifyDh envR big2 {}).report.dirMismatch = [] ∧
    (verifyDh envR big3 {}).exitCode = 0 := two_level_dh_eval.1

/-- … and its THREE-LEVEL tree (`A/sub/` sealed on its own, then `A/`, then the outer root = `c2`; `c3` resealed) -/
theorem nested_three_level_dh :
    (verifyDh envR c2 {}).exitCode = 0 ∧ (verifyDh envR c2 {}).report.dirMismatch = [] ∧
    (verifyDh envR c3 {}).exitCode = 0 := by decide +kernel

/-- the toy hashing layer of C04nested decodes every digest to the empty byte string, so every directory hash is
`fmt:0` and NO change below a folder can reach a directory hash: the altered tree of C04nested still verifies.  The
negative examples below therefore use a layer whose directory hashes depend on the content (`envP`). -/
example : (verifyDh envR big2Altered {}).exitCode = 0 := two_level_dh_eval.2

/-- a hashing layer that propagates: the "digest" is the format name followed by the sum of the bytes, decoded as its
own UTF-8 bytes; a path is ignored when one of its components is literally in the pattern list -/
def envP : Env :=
  { H := fun f c => f ++ toString (c.foldl (fun a u => a + u.toNat) 0), D := fun _ s => some s.toUTF8.toList,
    hit := fun pats p => p.any fun s => pats.contains s, rootName := "root", stamp := "2020-01-16_091500Z" }
def envPA : Env := { envP with rootName := "A" }
def envPS : Env := { envP with rootName := "sub" }

/-- C04nested's two-level construction with `envP`: `A/` sealed on its own (md5), grafted into the big tree, sealed
from the outer root (xxh64 + md5); then `A/x.mov` altered -/
def psealedA : Node := applyWritten treeA (createFolder envPA treeA oA).written
def pbig1 : Node := Node.updateAt (fun _ => psealedA) big0 ["A"]
def pbig2 : Node := applyWritten pbig1 (createFolder envP pbig1 o1).written
def pbig2Alt : Node := Node.updateAt (setContent [1, 2, 3, 4]) pbig2 ["A", "x.mov"]

/-- … and the three-level construction: `A/sub/` sealed on its own (sha1), `A/` sealed on its own (md5), sealed from
the outer root; then `A/sub/s` (two histories deep) altered -/
def psealedS : Node := applyWritten treeS (createFolder envPS treeS oS).written
def pa1 : Node := Node.updateAt (fun _ => psealedS) treeA3 ["sub"]
def pa2 : Node := applyWritten pa1 (createFolder envPA pa1 oA).written
def pc1 : Node := Node.updateAt (fun _ => pa2) c0 ["A"]
def pc2 : Node := applyWritten pc1 (createFolder envP pc1 o1).written
def pc2Alt : Node := Node.updateAt (setContent [6, 6, 6]) pc2 ["A", "sub", "s"]

instance (env : Env) (hit : RelPath → Bool) (q : RelPath) (c : Node) (e : Entry) : Decidable (EntryOk env hit q c e) :=
  inferInstanceAs (Decidable (_ ∧ _))

instance (env : Env) (t : Node) (h : Hist) (hit : RelPath → Bool) : Decidable (OldMatch env t h hit) :=
  decidable_of_iff
    ((∀ x ∈ visiblePaths hit t, x.2 = true → ∀ c ∈ t.at? x.1, ∀ e ∈ comparedEntries h x.1, EntryOk env hit x.1 c e) ∧
      ∀ g ∈ h.gens, ∀ e ∈ g.gen.rootHash.getD [], EntryOk env hit [] t e)
    (and_congr_left' ⟨fun H q c hv hat => H (q, true) hv rfl c hat,
      fun H x hx hd c hat => by obtain ⟨q, d⟩ := x; cases hd; exact H q c hx hat⟩)

/- The kernel shares the evaluation of a closed term within ONE declaration only: everything that is evaluated on one
of the worlds below (the grafted tree `pbig1`; its seal `pbig2` with the altered `pbig2Alt`; the three-level `pc2`,
`pc2Alt`) is decided as one conjunction, and the statements that follow are its projections. -/

/-- the grafted tree `pbig1` before the outer seal -/
theorem pbig1_facts :
    histShape pbig1 = some [([], []), (["A"], [1])] ∧
    namesDistinctB pbig1 = true ∧ pbig1.NamesOk ∧
    (match commit (loadD pbig1) (cSession envP pbig1 (loadD pbig1) o1) envP.rootName envP.stamp "in-place" with
      | .ok ws => ws.length | .error _ => 0) = 2 ∧
    ('\n' ∉ envP.stamp.toList ∧ ∀ x ∈ (loadD pbig1).all, '\n' ∉ ((x.root.getLast?).getD envP.rootName).toList) ∧
    OldMatch envP pbig1 (loadD pbig1) (cHit envP (loadD pbig1) o1) ∧
    (allDescendants (loadD pbig1)).map (fun x => x.gens.map fun g => (g.gen.rootHash.getD []).map (·.fmt)) =
      [[["md5"]]] ∧
    (visiblePaths (cHit envP (loadD pbig1) o1) pbig1).filter (·.2) =
      [(["A", "sub"], true), (["A"], true), (["B"], true)] ∧
    (loadD pbig1).gens.length = 0 := by
  decide +kernel

/-- the sealed two-level tree `pbig2` and `pbig2Alt` -/
theorem pbig2_eval :
    ((route (loadD pbig2) ["A"]).1.root = ["A"] ∧ (route (loadD pbig2) ["A"]).2 = [] ∧
      comparedEntries (loadD pbig2) ["A"] =
        allRootEntries (route (loadD pbig2) ["A"]).1 ++ allRootEntries (route (loadD pbig2) ["A"]).1 ∧
      (allRootEntries (route (loadD pbig2) ["A"]).1).map (fun e => (e.fmt, e.digest)) =
        [("md5", "md51046"), ("md5", "md51046"), ("xxh64", "xxh641618")] ∧
      (route (loadD pbig2) ["A", "sub"]).1.root = ["A"] ∧ posix (route (loadD pbig2) ["A", "sub"]).2 = "sub" ∧
      (comparedEntries (loadD pbig2) ["A", "sub"]).map (·.fmt) = ["md5", "md5", "xxh64"]) ∧
    (histShape pbig2 = some [([], [1]), (["A"], [1, 2])] ∧
      (verifyDh envP pbig2 {}).exitCode = 0 ∧ (verifyDh envP pbig2 {}).report.dirMismatch = [] ∧
      (verifyDh envP pbig2Alt {}).exitCode = 12 ∧ (verifyDh envP pbig2Alt {}).report.dirMismatch = ["A", "."]) ∧
    ((∀ f ∈ dhFormats (loadD pbig2Alt) none,
        ∃ g ∈ (loadD pbig2Alt).gens, ∃ e ∈ g.gen.rootHash.getD [], e.fmt = f ∧
          (e.digest ≠ (nodeHashes envP.H envP.D f (dhHit envP (loadD pbig2Alt) {}) [] pbig2Alt).1 ∨
            e.shash ≠ some (nodeHashes envP.H envP.D f (dhHit envP (loadD pbig2Alt) {}) [] pbig2Alt).2)) ∧
      (dhFold envP pbig2Alt (loadD pbig2Alt) {}).failedFormats = ["md5", "xxh64"] ∧
      (∀ f ∈ o1.formats, (nodeHashes envP.H envP.D f (cHit envP (loadD pbig1) o1) [] pbig2Alt).1 ≠
        (nodeHashes envP.H envP.D f (cHit envP (loadD pbig1) o1) [] pbig1).1)) := by
  decide +kernel

/-- the sealed three-level tree `pc2` and `pc2Alt` -/
theorem pc2_eval :
    (dhFormats (loadD pc2) none = ["md5", "xxh64"] ∧
      (comparedEntries (loadD pc2) ["A", "sub"]).map (·.fmt) =
        ["sha1", "md5", "md5", "xxh64", "sha1", "md5", "md5", "xxh64"]) ∧
    (histShape pc2 = some [([], [1]), (["A"], [1, 2]), (["A", "sub"], [1, 2, 3])] ∧
      (verifyDh envP pc2 {}).exitCode = 0 ∧ (verifyDh envP pc2 {}).report.dirMismatch = [] ∧
      (verifyDh envP pc2Alt {}).exitCode = 12 ∧
      (verifyDh envP pc2Alt {}).report.dirMismatch = ["A/sub", "A", "."]) := by
  decide +kernel

/-- two levels, propagating layer: seal from the outer root, `verify -dh` → 0; alter a file below the nested
history → 12, and the nested root folder and the command root are reported -/
theorem nested_two_level_dh_detects :
    histShape pbig2 = some [([], [1]), (["A"], [1, 2])] ∧
    (verifyDh envP pbig2 {}).exitCode = 0 ∧ (verifyDh envP pbig2 {}).report.dirMismatch = [] ∧
    (verifyDh envP pbig2Alt {}).exitCode = 12 ∧ (verifyDh envP pbig2Alt {}).report.dirMismatch = ["A", "."] :=
  pbig2_eval.2.1

/-- three levels: → 0; a file two histories deep altered → 12; every folder above it is reported -/
theorem nested_three_level_dh_detects :
    histShape pc2 = some [([], [1]), (["A"], [1, 2]), (["A", "sub"], [1, 2, 3])] ∧
    (verifyDh envP pc2 {}).exitCode = 0 ∧ (verifyDh envP pc2 {}).report.dirMismatch = [] ∧
    (verifyDh envP pc2Alt {}).exitCode = 12 ∧
    (verifyDh envP pc2Alt {}).report.dirMismatch = ["A/sub", "A", "."] :=
  pc2_eval.2

/-- WHICH entries are compared for the root folder `A` of the nested history: `A`'s OWN root hashes of both its
generations, each twice (`compared_nested_root`) — not the record `A` of the root history's generation; for
`A/sub` the directory records of the nested history under the relative name `sub`; the formats are those of the
ROOT history's root hashes, so in the three-level tree the sha1 entries of `A/sub` are not compared -/
example :
    (route (loadD pbig2) ["A"]).1.root = ["A"] ∧ (route (loadD pbig2) ["A"]).2 = [] ∧
    comparedEntries (loadD pbig2) ["A"] =
      allRootEntries (route (loadD pbig2) ["A"]).1 ++ allRootEntries (route (loadD pbig2) ["A"]).1 ∧
    (allRootEntries (route (loadD pbig2) ["A"]).1).map (fun e => (e.fmt, e.digest)) =
      [("md5", "md51046"), ("md5", "md51046"), ("xxh64", "xxh641618")] ∧
    (route (loadD pbig2) ["A", "sub"]).1.root = ["A"] ∧ posix (route (loadD pbig2) ["A", "sub"]).2 = "sub" ∧
    (comparedEntries (loadD pbig2) ["A", "sub"]).map (·.fmt) = ["md5", "md5", "xxh64"] ∧
    dhFormats (loadD pc2) none = ["md5", "xxh64"] ∧
    (comparedEntries (loadD pc2) ["A", "sub"]).map (·.fmt) =
      ["sha1", "md5", "md5", "xxh64", "sha1", "md5", "md5", "xxh64"] := by
  obtain ⟨a1, a2, a3, a4, a5, a6, a7⟩ := pbig2_eval.1
  exact ⟨a1, a2, a3, a4, a5, a6, a7, pc2_eval.1⟩

/-! #### the hypotheses of the general theorems hold on these trees -/

theorem pload1 : loadHistory pbig1 = .ok (loadD pbig1) := loadD_of_histShape pbig1_facts.1
theorem pload2 : loadHistory pbig2 = .ok (loadD pbig2) := loadD_of_histShape nested_two_level_dh_detects.1

/-- altering the content of a file changes no `ascmhl` folder: the altered tree loads as the sealed one does -/
theorem pload2Alt : loadHistory pbig2Alt = .ok (loadD pbig2Alt) := by
  apply loadD_spec
  rw [pbig2Alt, loadHistory_setContent_n1, pload2]

theorem pbig1_distinct : pbig1.NamesDistinct := namesDistinctB_sound pbig1 pbig1_facts.2.1

theorem pbig2_distinct : pbig2.NamesDistinct :=
  (sameFilesDh_applyWritten pbig1 _).namesDistinct.2 pbig1_distinct

theorem pbig2Alt_distinct : pbig2Alt.NamesDistinct :=
  setContentAt_good namesDistinct_kids _ _ _ pbig2_distinct

theorem pbig2_isDir : pbig2.isDir = true := by
  unfold pbig2
  exact (sameFilesDh_applyWritten pbig1 _).isDir

theorem pbig2Alt_isDir : pbig2Alt.isDir = true := by
  unfold pbig2Alt
  rw [(updateAt_setContent _ (fun _ => false) _ _).1]
  exact pbig2_isDir

theorem pbig1_namesOk : pbig1.NamesOk := pbig1_facts.2.2.1

theorem p1_commit : ∃ ws, commit (loadD pbig1) (cSession envP pbig1 (loadD pbig1) o1) envP.rootName envP.stamp
    "in-place" = .ok ws ∧ ws.length = 2 := by
  have h : (match commit (loadD pbig1) (cSession envP pbig1 (loadD pbig1) o1) envP.rootName envP.stamp "in-place" with
      | .ok ws => ws.length | .error _ => 0) = 2 := pbig1_facts.2.2.2.1
  cases hc : commit (loadD pbig1) (cSession envP pbig1 (loadD pbig1) o1) envP.rootName envP.stamp "in-place" with
  | ok ws => rw [hc] at h; exact ⟨ws, rfl, h⟩
  | error e => rw [hc] at h; cases h

theorem p1_noLineFeeds : NoLineFeeds (loadD pbig1) envP.rootName envP.stamp :=
  pbig1_facts.2.2.2.2.1

/-- the older generation of `A/` (sealed on its own, WITH directory hashes: not the vacuous case) recorded the same
tree -/
theorem p1_oldMatch : OldMatch envP pbig1 (loadD pbig1) (cHit envP (loadD pbig1) o1) :=
  pbig1_facts.2.2.2.2.2.1

example : (allDescendants (loadD pbig1)).map (fun x => x.gens.map fun g => (g.gen.rootHash.getD []).map (·.fmt)) =
    [[["md5"]]] := pbig1_facts.2.2.2.2.2.2.1

/-- all hypotheses of `recorded_dir_hashes_are_spec` and `verifyDh_after_nested_seal` hold for the outer sealing run
of the grafted tree -/
example : loadHistory pbig1 = .ok (loadD pbig1) ∧ pbig1.NamesDistinct ∧ pbig1.NamesOk ∧ pbig1.isDir = true ∧
    o1.formats ≠ [] ∧ o1.noDirHashes = false ∧
    (∃ ws, commit (loadD pbig1) (cSession envP pbig1 (loadD pbig1) o1) envP.rootName envP.stamp "in-place" = .ok ws) ∧
    NoLineFeeds (loadD pbig1) envP.rootName envP.stamp ∧
    OldMatch envP pbig1 (loadD pbig1) (cHit envP (loadD pbig1) o1) :=
  ⟨pload1, pbig1_distinct, pbig1_namesOk, rfl, by decide, rfl,
    by obtain ⟨ws, h, -⟩ := p1_commit; exact ⟨ws, h⟩, p1_noLineFeeds, p1_oldMatch⟩

theorem p1_written (ws : List Written)
    (hcm : commit (loadD pbig1) (cSession envP pbig1 (loadD pbig1) o1) envP.rootName envP.stamp "in-place" = .ok ws) :
    pbig2 = applyWritten pbig1 ws := by
  unfold pbig2
  rw [createFolder_eq envP pbig1 o1 _ pload1 rfl ws hcm]

/-- `verifyDh_after_nested_seal` applied: `verify -dh` on the sealed two-level tree ends with 0 — by the THEOREM (it
agrees with the evaluation in `nested_two_level_dh_detects`) -/
example : (verifyDh envP pbig2 {}).exitCode = 0 ∧ (verifyDh envP pbig2 {}).report.dirMismatch = [] := by
  obtain ⟨ws, hcm, -⟩ := p1_commit
  rw [p1_written ws hcm]
  have := verifyDh_after_nested_seal envP pbig1 o1 (loadD pbig1) pload1 pbig1_distinct pbig1_namesOk rfl
    (by decide) rfl ws hcm p1_noLineFeeds p1_oldMatch
  exact ⟨this.2.1, this.2.2⟩

/-- `recorded_dir_hashes_are_spec` applied: in the reloaded tree every visible folder — `A` (a nested root), `A/sub`
(inside the nested history), `B` — is recorded with its specified hashes in both requested formats -/
example : ∃ h', loadHistory pbig2 = .ok h' ∧
    ∀ d c, (d, true) ∈ visiblePaths (cHit envP (loadD pbig1) o1) pbig1 → pbig1.at? d = some c →
      ∀ f ∈ o1.formats, ∃ e ∈ comparedEntries h' d, e.fmt = f ∧ EntryOk envP (cHit envP (loadD pbig1) o1) d c e := by
  obtain ⟨ws, hcm, -⟩ := p1_commit
  rw [p1_written ws hcm]
  obtain ⟨h', h1, h2, -⟩ := recorded_dir_hashes_are_spec envP pbig1 o1 (loadD pbig1) pload1 pbig1_distinct
    pbig1_namesOk rfl (by decide) rfl ws hcm p1_noLineFeeds
  exact ⟨h', h1, h2⟩

example : (visiblePaths (cHit envP (loadD pbig1) o1) pbig1).filter (·.2) =
    [(["A", "sub"], true), (["A"], true), (["B"], true)] := pbig1_facts.2.2.2.2.2.2.2.1

/-- `verifyDh_all_match_ok` applied to the sealed tree: every compared entry matches (two generations in the nested
history), because the sealing run keeps `OldMatch` -/
example : (verifyDh envP pbig2 {}).err = none := by
  obtain ⟨ws, hcm, -⟩ := p1_commit
  obtain ⟨h', hl', hhit, hm⟩ := oldMatch_after_nested_seal envP pbig1 o1 (loadD pbig1) pload1 pbig1_distinct
    pbig1_namesOk rfl (by decide) rfl ws hcm p1_noLineFeeds p1_oldMatch
  rw [← p1_written ws hcm] at hl' hm
  rw [← hhit] at hm
  exact (verifyDh_all_match_ok envP pbig2 {} h' hl' pbig2_isDir pbig2_distinct
    (fun q c hq hat e he _ => hm.1 q c hq hat e he) (fun g hg e he _ => hm.2 g hg e he)).1

/-- `verifyDh_nested_mismatch_12` applied to the altered tree, with the root hash entries of the root history as the
entries that differ -/
example : (verifyDh envP pbig2Alt {}).exitCode = 12 :=
  (verifyDh_nested_mismatch_12 envP pbig2Alt {} (loadD pbig2Alt) pload2Alt pbig2Alt_isDir pbig2Alt_distinct rfl
    (fun f hf => Or.inr (pbig2_eval.2.2.1 f hf))).2

/-- … and the nested root folder `A` is marked through ITS OWN history: the traversal marks both formats, hence
(`mem_marksOf_dhFold`) some visible sub-folder has a compared entry that is not `EntryOk` -/
example : (dhFold envP pbig2Alt (loadD pbig2Alt) {}).failedFormats = ["md5", "xxh64"] ∧
    ∃ q c e, (q, true) ∈ visiblePaths (dhHit envP (loadD pbig2Alt) {}) pbig2Alt ∧ pbig2Alt.at? q = some c ∧
      e ∈ comparedEntries (loadD pbig2Alt) q ∧ e.fmt = "md5" ∧ ¬ EntryOk envP (dhHit envP (loadD pbig2Alt) {}) q c e := by
  have h1 := pbig2_eval.2.2.2.1
  refine ⟨h1, ?_⟩
  obtain ⟨-, q, hq, c, e, hat, he, -, hne, hef⟩ :=
    (mem_marksOf_dhFold true envP pbig2Alt (loadD pbig2Alt) {} pbig2Alt_isDir pbig2Alt_distinct "md5").1
      (by rw [marksOf_true, h1]; simp)
  exact ⟨q, c, e, hq, hat, he, hef, hne⟩

/-- `verifyDh_detects_change_after_nested_seal` applied: the altered tree has the `ascmhl` folders of the sealed tree
and its root content hash differs in both requested formats -/
example : (verifyDh envP pbig2Alt {}).exitCode = 12 := by
  obtain ⟨ws, hcm, -⟩ := p1_commit
  have hsame : loadHistory pbig2Alt = loadHistory (applyWritten pbig1 ws) := by
    rw [← p1_written ws hcm]
    exact loadHistory_setContent_n1 _ _ _
  have hnog : (loadD pbig1).gens = [] := List.length_eq_zero_iff.1 pbig1_facts.2.2.2.2.2.2.2.2
  exact (verifyDh_detects_change_after_nested_seal envP pbig1 o1 (loadD pbig1) pload1 pbig1_distinct pbig1_namesOk
    rfl (by decide) rfl ws hcm p1_noLineFeeds p1_oldMatch pbig2Alt hsame pbig2Alt_isDir pbig2Alt_distinct
    (fun f hf => by
      rcases hf with hf | ⟨g, hg, -⟩
      · exact pbig2_eval.2.2.2.2 f hf
      · rw [hnog] at hg; cases hg)).2

/-- `verifyDh_never_internal_nested` applied: a nested history whose chain file is gone makes `verify -dh` end with
the loading error 32, not with an internal error; and whatever the tree, the exit code is one of 0, 12, 31, 32, 33 -/
example : (verifyDh envP (.dir "root" [.dir "A" [.file "x" [1]] (some { chainPresent := false })] (some {})) {}).exitCode
    = 32 := by decide +kernel

example (t : Node) (o : DhOpts) (k : String) : (verifyDh envP t o).err ≠ some (.internal k) :=
  (verifyDh_never_internal_nested envP t o).2.1 k

/-- `verifyDh_after_first_nested_seal`: a tree whose nested `ascmhl` folder has no generation yet -/
example : NoDirHashesYet (loadD (.dir "root" [.dir "A" [.file "x" [1]] (some {}), .file "y" [2]] none)) := by
  unfold NoDirHashesYet
  decide +kernel

/-- `NoLineFeeds` is NEEDED in `recorded_dir_hashes_are_spec` (and `verifyDh_after_nested_seal` needs it for the
reload): with a line feed in the time stamp the manifest just written is not recognised as a generation when the tree
is loaded again (C06), so nothing is recorded for the folder `sub` as far as the next command can see -/
example :
    let envLF : Env := { envP with stamp := "2020-01-16\n091500Z" }
    let t : Node := .dir "root" [.dir "sub" [.file "b" [1]] none, .file "a" [2]] none
    let t' := applyWritten t (createFolder envLF t { formats := ["md5"] }).written
    histShape t' = some [([], [])] ∧ comparedEntries (loadD t') ["sub"] = [] := by
  decide +kernel

/-- `OldMatch` is NEEDED in `verifyDh_after_nested_seal`: `verify -dh` compares a folder with the entries of EVERY
generation.  A tree with a nested history is sealed from the outer root, a file is ADDED below the nested history, the
tree is sealed again (`create` ends with 0 and records the new hashes in generation 2 of both histories) — and `verify
-dh` ends with 12, because the entries of generation 1 no longer match: the precondition "the tree every generation
recorded" of C09. -/
theorem oldMatch_needed :
    let t0 : Node := .dir "root" [.dir "A" [.file "x" [1]] (some {}), .file "y" [2]] none
    let oM : CreateOpts := { formats := ["md5"] }
    let t1 := applyWritten t0 (createFolder envP t0 oM).written
    let t1' := Node.updateAt (fun n => match n with
      | .dir nm cs h => .dir nm (cs ++ [.file "z" [5]]) h
      | x => x) t1 ["A"]
    let env2 : Env := { envP with stamp := "2020-01-17_091500Z" }
    let t2 := applyWritten t1' (createFolder env2 t1' oM).written
    (verifyDh envP t1 {}).exitCode = 0 ∧ (createFolder env2 t1' oM).exitCode = 0 ∧
    histShape t2 = some [([], [1, 2]), (["A"], [1, 2])] ∧
    (verifyDh envP t2 {}).exitCode = 12 ∧ (verifyDh envP t2 {}).report.dirMismatch = ["A", "."] := by
  rw [createFolder_eq_with]
  decide +kernel

end Examples

end MhlProps.C09nested
