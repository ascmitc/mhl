/-
C08part — nested histories partition the records of folder-mode `create` and reference each other correctly.

Generalises `MhlProps.C02rec.create_records_exact(_tree)` (one history, `rootHist.children = []`) to a tree that
CONTAINS nested histories, nested to any depth.

Setting: `t` any tree with `t.NamesDistinct` and `t.NamesOk` whose history loads, `loadHistory t = .ok rootHist`
(`rootHist` may have children and grandchildren …); folder mode (`o.singleFiles = []`) without rename detection
(`o.detectRenaming = false`); at least one requested format (`o.formats ≠ []` — with no format no file gets a record,
see the example with `formats := []` among the last; only the existence halves of 1 and 3 use the hypothesis, the
other theorems of the two sections carry it unused); `env` arbitrary.  For 3–5 the commit is assumed to have gone through:
`commit rootHist (cSession env t rootHist o) env.rootName env.stamp "in-place" = .ok ws`; then
`(create env t o).written = ws` (`create_written`).

`owner rootHist p` is the root folder of the deepest history whose root is a component-wise prefix of `p`
(`MhlProps.C08.route_deepest`), `relIn rootHist p` the path relative to it.

0. `session_sound`      every record of every list denotes a visible path and sits in the list of its owner (or, for
                        the root folder of a nested history, of the parent history): nothing else is recorded
1. `session_partition`  every visible file has its record in the list of its owner, and nowhere else
2. `dir_partition`      the same for folders; the root folder of a nested history is the root record of its own list
                        and a directory record, with the same entries, of the PARENT history's list
   `root_record`        the root folder of the command is the root record of the root history's list
3. `written_partition`  1 lifted through `commit`: one written generation per history, each visible file in exactly one
   `written_sound`      0 lifted through `commit`
   `written_dirs`       2 lifted through `commit`
4. `written_iff`        a history is written iff it has a list in the session or a direct child was written;
   `wrote_iff_item`     a history is written iff its root folder is visible (or is the root folder of the command);
   `all_written_iff`    EVERY history is written iff the root is a folder and every nested history's root folder is visible
5. `refs_exact`         the references of a written generation are exactly the written direct children, in the order
                        written = walk order, sub-folders by name (`WalkLt`)
-/
import MhlProps.Proofs.NestedLemmas

namespace MhlProps.C08part
open MhlModel MhlProps.C02rec

/-- the root folder of the history the path `p` belongs to: the deepest history whose root is a prefix of `p`
(`MhlModel.ownerOf` of HistLemmas, under the name these theorems are stated with) -/
abbrev owner (rootHist : Hist) (p : RelPath) : RelPath := (route rootHist p).1.root
/-- `p` relative to the root folder of its history (`MhlModel.relOf` of HistLemmas) -/
abbrev relIn (rootHist : Hist) (p : RelPath) : RelPath := (route rootHist p).2

theorem owner_spec (t : Node) (rootHist : Hist) (hl : loadHistory t = .ok rootHist) (hd : t.NamesDistinct)
    (p : RelPath) :
    owner rootHist p ++ relIn rootHist p = p ∧
    (∃ h ∈ walkPost rootHist, h.root = owner rootHist p) ∧
    ∀ c ∈ allDescendants rootHist, c.root <+: p → c.root.length ≤ (owner rootHist p).length := by
  have hg := loadHistory_histOK t rootHist hl hd
  exact ⟨owner_append hg.root p, ⟨_, (mem_walkPost _ _).2 (route_mem hg.root p), rfl⟩, fun c hc hp => owner_max hg p hc hp⟩

/-- the session after the traversal fold of folder-mode `create` -/
def foldSession (env : Env) (t : Node) (rootHist : Hist) (fmts : List String) (noDir : Bool) (pats : List String)
    (hit : RelPath → Bool) : Session :=
  ((traverse hit [] t).foldl (createVisit env t rootHist fmts noDir) { session := { patterns := pats } }).session

/-- the theorems about `foldSession` speak of the session of the command -/
theorem cSession_eq (env : Env) (t : Node) (rootHist : Hist) (o : CreateOpts) :
    cSession env t rootHist o =
      foldSession env t rootHist (isort strLe o.formats) o.noDirHashes
        (setPatterns (latestIgnore rootHist.gens) o.ignoreCli o.ignoreFile) (cHit env rootHist o) := rfl

theorem relIn_ne_nil {t : Node} {rootHist : Hist} (hr : rootHist.root = []) {hit : RelPath → Bool}
    {x : RelPath × Bool} (hv : x ∈ visiblePaths hit t) (hnot : ∀ c ∈ allDescendants rootHist, c.root ≠ x.1) :
    relIn rootHist x.1 ≠ [] := by
  intro h0
  rcases (relOf_nil hr h0).2 with h | ⟨c, hc, hcr⟩
  · exact (MhlProps.C02.visible_relative hit t x.1 x.2 hv).2.1 h
  · exact hnot c hc hcr

section session
variable (env : Env) (t : Node) (rootHist : Hist) (hl : loadHistory t = .ok rootHist) (hd : t.NamesDistinct)
  (hn : t.NamesOk) (fmts : List String) (hf : fmts ≠ []) (noDir : Bool) (pats : List String)
  (hit : RelPath → Bool)
include hl hd hn hf

omit hf in
theorem fold_facts :
    HistOK t rootHist ∧ ItemsOk rootHist (recItems (traverse hit [] t)) ∧
      SInv env t rootHist fmts (visitSpecHashes env t fmts hit noDir) pats
        (foldSession env t rootHist fmts noDir pats hit) (recItems (traverse hit [] t)) := by
  have hg := loadHistory_histOK t rootHist hl hd
  exact ⟨hg, recItems_itemsOk hg hit hd hn, createFold_sinv hg hd hn fmts noDir pats hit⟩

theorem session_sound :
    ∀ l ∈ (foldSession env t rootHist fmts noDir pats hit).lists, ∀ r ∈ l.records,
      ∃ x ∈ visiblePaths hit t, l.root ++ splitPath r.path = x.1 ∧ r.isDir = x.2 ∧
        (l.root = owner rootHist x.1 ∨
          (x.2 = true ∧ relIn rootHist x.1 = [] ∧ parentRoot rootHist x.1 = some l.root)) := by
  intro l hlm r hr
  obtain ⟨hg, hok, hs⟩ := fold_facts env t rootHist hl hd hn fmts noDir pats hit
  rw [← Session.get_of_mem _ hs.core.nodup hlm] at hr
  obtain ⟨x, hx, hsp, hden, hdir, hj, -⟩ := hs.core.item_of hg.root hok hr
  refine ⟨x, ((mem_recItems hit t x).1 hx).resolve_right fun h => hsp ?_, hden, hdir, hj⟩
  rw [h.1] at hden
  exact (List.append_eq_nil_iff.1 hden).2

theorem session_partition :
    let s := foldSession env t rootHist fmts noDir pats hit
    (s.lists.map (·.root)).Nodup ∧ (∀ l ∈ s.lists, (l.records.map (·.path)).Nodup) ∧
    ∀ p, (p, false) ∈ visiblePaths hit t →
      (∃ l ∈ s.lists, l.root = owner rootHist p ∧ ∃ r ∈ l.records,
          r.path = posix (relIn rootHist p) ∧ r.isDir = false ∧ r.prev = none ∧
          r.size = some (fileContent t p).length ∧
          r.entries = (sealEntries (route rootHist p).1.gens (posix (relIn rootHist p))
            (fun f => env.H f (fileContent t p)) fmts).1) ∧
      (∀ l ∈ s.lists, ∀ r ∈ l.records, l.root ++ splitPath r.path = p →
          l.root = owner rootHist p ∧ r.path = posix (relIn rootHist p) ∧ r.isDir = false) := by
  intro s
  obtain ⟨hg, hok, hs⟩ := fold_facts env t rootHist hl hd hn fmts noDir pats hit
  have hget : ∀ l ∈ s.lists, s.get l.root = l := fun l hlm => Session.get_of_mem _ hs.core.nodup hlm
  refine ⟨hs.core.nodup, fun l hlm => by rw [← hget l hlm]; exact hs.core.paths _, fun p hp => ?_⟩
  have hpL : (p, false) ∈ recItems (traverse hit [] t) := (mem_recItems hit t _).2 (Or.inl hp)
  obtain ⟨hroots, r, hr, hrest⟩ := hs.file_done hf hpL
  refine ⟨⟨_, Session.get_mem _ hroots, Session.get_root _ _, r, hr, hrest⟩, fun l hlm r' hr' hden => ?_⟩
  rw [← hget l hlm] at hr'
  obtain ⟨x, -, -, -, hdir, hj, -, hpath, huniq⟩ := hs.core.item_of hg.root hok hr'
  cases huniq _ hpL hden
  have hown : l.root = owner rootHist p := hj.resolve_right fun h => Bool.noConfusion h.1
  exact ⟨hown, hpath hown, hdir⟩

/-- it holds with and without directory hashes: without them the records have no entries -/
theorem dir_partition :
    let s := foldSession env t rootHist fmts noDir pats hit
    ∀ d, (d, true) ∈ visiblePaths hit t →
      ((∀ c ∈ allDescendants rootHist, c.root ≠ d) →
        (∃ l ∈ s.lists, l.root = owner rootHist d ∧ ∃ r ∈ l.records,
            r.path = posix (relIn rootHist d) ∧ r.isDir = true ∧ r.prev = none ∧ r.size = none ∧
            ∀ e ∈ r.entries, e.action = "") ∧
        (∀ l ∈ s.lists, ∀ r ∈ l.records, l.root ++ splitPath r.path = d →
            l.root = owner rootHist d ∧ r.path = posix (relIn rootHist d) ∧ r.isDir = true)) ∧
      (∀ c ∈ allDescendants rootHist, c.root = d →
        owner rootHist d = d ∧
        ∃ pr, parentRoot rootHist d = some pr ∧ pr <+: d ∧ pr.length < d.length ∧
        ∃ l ∈ s.lists, l.root = d ∧ ∃ rr, l.rootRec = some rr ∧ rr.isDir = true ∧ rr.path = "." ∧
          (∀ e ∈ rr.entries, e.action = "") ∧
        ∃ lp ∈ s.lists, lp.root = pr ∧ ∃ r ∈ lp.records,
          r.path = posix (d.drop pr.length) ∧ r.isDir = true ∧ r.prev = none ∧ r.size = none ∧
          r.entries = rr.entries ∧
        ∀ l' ∈ s.lists, ∀ r' ∈ l'.records, l'.root ++ splitPath r'.path = d →
          l'.root = pr ∧ r'.path = posix (d.drop pr.length) ∧ r'.isDir = true) := by
  intro s d hv
  obtain ⟨hg, hok, hs⟩ := fold_facts env t rootHist hl hd hn fmts noDir pats hit
  have hget : ∀ l ∈ s.lists, s.get l.root = l := fun l hlm => Session.get_of_mem _ hs.core.nodup hlm
  have hdL : (d, true) ∈ recItems (traverse hit [] t) := (mem_recItems hit t _).2 (Or.inl hv)
  obtain ⟨hroots, hrec, hroot⟩ := hs.dirs d hdL
  -- a record that denotes `d` is the record of the item `d`
  have hden : ∀ l ∈ s.lists, ∀ r ∈ l.records, l.root ++ splitPath r.path = d → splitPath r.path ≠ [] ∧
      r.isDir = true ∧ r.path = posix (d.drop l.root.length) ∧
      (l.root = owner rootHist d ∧ r.path = posix (relIn rootHist d) ∨
        relIn rootHist d = [] ∧ parentRoot rootHist d = some l.root) := by
    intro l hlm r hr hd'
    rw [← hget l hlm] at hr
    obtain ⟨x, -, hsp, -, hdir, hj, hdrop, hpath, huniq⟩ := hs.core.item_of hg.root hok hr
    cases huniq _ hdL hd'
    exact ⟨hsp, hdir, hdrop, hj.imp (fun h => ⟨h, hpath h⟩) fun h => ⟨h.2.1, h.2.2⟩⟩
  constructor
  · intro hnot
    have hrel := relIn_ne_nil hg.root hv hnot
    obtain ⟨r, hr, h1, h2, h3, h4, h5⟩ := hrec hrel
    refine ⟨⟨_, Session.get_mem _ hroots, Session.get_root _ _, r, hr, h1, h2, h3, h4, h5 ▸ dirEnts_action _⟩,
      fun l hlm r' hr' hd' => ?_⟩
    obtain ⟨-, hdir, -, h | h⟩ := hden l hlm r' hr' hd'
    · exact ⟨h.1, h.2, hdir⟩
    · exact absurd h.1 hrel
  · intro c hc hcr
    subst hcr
    obtain ⟨hown, hrel⟩ := owner_nested hg hc
    obtain ⟨pr, hpr⟩ := parentRoot_of_nested hg hc
    obtain ⟨hpre, hlen, -⟩ := parentRoot_prefix hg hpr
    obtain ⟨rr, hrr, h1, h2, h3, h4⟩ := hroot hrel
    obtain ⟨hprs, r, hr, hr1, hr2, hr3, hr4, hr5⟩ := h4 pr hpr
    refine ⟨hown, pr, hpr, hpre, hlen, _, Session.get_mem _ (hown ▸ hroots), Session.get_root _ _, rr, hrr, h1, h2,
      h3 ▸ dirEnts_action _, _, Session.get_mem _ hprs, Session.get_root _ _, r, hr, hr1, hr2, hr3, hr4, hr5.trans h3.symm,
      fun l' hlm' r' hr' hd' => ?_⟩
    obtain ⟨hsp, hdir, hdrop, h | h⟩ := hden l' hlm' r' hr' hd'
    · -- the list of the history itself holds `c.root` as its root record, not as a record
      rw [h.1, show owner rootHist c.root = c.root from hown] at hd'
      exact absurd (List.append_right_eq_self.1 hd') hsp
    · rw [hpr] at h
      cases h.2
      exact ⟨rfl, hdrop, hdir⟩

omit hf in
theorem root_record (hdir : t.isDir = true) :
    let s := foldSession env t rootHist fmts noDir pats hit
    ∃ l ∈ s.lists, l.root = [] ∧ ∃ rr, l.rootRec = some rr ∧ rr.isDir = true ∧ rr.path = "." ∧
      ∀ e ∈ rr.entries, e.action = "" := by
  intro s
  obtain ⟨hg, hok, hs⟩ := fold_facts env t rootHist hl hd hn fmts noDir pats hit
  have hdL : (([] : RelPath), true) ∈ recItems (traverse hit [] t) := (mem_recItems hit t _).2 (Or.inr ⟨rfl, hdir⟩)
  obtain ⟨hroots, -, hroot⟩ := hs.dirs [] hdL
  obtain ⟨rr, hrr, h1, h2, h3, -⟩ := hroot (owner_nil hg.root).2
  have hroots' : ([] : RelPath) ∈ (foldSession env t rootHist fmts noDir pats hit).roots := by
    have := hroots; rwa [show ownerOf rootHist [] = [] from (owner_nil hg.root).1] at this
  exact ⟨_, Session.get_mem _ hroots', Session.get_root _ _, rr, hrr, h1, h2, h3 ▸ dirEnts_action _⟩

end session

theorem create_written (env : Env) (t : Node) (o : CreateOpts) (rootHist : Hist) (hsf : o.singleFiles = [])
    (hl : loadHistory t = .ok rootHist) (hdr : o.detectRenaming = false) (ws : List Written)
    (hcm : commit rootHist (cSession env t rootHist o) env.rootName env.stamp "in-place" = .ok ws) :
    (create env t o).written = ws := by
  rw [create_eq_createFolder env t o hsf, createFolder_eq env t o rootHist hl hdr ws hcm]

section written
variable (env : Env) (t : Node) (o : CreateOpts) (rootHist : Hist) (hl : loadHistory t = .ok rootHist)
  (hd : t.NamesDistinct) (hn : t.NamesOk) (hf : o.formats ≠ []) (ws : List Written)
  (hcm : commit rootHist (cSession env t rootHist o) env.rootName env.stamp "in-place" = .ok ws)
include hl hd hn hf hcm

omit hf hcm in
theorem cSession_facts :
    HistOK t rootHist ∧ ItemsOk rootHist (recItems (traverse (cHit env rootHist o) [] t)) ∧
      SInv env t rootHist (isort strLe o.formats)
        (visitSpecHashes env t (isort strLe o.formats) (cHit env rootHist o) o.noDirHashes)
        (setPatterns (latestIgnore rootHist.gens) o.ignoreCli o.ignoreFile)
        (cSession env t rootHist o) (recItems (traverse (cHit env rootHist o) [] t)) :=
  fold_facts env t rootHist hl hd hn _ o.noDirHashes _ (cHit env rootHist o)

theorem written_partition :
    (ws.map (·.histRoot)).Nodup ∧ (∀ w ∈ ws, (w.gen.records.map (·.path)).Nodup) ∧
    ∀ p, (p, false) ∈ visiblePaths (cHit env rootHist o) t →
      (∃ w ∈ ws, w.histRoot = owner rootHist p ∧ ∃ r ∈ w.gen.records,
          r.path = posix (relIn rootHist p) ∧ r.isDir = false ∧ r.prev = none ∧
          r.size = some (fileContent t p).length ∧
          r.entries.Perm ((sealEntries (route rootHist p).1.gens (posix (relIn rootHist p))
            (fun f => env.H f (fileContent t p)) (isort strLe o.formats)).1.map relabel)) ∧
      (∀ w ∈ ws, ∀ r ∈ w.gen.records, w.histRoot ++ splitPath r.path = p →
          w.histRoot = owner rootHist p ∧ r.path = posix (relIn rootHist p) ∧ r.isDir = false) := by
  obtain ⟨hg, hok, hs⟩ := cSession_facts env t o rootHist hl hd hn
  obtain ⟨h1, h2, h3, h4⟩ := hs.written hg hok hcm
  refine ⟨h1, h2, fun p hp => ?_⟩
  have hpL : (p, false) ∈ recItems (traverse (cHit env rootHist o) [] t) := (mem_recItems _ t _).2 (Or.inl hp)
  refine ⟨h3 p hpL (sealEntries_ne_nil _ _ _ _ (isort_ne_nil_of_ne_nil strLe hf)), fun w hw r hr hden => ?_⟩
  obtain ⟨x, -, -, -, hdir, hj, -, hpath, huniq⟩ := h4 w hw r hr
  cases huniq _ hpL hden
  have hown : w.histRoot = owner rootHist p := hj.resolve_right fun h => Bool.noConfusion h.1
  exact ⟨hown, hpath hown, hdir⟩

omit hf in
/-- with `MhlProps.C02.ignored_nowhere`: no record for an ignored path or anything below one -/
theorem written_sound :
    ∀ w ∈ ws, ∀ r ∈ w.gen.records,
      ∃ x ∈ visiblePaths (cHit env rootHist o) t, w.histRoot ++ splitPath r.path = x.1 ∧ r.isDir = x.2 ∧
        (w.histRoot = owner rootHist x.1 ∨
          (x.2 = true ∧ relIn rootHist x.1 = [] ∧ parentRoot rootHist x.1 = some w.histRoot)) := by
  obtain ⟨hg, hok, hs⟩ := cSession_facts env t o rootHist hl hd hn
  intro w hw r hr
  obtain ⟨x, hx, hsp, hden, hdir, hj, -⟩ := (hs.written hg hok hcm).2.2.2 w hw r hr
  refine ⟨x, ((mem_recItems _ t x).1 hx).resolve_right fun h => hsp ?_, hden, hdir, hj⟩
  rw [h.1] at hden
  exact (List.append_eq_nil_iff.1 hden).2

/-- the root hash of a nested history's generation is `none` when the parent's directory record has no entries, i.e. with
`--no_directory_hashes` -/
theorem written_dirs :
    ∀ d, (d, true) ∈ visiblePaths (cHit env rootHist o) t →
      ((∀ c ∈ allDescendants rootHist, c.root ≠ d) →
        (∃ w ∈ ws, w.histRoot = owner rootHist d ∧ ∃ r ∈ w.gen.records,
            r.path = posix (relIn rootHist d) ∧ r.isDir = true) ∧
        (∀ w ∈ ws, ∀ r ∈ w.gen.records, w.histRoot ++ splitPath r.path = d →
            w.histRoot = owner rootHist d ∧ r.path = posix (relIn rootHist d) ∧ r.isDir = true)) ∧
      (∀ c ∈ allDescendants rootHist, c.root = d →
        ∃ pr, parentRoot rootHist d = some pr ∧
        ∃ wc ∈ ws, wc.histRoot = d ∧ ∃ wp ∈ ws, wp.histRoot = pr ∧ ∃ r ∈ wp.gen.records,
          r.path = posix (d.drop pr.length) ∧ r.isDir = true ∧
          wc.gen.rootHash = (if r.entries.isEmpty then none else some r.entries)) := by
  obtain ⟨hg, hok, hs⟩ := cSession_facts env t o rootHist hl hd hn
  obtain ⟨-, -, -, h4⟩ := hs.written hg hok hcm
  intro d hv
  have hdL : (d, true) ∈ recItems (traverse (cHit env rootHist o) [] t) := (mem_recItems _ t _).2 (Or.inl hv)
  obtain ⟨w, hw, hwr, hrec, hroot⟩ := hs.written_dir hg hcm hdL
  constructor
  · intro hnot
    have hrel := relIn_ne_nil hg.root hv hnot
    obtain ⟨r, hr, h1, h2, -⟩ := hrec hrel
    refine ⟨⟨w, hw, hwr, r, hr, h1, h2⟩, fun w hw r' hr' hden => ?_⟩
    obtain ⟨x, -, -, -, hdir, hj, -, hpath, huniq⟩ := h4 w hw r' hr'
    cases huniq _ hdL hden
    have hown : w.histRoot = owner rootHist d := hj.resolve_right fun h => hrel h.2.1
    exact ⟨hown, hpath hown, hdir⟩
  · intro c hc hcr
    subst hcr
    obtain ⟨hown, hrel⟩ := owner_nested hg hc
    obtain ⟨pr, hpr⟩ := parentRoot_of_nested hg hc
    obtain ⟨hrh, hpar⟩ := hroot hrel
    obtain ⟨wp, hwp, hwpr, r, hr, h1, h2, h5⟩ := hpar pr hpr
    exact ⟨pr, hpr, w, hw, hwr.trans hown, wp, hwp, hwpr, r, hr, h1, h2, by rw [hrh, h5]⟩

omit hn hf in
theorem written_iff (h : Hist) (hh : h ∈ walkPost rootHist) :
    (∃ w ∈ ws, w.histRoot = h.root) ↔
      ((∃ l ∈ (cSession env t rootHist o).lists, l.root = h.root) ∨
        ∃ c ∈ h.children, ∃ w' ∈ ws, w'.histRoot = c.root) := by
  have hg := loadHistory_histOK t rootHist hl hd
  rw [commit_wrote_iff_children hg _ _ _ _ _ hcm h hh]
  have : h.root ∈ (cSession env t rootHist o).roots ↔ ∃ l ∈ (cSession env t rootHist o).lists, l.root = h.root := by
    simp [Session.roots]
  rw [this]

omit hf in
/-- a list of the session lies at or above a visited item, and a folder above a visited item is visited; conversely
the history rooted at a visited folder owns it -/
theorem wrote_iff_item {h : Hist} (hh : h ∈ rootHist.all) :
    (∃ w ∈ ws, w.histRoot = h.root) ↔ (h.root, true) ∈ recItems (traverse (cHit env rootHist o) [] t) := by
  obtain ⟨hg, hok, hs⟩ := cSession_facts env t o rootHist hl hd hn
  rw [commit_wrote_iff hg _ _ _ _ _ hcm hh]
  constructor
  · rintro ⟨y, hy, hyr⟩
    obtain ⟨x, hx, hyx⟩ := hs.core.rootsJ _ hyr
    have hpre : h.root <+: x.1 :=
      (all_root_prefix h (fun z hz c hc => (hg.child z (all_trans rootHist hh hz) c hc).1) y hy).trans hyx
    rcases List.mem_cons.1 hh with rfl | hdesc
    · rw [hg.root]
      refine (mem_recItems _ t _).2 (Or.inr ⟨rfl, ?_⟩)
      cases t with
      | file n c => simp [traverse, recItems] at hx
      | dir n cs st => rfl
    · obtain ⟨hne, nd, hat, hnd⟩ := hg.isDir h hdesc
      rcases (mem_recItems _ t x).1 hx with hv | ⟨rfl, -⟩
      · exact (mem_recItems _ t _).2 (Or.inl (hnd ▸ visible_prefix _ t hv hpre hne hat))
      · exact absurd (List.prefix_nil.1 hpre) hne
  · intro hit
    refine ⟨h, h.self_mem_all, ?_⟩
    have hown : ownerOf rootHist h.root = h.root := by
      rcases List.mem_cons.1 hh with rfl | hdesc
      · rw [hg.root]; exact (owner_nil hg.root).1
      · exact (owner_nested hg hdesc).1
    exact hown ▸ (hs.dirs h.root hit).1

/-- "visible": neither the root folder of the nested history nor a folder above it is ignored -/
theorem all_written_iff :
    (∀ h ∈ walkPost rootHist, ∃ w ∈ ws, w.histRoot = h.root) ↔
      (t.isDir = true ∧ ∀ h ∈ allDescendants rootHist, (h.root, true) ∈ visiblePaths (cHit env rootHist o) t) := by
  have hg := loadHistory_histOK t rootHist hl hd
  have key := fun h hh => wrote_iff_item env t o rootHist hl hd hn ws hcm (h := h) hh
  constructor
  · intro hall
    constructor
    · have hroot := (key _ rootHist.self_mem_all).1 (hall _ ((mem_walkPost _ _).2 rootHist.self_mem_all))
      rcases (mem_recItems _ t _).1 hroot with hv | ⟨-, hdir⟩
      · exact absurd hg.root (MhlProps.C02.visible_relative _ t _ _ hv).2.1
      · exact hdir
    · intro h hh
      have hall' : h ∈ rootHist.all := List.mem_cons_of_mem _ hh
      rcases (mem_recItems _ t _).1 ((key h hall').1 (hall h ((mem_walkPost _ _).2 hall'))) with hv | ⟨he, -⟩
      · exact hv
      · exact absurd (congrArg Prod.fst he) (hg.isDir h hh).1
  · rintro ⟨hdir, hvis⟩ h hh
    have hall := (mem_walkPost _ _).1 hh
    refine (key h hall).2 ((mem_recItems _ t _).2 ?_)
    rcases List.mem_cons.1 hall with rfl | hdesc
    · exact Or.inr ⟨by rw [hg.root], hdir⟩
    · exact Or.inl (hvis h hdesc)

omit hn hf in
/-- the `<hashlistreference>`s of a written generation: the generations written for the DIRECT child histories, in the
order they were written; that is the order of the post-order walk, and among the children of one history the
top-down walk order with sub-folders BY NAME (`WalkLt`: the two roots part at some folder, the earlier one into the
sub-folder with the smaller name); "direct child" can be read off `parentRoot` or off the tree of histories -/
theorem refs_exact :
    (ws.map (·.histRoot)).Sublist ((walkPost rootHist).map (·.root)) ∧
    ∀ w ∈ ws,
      w.gen.refs = (ws.filter fun w' => parentRoot rootHist w'.histRoot == some w.histRoot).map (fun w' =>
        posix (w'.histRoot.drop w.histRoot.length ++ [Gen.folderName, w'.gen.fileName])) ∧
      ((ws.filter fun w' => parentRoot rootHist w'.histRoot == some w.histRoot).map (·.histRoot)).Pairwise WalkLt ∧
      ∀ w' ∈ ws, (parentRoot rootHist w'.histRoot = some w.histRoot ↔
        ∃ h ∈ walkPost rootHist, h.root = w.histRoot ∧ ∃ c ∈ h.children, c.root = w'.histRoot) := by
  have hg := loadHistory_histOK t rootHist hl hd
  refine ⟨(commit_written _ _ _ _ _ _ hcm).1, ?_⟩
  intro w hw
  refine ⟨commit_refs_exact hg _ _ _ _ _ hcm w hw, commit_refs_sorted hg _ _ _ _ _ hcm w.histRoot, ?_⟩
  intro w' _
  obtain ⟨h, hh, hroot, -⟩ := commit_records hcm hw
  have hall : h ∈ rootHist.all := (mem_walkPost _ _).1 hh
  rw [hroot, parentRoot_iff hg.nodup hall]
  constructor
  · rintro ⟨c, hc, hcr⟩
    exact ⟨h, hh, rfl, c, hc, hcr⟩
  · rintro ⟨h', hh', hr', c, hc, hcr⟩
    have : h' = h := mem_all_root_inj hg.nodup ((mem_walkPost _ _).1 hh') hall hr'
    subst this
    exact ⟨c, hc, hcr⟩

end written

/-! ### non-vacuity: a nested history at `A/`, a grandchild at `A/B/`, a file at each level -/

section Examples

/-- toy parameters: the "digest" is the format name and the content length; `.DS_Store` is ignored -/
def nestEnv : Env :=
  { H := fun f c => f ++ ":" ++ toString c.length, D := fun _ _ => some [],
    hit := fun _ p => p.getLast? == some ".DS_Store", rootName := "root" }

def nestOpts : CreateOpts := { formats := ["md5"] }

/-- before the first run: `A/` and `A/B/` already hold an (empty) `ascmhl` folder, the root does not -/
def nestTree0 : Node :=
  .dir "root"
    [ .file "r.txt" [1],
      .dir "A"
        [ .file "a.txt" [1, 2],
          .dir "B" [ .file "b.txt" [1, 2, 3], .dir "sub" [.file "d.txt" []] none ] (some {}),
          .file ".DS_Store" [] ] (some {}),
      .dir "C" [ .file "c.txt" [] ] none ] none

/-- after the first run: every history has one generation -/
def nestTree : Node := applyWritten nestTree0 (create nestEnv nestTree0 nestOpts).written

def nestHist : Hist :=
  match loadHistory nestTree with
  | .ok h => h
  | .error _ => .mk [] [] [] false []

/- `nestTree` and `nestHist` are results of whole runs.  Facts about them are evaluated by the kernel; the elaborator,
which would evaluate them again (and far more slowly) whenever a term has a type like `nestTree.NamesDistinct`, is
kept from unfolding them. -/
attribute [local irreducible] nestTree nestHist

/-- the closed facts about the second run, evaluated together (the kernel shares the evaluation of `nestTree` and
`nestHist` within one declaration only): the tree loads, its sibling names are distinct and its names well-formed, and
the commit returns three generations; then the histories in walk order, the routing, and the visible paths -/
theorem nest_tests :
    ((match loadHistory nestTree with | .ok _ => true | .error _ => false) = true ∧ namesDistinctB nestTree = true ∧
      nestTree.NamesOk ∧
      (match commit nestHist (cSession nestEnv nestTree nestHist nestOpts) nestEnv.rootName nestEnv.stamp "in-place" with
        | .ok ws => ws.length | .error _ => 0) = 3) ∧
    (walkPost nestHist).map (fun h => (h.root, h.gens.map (·.number), h.children.map (·.root))) =
      [(["A", "B"], [1], []), (["A"], [1], [["A", "B"]]), ([], [1], [["A"]])] ∧
    ((owner nestHist ["r.txt"], relIn nestHist ["r.txt"]) = ([], ["r.txt"]) ∧
      (owner nestHist ["A", "a.txt"], relIn nestHist ["A", "a.txt"]) = (["A"], ["a.txt"]) ∧
      (owner nestHist ["A", "B", "b.txt"], relIn nestHist ["A", "B", "b.txt"]) = (["A", "B"], ["b.txt"]) ∧
      (owner nestHist ["A", "B", "sub", "d.txt"], relIn nestHist ["A", "B", "sub", "d.txt"]) =
        (["A", "B"], ["sub", "d.txt"]) ∧
      (owner nestHist ["A", "B"], relIn nestHist ["A", "B"]) = (["A", "B"], []) ∧
      parentRoot nestHist ["A", "B"] = some ["A"] ∧ parentRoot nestHist ["A"] = some []) ∧
    (visiblePaths (cHit nestEnv nestHist nestOpts) nestTree).map (fun x => (posix x.1, x.2)) =
      [("A/B/sub/d.txt", false), ("A/B/b.txt", false), ("A/B/sub", true), ("A/B", true), ("A/a.txt", false),
       ("C/c.txt", false), ("A", true), ("C", true), ("r.txt", false)] ∧
    ((["A", "B", "sub", "d.txt"] : RelPath), false) ∈ visiblePaths (cHit nestEnv nestHist nestOpts) nestTree ∧
    posix (relIn nestHist ["A", "B", "sub", "d.txt"]) = "sub/d.txt" := by
  decide +kernel

theorem nestHist_loaded : loadHistory nestTree = .ok nestHist := by
  have h := nest_tests.1.1
  unfold nestHist
  cases hl : loadHistory nestTree with
  | ok x => rfl
  | error e => rw [hl] at h; cases h

/-- three histories, nested two deep, each with the generation of the first run; walked children first -/
example : (walkPost nestHist).map (fun h => (h.root, h.gens.map (·.number), h.children.map (·.root))) =
    [(["A", "B"], [1], []), (["A"], [1], [["A", "B"]]), ([], [1], [["A"]])] := nest_tests.2.1

theorem nestTree_distinct : nestTree.NamesDistinct := namesDistinctB_sound _ nest_tests.1.2.1

theorem nestTree_namesOk : nestTree.NamesOk := nest_tests.1.2.2.1

theorem nest_commit : ∃ ws, commit nestHist (cSession nestEnv nestTree nestHist nestOpts) nestEnv.rootName nestEnv.stamp
    "in-place" = .ok ws ∧ ws.length = 3 := by
  have h := nest_tests.1.2.2.2
  cases hc : commit nestHist (cSession nestEnv nestTree nestHist nestOpts) nestEnv.rootName nestEnv.stamp "in-place" with
  | ok ws => rw [hc] at h; exact ⟨ws, rfl, h⟩
  | error e => rw [hc] at h; cases h

/-- all hypotheses of the theorems hold for the second run -/
example : nestOpts.singleFiles = [] ∧ nestOpts.detectRenaming = false ∧ nestOpts.formats ≠ [] ∧
    loadHistory nestTree = .ok nestHist ∧ nestTree.NamesDistinct ∧ nestTree.NamesOk ∧
    ∃ ws, commit nestHist (cSession nestEnv nestTree nestHist nestOpts) nestEnv.rootName nestEnv.stamp "in-place" = .ok ws :=
  ⟨rfl, rfl, by decide, nestHist_loaded, nestTree_distinct, nestTree_namesOk, by
    obtain ⟨ws, h, -⟩ := nest_commit; exact ⟨ws, h⟩⟩

/-- where the files of the three histories (and a file in a plain sub-folder of the innermost) are routed to -/
example : (owner nestHist ["r.txt"], relIn nestHist ["r.txt"]) = ([], ["r.txt"]) ∧
    (owner nestHist ["A", "a.txt"], relIn nestHist ["A", "a.txt"]) = (["A"], ["a.txt"]) ∧
    (owner nestHist ["A", "B", "b.txt"], relIn nestHist ["A", "B", "b.txt"]) = (["A", "B"], ["b.txt"]) ∧
    (owner nestHist ["A", "B", "sub", "d.txt"], relIn nestHist ["A", "B", "sub", "d.txt"]) =
      (["A", "B"], ["sub", "d.txt"]) ∧
    (owner nestHist ["A", "B"], relIn nestHist ["A", "B"]) = (["A", "B"], []) ∧
    parentRoot nestHist ["A", "B"] = some ["A"] ∧ parentRoot nestHist ["A"] = some [] := nest_tests.2.2.1

example : (visiblePaths (cHit nestEnv nestHist nestOpts) nestTree).map (fun x => (posix x.1, x.2)) =
    [("A/B/sub/d.txt", false), ("A/B/b.txt", false), ("A/B/sub", true), ("A/B", true), ("A/a.txt", false),
     ("C/c.txt", false), ("A", true), ("C", true), ("r.txt", false)] := nest_tests.2.2.2.1

/-- what the second run writes (records and references; root hashes and directory records) and what it writes when
the folder `B` is ignored, evaluated together.  In Boolean form (`==`): the `Decidable` instance of the conjunction of
the three equalities is larger than instance synthesis allows. -/
theorem nest_written :
    (((create nestEnv nestTree nestOpts).written.map fun w =>
        (w.histRoot, w.number, w.gen.records.map (fun r => (r.path, r.isDir)), w.gen.refs)) ==
      [ (["A", "B"], 2, [("sub/d.txt", false), ("sub", true), ("b.txt", false)], []),
        (["A"], 2, [("B", true), ("a.txt", false)], ["B/ascmhl/0002_B_1970-01-01_000000Z.mhl"]),
        ([], 2, [("A", true), ("C/c.txt", false), ("C", true), ("r.txt", false)],
          ["A/ascmhl/0002_A_1970-01-01_000000Z.mhl"]) ]) = true ∧
    (((create nestEnv nestTree nestOpts).written.map fun w =>
        (w.histRoot, (w.gen.rootHash.getD []).map (·.digest),
          (w.gen.records.filter (·.isDir)).map fun r => (r.path, r.entries.map (·.digest)))) ==
      [ (["A", "B"], ["md5:0"], [("sub", ["md5:0"])]),
        (["A"], ["md5:0"], [("B", ["md5:0"])]),
        ([], ["md5:0"], [("A", ["md5:0"]), ("C", ["md5:0"])]) ]) = true ∧
    (((create { nestEnv with hit := fun _ p => p.getLast? == some "B" } nestTree nestOpts).written.map fun w =>
        (w.histRoot, w.gen.records.map (fun r => (r.path, r.isDir)), w.gen.refs)) ==
      [ (["A"], [(".DS_Store", false), ("a.txt", false)], []),
        ([], [("A", true), ("C/c.txt", false), ("C", true), ("r.txt", false)],
          ["A/ascmhl/0002_A_1970-01-01_000000Z.mhl"]) ]) = true := by
  decide +kernel

/-- what the second run writes, evaluated through the whole pipeline: one generation (number 2) per history,
children first; each file in the generation of its owner only, under its path relative to the owner; the root folder
of a nested history as a directory record of the PARENT; the references -/
example : ((create nestEnv nestTree nestOpts).written.map fun w =>
      (w.histRoot, w.number, w.gen.records.map (fun r => (r.path, r.isDir)), w.gen.refs)) =
    [ (["A", "B"], 2, [("sub/d.txt", false), ("sub", true), ("b.txt", false)], []),
      (["A"], 2, [("B", true), ("a.txt", false)], ["B/ascmhl/0002_B_1970-01-01_000000Z.mhl"]),
      ([], 2, [("A", true), ("C/c.txt", false), ("C", true), ("r.txt", false)],
        ["A/ascmhl/0002_A_1970-01-01_000000Z.mhl"]) ] := eq_of_beq nest_written.1

/-- "the parent's entry for the nested folder carries the child's root hash", evaluated -/
example : ((create nestEnv nestTree nestOpts).written.map fun w =>
      (w.histRoot, (w.gen.rootHash.getD []).map (·.digest),
        (w.gen.records.filter (·.isDir)).map fun r => (r.path, r.entries.map (·.digest)))) =
    [ (["A", "B"], ["md5:0"], [("sub", ["md5:0"])]),
      (["A"], ["md5:0"], [("B", ["md5:0"])]),
      ([], ["md5:0"], [("A", ["md5:0"]), ("C", ["md5:0"])]) ] := eq_of_beq nest_written.2.1

/-- the order of sibling histories: by name at the folder where their roots part -/
example : WalkLt ["A", "B"] ["A", "C", "x"] ∧ WalkLt ["A", "z"] ["B"] ∧ ¬ WalkLt ["A"] ["A", "B"] :=
  ⟨⟨["A"], "B", "C", [], ["x"], rfl, rfl, by decide, by decide⟩, ⟨[], "A", "B", ["z"], [], rfl, rfl, by decide, by decide⟩,
    fun h => h.not_prefix.1 ⟨["B"], rfl⟩⟩

/-- `written_partition`, `all_written_iff` and `refs_exact` applied to the second run -/
example : ∃ ws, (create nestEnv nestTree nestOpts).written = ws ∧ (ws.map (·.histRoot)).Nodup ∧
    (∃ w ∈ ws, w.histRoot = ["A", "B"] ∧ ∃ r ∈ w.gen.records, r.path = "sub/d.txt" ∧ r.isDir = false) ∧
    (∀ w ∈ ws, ∀ r ∈ w.gen.records, w.histRoot ++ splitPath r.path = ["A", "B", "sub", "d.txt"] →
      w.histRoot = ["A", "B"]) ∧
    (∀ h ∈ walkPost nestHist, ∃ w ∈ ws, w.histRoot = h.root) ∧
    (∀ w ∈ ws, w.gen.refs = (ws.filter fun w' => parentRoot nestHist w'.histRoot == some w.histRoot).map (fun w' =>
        posix (w'.histRoot.drop w.histRoot.length ++ [Gen.folderName, w'.gen.fileName]))) := by
  obtain ⟨ws, hcm, -⟩ := nest_commit
  have h5 := refs_exact nestEnv nestTree nestOpts nestHist nestHist_loaded nestTree_distinct ws hcm
  have hp := written_partition nestEnv nestTree nestOpts nestHist nestHist_loaded nestTree_distinct nestTree_namesOk (by decide)
    ws hcm
  have hvis := nest_tests.2.2.2.2.1
  have ho : owner nestHist ["A", "B", "sub", "d.txt"] = ["A", "B"] ∧
      posix (relIn nestHist ["A", "B", "sub", "d.txt"]) = "sub/d.txt" :=
    ⟨congrArg Prod.fst nest_tests.2.2.1.2.2.2.1, nest_tests.2.2.2.2.2⟩
  obtain ⟨⟨w, hw, hwr, r, hr, hrp, hrd, -⟩, hsound⟩ := hp.2.2 _ hvis
  refine ⟨ws, create_written nestEnv nestTree nestOpts nestHist rfl nestHist_loaded rfl ws hcm, hp.1,
    ⟨w, hw, by rw [hwr, ho.1], r, hr, by rw [hrp, ho.2], hrd⟩, ?_, ?_, ?_⟩
  · intro w' hw' r' hr' hden
    rw [(hsound w' hw' r' hr' hden).1, ho.1]
  · apply (all_written_iff nestEnv nestTree nestOpts nestHist nestHist_loaded nestTree_distinct nestTree_namesOk (by decide)
      ws hcm).2
    decide +kernel
  · intro w' hw'
    exact (h5.2 w' hw').1

/-- sibling histories: stored out of order, one of them two levels down; the root's references come out in walk
order (sub-folders by name) -/
def sibTree : Node :=
  .dir "root"
    [ .dir "Z" [.file "z.txt" [1]] (some {}),
      .dir "M" [.dir "K" [.file "k.txt" []] (some {}), .file "m.txt" [2]] none,
      .dir "A" [.file "a.txt" []] (some {}) ] none

example : ((create nestEnv sibTree nestOpts).written.map fun w =>
      (w.histRoot, w.gen.records.map (fun r => (r.path, r.isDir)), w.gen.refs)) =
    [ (["A"], [("a.txt", false)], []),
      (["M", "K"], [("k.txt", false)], []),
      (["Z"], [("z.txt", false)], []),
      ([], [("A", true), ("M/K", true), ("M/m.txt", false), ("M", true), ("Z", true)],
        ["A/ascmhl/0001_A_1970-01-01_000000Z.mhl", "M/K/ascmhl/0001_K_1970-01-01_000000Z.mhl",
         "Z/ascmhl/0001_Z_1970-01-01_000000Z.mhl"]) ] := by decide +kernel

/-- `o.formats ≠ []` is needed for the existence half of 1 and 3: on the FIRST run (no generation anywhere yet) with
no format requested no file gets a record, the folders still do.  (On the second run the files would be verified in
the format already recorded, so the hypothesis is only needed where the owner has no digest of the file yet.) -/
example : ((create nestEnv nestTree0 { formats := [] }).written.map fun w =>
      (w.histRoot, w.gen.records.map (fun r => (r.path, r.isDir)))) =
    [ (["A", "B"], [("sub", true)]), (["A"], [("B", true)]), ([], [("A", true), ("C", true)]) ] := by
  decide +kernel

/-- `all_written_iff`: when the folder of a nested history is ignored, that history (and the ones below it) is not
written, the ones above are -/
example : ((create { nestEnv with hit := fun _ p => p.getLast? == some "B" } nestTree nestOpts).written.map fun w =>
      (w.histRoot, w.gen.records.map (fun r => (r.path, r.isDir)), w.gen.refs)) =
    [ (["A"], [(".DS_Store", false), ("a.txt", false)], []),
      ([], [("A", true), ("C/c.txt", false), ("C", true), ("r.txt", false)],
        ["A/ascmhl/0002_A_1970-01-01_000000Z.mhl"]) ] := eq_of_beq nest_written.2.2

end Examples

end MhlProps.C08part
