/-
`verify -dh` on trees with nested histories: the vocabulary of C09nested (`dhHit`, `EntryOk`, `comparedEntries`) and,
in it, exactly what the command marks — a format as failed, a folder as reported — after the traversal
(`mem_marksOf_dhFold`) and after the root comparison (`mem_marksOf_dhFinal`); `dirEntriesFor` by membership.
-/
import MhlProps.Proofs.DhLemmas

namespace MhlProps.C09nested
open MhlModel

/-- the ignore test `verify -dh` uses -/
def dhHit (env : Env) (h : Hist) (o : DhOpts) : RelPath → Bool :=
  env.hit (setPatterns (latestIgnore h.gens) o.ignoreCli o.ignoreFile)

/-- the recorded directory entry `e` carries the hashes the specification assigns to the node `c` found at `q`,
over the entries visible under `hit` -/
def EntryOk (env : Env) (hit : RelPath → Bool) (q : RelPath) (c : Node) (e : Entry) : Prop :=
  e.digest = (nodeHashes env.H env.D e.fmt hit q c).1 ∧ e.shash = some (nodeHashes env.H env.D e.fmt hit q c).2

/-- the entries `verify -dh` compares the visible sub-folder `q` with: `find_directory_hash_entries_for_path` in the
history `route` sends `q` to, for the path relative to that history's root -/
def comparedEntries (h : Hist) (q : RelPath) : List Entry :=
  dirEntriesFor (route h q).1 (posix (route h q).2)

end MhlProps.C09nested

namespace MhlModel
open MhlProps.C09nested (dhHit EntryOk comparedEntries)

/-! ## what `verify -dh` marks -/

theorem mismatches_spec_iff (env : Env) (hit : RelPath → Bool) (fmts : List String) (p : RelPath) (c : Node)
    (e : Entry) :
    mismatches fmts (specEntry env hit (ctxKeys fmts) p c).2 e = true ↔ e.fmt ∈ fmts ∧ ¬ EntryOk env hit p c e := by
  rw [mismatches_iff]
  unfold EntryOk
  constructor
  · rintro ⟨hf, c', s', hfind, hcmp⟩
    refine ⟨hf, ?_⟩
    obtain ⟨-, rfl, rfl⟩ := find?_specEntry env hit _ p c e.fmt e.fmt c' s' hfind
    rintro ⟨h1, h2⟩
    simp [compareDir, h1, h2] at hcmp
  · rintro ⟨hf, hne⟩
    have hk := find?_keyed (ctxKeys fmts)
      (fun f => ((nodeHashes env.H env.D f hit p c).1, (nodeHashes env.H env.D f hit p c).2)) e.fmt
      ((mem_ctxKeys fmts e.fmt).2 hf)
    refine ⟨hf, _, _, hk, ?_⟩
    unfold compareDir
    split
    · next h =>
      exfalso
      simp only [Bool.and_eq_true, beq_iff_eq] at h
      exact hne h
    · rfl

/-- the folder at `q` is compared with a recorded entry, in a computed format, that differs from the specified hashes;
`x` is what that entry adds to the list selected by `b` -/
def DhBad (env : Env) (t : Node) (rootHist : Hist) (fmts : List String) (hit : RelPath → Bool) (b : Bool)
    (x : String) (q : RelPath) : Prop :=
  ∃ c e, t.at? q = some c ∧ e ∈ comparedEntries rootHist q ∧ e.fmt ∈ fmts ∧ ¬ EntryOk env hit q c e ∧
    tagOf b (posix q) e = x

theorem marksOf_dhChildStep_file (b : Bool) (env : Env) (t : Node) (rootHist : Hist) (fmts : List String)
    (o : DhOpts) (folder : RelPath) (acc : DhState × List (String × DirCtx)) (nm : String) :
    marksOf b (dhChildStep env t rootHist fmts o folder acc (nm, false)).1 = marksOf b acc.1 := by
  obtain ⟨st, ctx⟩ := acc
  simp only [dhChildStep, Bool.false_eq_true, if_false]

theorem mem_marksOf_dhChildStep_dir (b : Bool) (env : Env) (t : Node) (rootHist : Hist) (fmts : List String)
    (o : DhOpts) (folder : RelPath) (acc : DhState × List (String × DirCtx)) (nm : String) (x : String) :
    x ∈ marksOf b (dhChildStep env t rootHist fmts o folder acc (nm, true)).1 ↔
      x ∈ marksOf b acc.1 ∨ (o.rootOnly = false ∧
        ∃ e ∈ dirEntriesFor (route rootHist (folder ++ [nm])).1 (posix (route rootHist (folder ++ [nm])).2),
          mismatches fmts ((alookup (folder ++ [nm]) acc.1.dirHashes).getD []) e = true ∧
          tagOf b (posix (folder ++ [nm])) e = x) := by
  obtain ⟨st, ctx⟩ := acc
  simp only [dhChildStep, if_true]
  cases o.rootOnly
  · simp only [Bool.false_eq_true, if_false, mem_marksOf_dhCompare, marksOf_dirHashes, Bool.true_or, ite_self,
      true_and]
  · simp only [if_true, marksOf_dirHashes, Bool.true_eq_false, false_and, or_false]

/-- The invariant of the fold over the children: `dirHashes` ends with the spec entries of the children still to come,
so the look-up for a sub-folder finds its specified hashes and `mismatches` against them is "in a computed format and
not `EntryOk`" (`mismatches_spec_iff`). -/
theorem foldl_dhChildStep_marks (b : Bool) (env : Env) (t : Node) (rootHist : Hist) (fmts : List String)
    (o : DhOpts) (hit : RelPath → Bool) (here : RelPath) (base : DirHashes) (L : List Node)
    (acc : DhState × List (String × DirCtx)) (C : String → DirCtx)
    (hproj : dhProj acc =
      (base ++ specEntries env hit (ctxKeys fmts) here L, (ctxKeys fmts).map fun f => (f, C f)))
    (hfile : ∀ nm bs, Node.file nm bs ∈ L → fileContent t (here ++ [nm]) = bs)
    (hpw : L.Pairwise fun a b => a.name ≠ b.name)
    (hbase : ∀ c ∈ L, ∀ x ∈ base, x.1 ≠ here ++ [c.name])
    (hat : ∀ c ∈ L, t.at? (here ++ [c.name]) = some c) (x : String) :
    x ∈ marksOf b ((L.map fun c => (c.name, c.isDir)).foldl (dhChildStep env t rootHist fmts o here) acc).1 ↔
      x ∈ marksOf b acc.1 ∨ ∃ c ∈ L, o.rootOnly = false ∧ c.isDir = true ∧
        DhBad env t rootHist fmts hit b x (here ++ [c.name]) := by
  rw [List.foldl_map]
  refine mem_foldl_steps (fun acc (c : Node) => dhChildStep env t rootHist fmts o here acc (c.name, c.isDir))
    (fun acc => marksOf b acc.1)
    (fun c x => o.rootOnly = false ∧ c.isDir = true ∧ DhBad env t rootHist fmts hit b x (here ++ [c.name]))
    (fun L acc => ∃ C, dhProj acc =
        (base ++ specEntries env hit (ctxKeys fmts) here L, (ctxKeys fmts).map fun f => (f, C f)) ∧
      (∀ nm bs, Node.file nm bs ∈ L → fileContent t (here ++ [nm]) = bs) ∧
      (L.Pairwise fun a b => a.name ≠ b.name) ∧ (∀ c ∈ L, ∀ x ∈ base, x.1 ≠ here ++ [c.name]) ∧
      ∀ c ∈ L, t.at? (here ++ [c.name]) = some c) ?_ x L acc ⟨C, hproj, hfile, hpw, hbase, hat⟩
  rintro c L acc ⟨C, hproj, hfile, hpw, hbase, hat⟩
  rw [List.pairwise_cons] at hpw
  have hb0 := hbase c (List.mem_cons_self ..)
  refine ⟨⟨fun f => addKid env hit here f (C f) c, ?_, fun nm bs h => hfile nm bs (List.mem_cons_of_mem _ h), hpw.2,
    fun c' h => hbase c' (List.mem_cons_of_mem _ h), fun c' h => hat c' (List.mem_cons_of_mem _ h)⟩, fun x => ?_⟩
  · rw [dhChildStep_proj, hproj,
      dhDirStep_node env t hit here (ctxKeys fmts) base c L C
        (fun nm bs hc => hfile nm bs (hc ▸ List.mem_cons_self ..)) hb0 hpw.1]
  · cases hd : c.isDir with
    | false => rw [marksOf_dhChildStep_file]; simp
    | true =>
      rw [mem_marksOf_dhChildStep_dir,
        show acc.1.dirHashes = base ++ specEntries env hit (ctxKeys fmts) here (c :: L) from congrArg Prod.fst hproj,
        alookup_specEntries env hit (ctxKeys fmts) here base c L hd hb0, Option.getD_some]
      simp only [mismatches_spec_iff, true_and]
      refine or_congr Iff.rfl (and_congr Iff.rfl ⟨?_, ?_⟩)
      · rintro ⟨e, he, ⟨hf, hne⟩, htag⟩
        exact ⟨c, e, hat c (List.mem_cons_self ..), he, hf, hne, htag⟩
      · rintro ⟨c', e, hc', he, hf, hne, htag⟩
        cases (hat c (List.mem_cons_self ..)).symm.trans hc'
        exact ⟨e, he, ⟨hf, hne⟩, htag⟩

theorem marksOf_dhVisit (b : Bool) (env : Env) (t : Node) (rootHist : Hist) (fmts : List String) (o : DhOpts)
    (st : DhState) (v : Visit) :
    marksOf b (dhVisit env t rootHist fmts o st v) = marksOf b (dhKids env t rootHist fmts o st v).1 := by
  rw [dhVisit_eq]
  dsimp only
  split <;> cases b <;> rfl

/-- Every visit is `VisitReady` (`foldl_visits_spec`), so each marks exactly its sub-folders with a differing entry
(`foldl_dhChildStep_marks`); both folds only extend the two lists (`mem_foldl_steps`). -/
theorem foldl_dhVisit_marks (b : Bool) (env : Env) (t : Node) (rootHist : Hist) (fmts : List String) (o : DhOpts)
    (hit : RelPath → Bool) (x : String) (d : Node) (hd : d.isDir = true) (here : RelPath) (st : DhState)
    (hat : t.at? here = some d) (hnd : d.NamesDistinct) (hst : ∀ y ∈ st.dirHashes, ¬ here <+: y.1) :
    x ∈ marksOf b ((traverse hit here d).foldl (dhVisit env t rootHist fmts o) st) ↔
      x ∈ marksOf b st ∨ (o.rootOnly = false ∧ ∃ q, (q, true) ∈ visFrom hit here d ∧
        DhBad env t rootHist fmts hit b x q) := by
  have h := (foldl_visits_spec env t fmts _ _ (dhVisit_carriesDh env t rootHist fmts o) hit d hd here st hat hnd
    hst).2
  refine (mem_foldl_steps (dhVisit env t rootHist fmts o) (marksOf b)
    (fun v x => ∃ ch ∈ v.children, o.rootOnly = false ∧ ch.2 = true ∧
      DhBad env t rootHist fmts hit b x (v.folder ++ [ch.1]))
    (EachVisit (dhVisit env t rootHist fmts o) fun st v => VisitReady env t hit (ctxKeys fmts) st.dirHashes v)
    ?_ x _ st h).trans (or_congr Iff.rfl ?_)
  · rintro v vs st ⟨⟨n, cs, hs, base, hatv, hndv, hch, hdhs, hbase⟩, hrest⟩
    refine ⟨hrest, fun x => ?_⟩
    have hVN := mem_visNodes hit v.folder cs
    rw [marksOf_dhVisit, dhKids, hch,
      foldl_dhChildStep_marks b env t rootHist fmts o hit v.folder base (visNodes hit v.folder cs) _
        (fun _ => {}) (by rw [dhProj, hdhs, ctxInit_eq])
        (fun nm bs hm => fileContent_child hatv hndv ((hVN _).1 hm).1) (visNodes_pairwise hit v.folder cs hndv) hbase
        (fun c hc => Node.at?_child hatv hndv ((hVN c).1 hc).1)]
    simp only [List.mem_map, exists_exists_and_eq_and]
  · simp only [visFrom, visitPaths, List.mem_flatMap, List.mem_map, Prod.mk.injEq]
    constructor
    · rintro ⟨v, hv, ch, hch, hro, hd, hbad⟩
      exact ⟨hro, _, ⟨v, hv, ch, hch, rfl, hd⟩, hbad⟩
    · rintro ⟨hro, q, ⟨v, hv, ch, hch, rfl, hd⟩, hbad⟩
      exact ⟨v, hv, ch, hch, hro, hd, hbad⟩

theorem mem_marksOf_dhFold (b : Bool) (env : Env) (t : Node) (h : Hist) (o : DhOpts) (hdir : t.isDir = true)
    (hnd : t.NamesDistinct) (x : String) :
    x ∈ marksOf b (dhFold env t h o) ↔
      o.rootOnly = false ∧ ∃ q, (q, true) ∈ visiblePaths (dhHit env h o) t ∧
        DhBad env t h (dhFormats h o.format) (dhHit env h o) b x q := by
  have := foldl_dhVisit_marks b env t h (dhFormats h o.format) o (dhHit env h o) x t hdir [] {} rfl hnd (by simp)
  rw [show marksOf b ({} : DhState) = [] by cases b <;> rfl] at this
  simp only [List.not_mem_nil, false_or, ← visiblePaths_eq] at this
  exact this

/-- What `verify -dh` has marked when it ends (`b = true`: the failed formats, which decide the exit code;
`b = false`: the reported folders).  A root hash entry that differs counts as a failed format only without `-ro`;
"." is reported in any case. -/
theorem mem_marksOf_dhFinal (b : Bool) (env : Env) (t : Node) (h : Hist) (o : DhOpts) (hdir : t.isDir = true)
    (hnd : t.NamesDistinct) (x : String) :
    x ∈ marksOf b (dhFinal env t h o) ↔
      (o.rootOnly = false ∧ ∃ q, (q, true) ∈ visiblePaths (dhHit env h o) t ∧
        DhBad env t h (dhFormats h o.format) (dhHit env h o) b x q) ∨
      ((b = true → o.rootOnly = false) ∧ ∃ e ∈ allRootEntries h, e.fmt ∈ dhFormats h o.format ∧
        ¬ EntryOk env (dhHit env h o) [] t e ∧ tagOf b "." e = x) := by
  have hm := fun e => mismatches_spec_iff env (dhHit env h o) (dhFormats h o.format) [] t e
  rw [ctxKeys_of_nodup _ (dhFormats_nodup h o.format)] at hm
  unfold dhFinal
  rw [mem_marksOf_dhCompare, mem_marksOf_dhFold b env t h o hdir hnd, dhRootHashes_spec env t h o hdir hnd]
  refine or_congr Iff.rfl (and_congr ?_ ?_)
  · cases b <;> cases o.rootOnly <;> decide
  · exact exists_congr fun e => and_congr Iff.rfl (by rw [← and_assoc, ← hm]; rfl)

/-! ## reading directory entries back from generations -/

theorem mem_dirEntriesFor (h : Hist) (path : String) (e : Entry) :
    e ∈ dirEntriesFor h path ↔ ∃ g ∈ h.gens,
      (∃ r, g.gen.find path = some r ∧ r.isDir = true ∧ e ∈ r.entries) ∨
        (path = "." ∧ e ∈ g.gen.rootHash.getD []) := by
  have hrec : ∀ o : Option Record, (e ∈ match o with
      | some r => if r.isDir then r.entries else []
      | none => []) ↔ ∃ r, o = some r ∧ r.isDir = true ∧ e ∈ r.entries := by
    intro o
    cases o with
    | none => simp
    | some r => cases hd : r.isDir <;> simp [hd]
  unfold dirEntriesFor
  simp only [List.mem_append, List.mem_flatMap, and_or_left, exists_or]
  refine or_congr (exists_congr fun g => and_congr Iff.rfl (hrec _)) ?_
  by_cases hp : path = "." <;> simp [hp]

theorem mem_dirEntriesFor_snoc {h h' : Hist} {k : Nat} {g : Generation} (hg : h'.gens = h.gens ++ [⟨k, g⟩])
    (path : String) (e : Entry) :
    e ∈ dirEntriesFor h' path ↔ e ∈ dirEntriesFor h path ∨
      (∃ r, g.find path = some r ∧ r.isDir = true ∧ e ∈ r.entries) ∨ (path = "." ∧ e ∈ g.rootHash.getD []) := by
  simp only [mem_dirEntriesFor, hg, List.mem_append, List.mem_singleton, or_and_right, exists_or, exists_eq_left]

end MhlModel
