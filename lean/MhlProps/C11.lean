/-
C11  "every file the tool writes is valid against the published schemas"

Every manifest written by create or flatten (`Xml.toXml g`) validates against the ASC MHL manifest XSD
(`Gen.manifestSchema`), every chain file (`Xml.chainToXml cs`) against the directory XSD (`Gen.directorySchema`) —
including generations that record no file at all and that carry only references.

The validator `Xsd.validate` is GENERIC (it interprets the schema value) and fuel-driven.  MhlProps/Proofs/XsdLemmas.lean
derives from the matcher a calculus without numbers: `Valid sch ty e` (valid from the size of `e` plus the cost of `ty` on,
the cost computed from the table of the schema), `Takes sch p b` (the particle takes the block of children `b`).  Here
there is one lemma per complex type of the two generated schemas, and it reads like the content model: the type as it
stands in the table (`lk_…`), the blocks of children the builder writes, one per particle, and for each block that its
elements are valid.  Two facts are asked of each table by evaluation: the type names are pairwise different
(`manifest_names_nodup`: a type is found at the position where it stands), and `TableOk` (`manifest_table`: the costs
are borne out, the element names of every sequence are pairwise different, the root type costs no more than the 64 that
`validate` supplies beyond `8 * size`; it costs 46).
The six optional format elements keep an explicit bound (`six_valid`, `EvSeq 10`), as `sorted_formats_accepted` states it.
After the two theorems, sanity in both directions: hand-built documents and written generations the validator rejects
(each a deviation from a valid base line), a rich generation it accepts, and `fuel_not_monotone`.

What `XsdWf` does NOT need (the validator accepts it, so the condition is weaker than the expected ingredients):
hostname, tool name, tool version, author name, location, comment, record paths, digests, structure hashes, reference path
and reference c4 may be ANY text or absent (their types are xs:string / RelativePathType).
What `XsdWf` needs beyond the expected ingredients, because the WRITER of the model would otherwise produce an element
the schema rejects:
  * a DIRECTORY record must have `size = none`: `pathElem` writes the size attribute for every record that has one, and
    `DirectoryHashType.path` declares no `size` attribute (see `dir_with_size_invalid`);
  * the root hash must have `prev = none`: `dirElem "roothash" false r` appends `prevElems r`, and
    `RootDirectoryHashType` has no `previousPath` child (see `root_with_prev_invalid`).
-/
import MhlModel.Gen.Xsd
import MhlProps.Proofs.XsdLemmas

namespace MhlProps.C11
open MhlModel MhlModel.Xml MhlModel.Xsd MhlModel.Gen

/-! ## the well-formedness condition on a generation -/

def emailRe : String := "[^@]+@[^\\.]+\\..+"
def actions : List String := ["original", "verified", "failed"]
def processes : List String := ["in-place", "transfer", "flatten"]

def OptOk (p : String → Prop) : Option String → Prop
  | none => True
  | some s => p s

def ReqOk (p : String → Prop) : Option String → Prop
  | none => False
  | some s => p s

instance (p : String → Prop) [DecidablePred p] (o : Option String) : Decidable (OptOk p o) := by
  cases o <;> unfold OptOk <;> infer_instance

instance (p : String → Prop) [DecidablePred p] (o : Option String) : Decidable (ReqOk p o) := by
  cases o <;> unfold ReqOk <;> infer_instance

theorem OptOk.elim {p : String → Prop} {o : Option String} (h : OptOk p o) {v : String} (hv : o = some v) : p v := by
  subst hv; exact h

theorem reqOk_iff {p : String → Prop} {o : Option String} : ReqOk p o ↔ ∃ s, o = some s ∧ p s := by
  cases o <;> simp [ReqOk]

abbrev IsDate (s : String) : Prop := isDateTime s = true

def EntryWf (e : XEntry) : Prop := OptOk (· ∈ actions) e.action ∧ OptOk IsDate e.hashdate

/-- the formats are pairwise distinct, supported, and in the order of the schema (= alphabetical) -/
def InOrder (es : List XEntry) : Prop := (es.map (·.fmt)).Sublist fmtOrder

/-- a FILE record: the formats are pairwise distinct and supported (the writer sorts them) -/
def FileWf (r : XRecord) : Prop :=
  OptOk IsDate r.lastmod ∧ (r.entries.map (·.fmt)).Nodup ∧ (∀ e ∈ r.entries, e.fmt ∈ Gen.supportedFormats) ∧
    ∀ e ∈ r.entries, EntryWf e

/-- a DIRECTORY record: the formats are already in order (the writer does not sort them); no size -/
def DirWf (r : XRecord) : Prop :=
  r.size = none ∧ OptOk IsDate r.lastmod ∧ InOrder r.entries ∧ ∀ e ∈ r.entries, EntryWf e

/-- the root hash: not written at all when it has no entry -/
def RootWf (r : XRecord) : Prop :=
  r.entries.isEmpty = true ∨ (r.prev = none ∧ InOrder r.entries ∧ ∀ e ∈ r.entries, EntryWf e)

def RecordWf (r : XRecord) : Prop := if r.isDir then DirWf r else FileWf r

def AuthorWf (a : XAuthor) : Prop := OptOk (fun e => matchesPattern emailRe e = true) a.email

def XsdWf (g : XGen) : Prop :=
  ReqOk IsDate g.creator.creationdate ∧
  (∀ a ∈ g.creator.authors, AuthorWf a) ∧
  ReqOk (· ∈ processes) g.process ∧
  (∀ r, g.rootHash = some r → RootWf r) ∧
  g.ignore ≠ [] ∧
  (∀ r ∈ g.records, RecordWf r)

def ChainWf (c : XChainEntry) : Prop := OptOk (fun s => isInteger s = true) c.seq ∧ c.fmt.getD "c4" = "c4"

instance (e : XEntry) : Decidable (EntryWf e) := by unfold EntryWf; infer_instance
instance (es : List XEntry) : Decidable (InOrder es) := by unfold InOrder; infer_instance
instance (r : XRecord) : Decidable (FileWf r) := by unfold FileWf; infer_instance
instance (r : XRecord) : Decidable (DirWf r) := by unfold DirWf; infer_instance
instance (r : XRecord) : Decidable (RootWf r) := by unfold RootWf; infer_instance
instance (r : XRecord) : Decidable (RecordWf r) := by unfold RecordWf; infer_instance
instance (a : XAuthor) : Decidable (AuthorWf a) := by unfold AuthorWf; infer_instance
instance (c : XChainEntry) : Decidable (ChainWf c) := by unfold ChainWf; infer_instance

/-! ### `InOrder` is exactly "pairwise distinct, supported, alphabetical" -/

theorem mem_fmtOrder_iff (f : String) : f ∈ fmtOrder ↔ f ∈ Gen.supportedFormats := by
  simp only [fmtOrder, Gen.supportedFormats, List.mem_cons, List.not_mem_nil, or_false]
  constructor <;> intro h <;> rcases h with h | h | h | h | h | h <;> simp [h]

theorem InOrder.nodup {es : List XEntry} (h : InOrder es) : (es.map (·.fmt)).Nodup :=
  List.Nodup.sublist h (by decide)

theorem InOrder.supported {es : List XEntry} (h : InOrder es) : ∀ e ∈ es, e.fmt ∈ Gen.supportedFormats :=
  fun e he => (mem_fmtOrder_iff _).1 (List.Sublist.subset h (List.mem_map.2 ⟨e, he, rfl⟩))

theorem InOrder.sorted {es : List XEntry} (h : InOrder es) : (es.map (·.fmt)).Pairwise (· < ·) :=
  List.Pairwise.sublist h fmtOrder_sorted

theorem inOrder_of_sorted {es : List XEntry} (hs : (es.map (·.fmt)).Pairwise (· < ·))
    (hsup : ∀ e ∈ es, e.fmt ∈ Gen.supportedFormats) : InOrder es := by
  refine sublist_of_pairwise_lt fmtOrder _ hs fmtOrder_sorted ?_
  intro x hx
  obtain ⟨e, he, rfl⟩ := List.mem_map.1 hx
  exact (mem_fmtOrder_iff _).2 (hsup e he)

/-- what the writer does to a file record -/
theorem inOrder_isort {es : List XEntry} (hnd : (es.map (·.fmt)).Nodup)
    (hsup : ∀ e ∈ es, e.fmt ∈ Gen.supportedFormats) : InOrder (isort (fun a b => strLe a.fmt b.fmt) es) :=
  sorted_formats_sublist es hnd fun e he => (mem_fmtOrder_iff _).2 (hsup e he)

/-! ## the manifest schema, type by type -/

section manifest
local notation "S" => manifestSchema

/-- the type names of the schema are pairwise distinct, so a type is found where it stands -/
theorem manifest_names_nodup : (manifestSchema.types.map Prod.fst).Nodup := by decide +kernel

theorem lk_dateTime : lookupType S "dateTime" = none := lookupType_of_not_mem (by decide +kernel)
theorem lk_string : lookupType S "string" = none := lookupType_of_not_mem (by decide +kernel)
theorem lk_integer : lookupType S "integer" = none := lookupType_of_not_mem (by decide +kernel)

theorem lk_relpath : lookupType S "RelativePathType" = some (.simple (.base "string")) :=
  lookupType_of_getElem? manifest_names_nodup 2 rfl

theorem vt_string (s : String) : validText S "string" s = true := by rw [validText, lk_string]; rfl
theorem vt_relpath (s : String) : validText S "RelativePathType" s = true := by rw [validText, lk_relpath]; rfl
theorem vt_dateTime (s : String) : validText S "dateTime" s = isDateTime s := by rw [validText, lk_dateTime]; rfl
theorem vt_integer (s : String) : validText S "integer" s = isInteger s := by rw [validText, lk_integer]; rfl
theorem vt_action (s : String) : validText S "ActionAttributeType" s = actions.contains s := by
  rw [validText, lookupType_of_getElem? manifest_names_nodup 1 rfl]; rfl
theorem vt_email (s : String) : validText S "EmailAddressAttributeType" s = matchesPattern emailRe s := by
  rw [validText, lookupType_of_getElem? manifest_names_nodup 0 rfl]; rfl

def sixFormats : List Particle := fmtOrder.map fun n => .elem n "HashFormatType" 0 (some 1)

theorem lk_hashFormat : lookupType S "HashFormatType" = some (.simpleContent "string"
    [⟨"action", "ActionAttributeType", false, none⟩, ⟨"hashdate", "dateTime", false, none⟩,
     ⟨"structure", "string", false, none⟩]) :=
  lookupType_of_getElem? manifest_names_nodup 16 rfl

theorem lk_container : lookupType S "DirectoryHashFormatContainerType" =
    some (.complex (.seq sixFormats 1 (some 1)) []) :=
  lookupType_of_getElem? manifest_names_nodup 17 rfl

theorem lk_filePath : lookupType S "HashType.path" = some (.simpleContent "RelativePathType"
    [⟨"size", "integer", false, none⟩, ⟨"creationdate", "dateTime", false, none⟩,
     ⟨"lastmodificationdate", "dateTime", false, none⟩]) :=
  lookupType_of_getElem? manifest_names_nodup 11 rfl

theorem lk_dirPath : lookupType S "DirectoryHashType.path" = some (.simpleContent "RelativePathType"
    [⟨"creationdate", "dateTime", false, none⟩, ⟨"lastmodificationdate", "dateTime", false, none⟩]) :=
  lookupType_of_getElem? manifest_names_nodup 13 rfl

theorem lk_hash : lookupType S "HashType" = some (.complex (.seq
    [.elem "path" "HashType.path" 1 (some 1), .seq sixFormats 1 (some 1),
     .elem "previousPath" "RelativePathType" 0 (some 1), .elem "metadata" "MetadataType" 0 (some 1)] 1 (some 1)) []) :=
  lookupType_of_getElem? manifest_names_nodup 12 rfl

theorem lk_dirHash : lookupType S "DirectoryHashType" = some (.complex (.seq
    [.elem "path" "DirectoryHashType.path" 1 (some 1), .elem "content" "DirectoryHashFormatContainerType" 1 (some 1),
     .elem "structure" "DirectoryHashFormatContainerType" 1 (some 1),
     .elem "previousPath" "RelativePathType" 0 (some 1), .elem "metadata" "MetadataType" 0 (some 1)] 1 (some 1)) []) :=
  lookupType_of_getElem? manifest_names_nodup 14 rfl

theorem lk_rootHash : lookupType S "RootDirectoryHashType" = some (.complex (.seq
    [.elem "content" "DirectoryHashFormatContainerType" 1 (some 1),
     .elem "structure" "DirectoryHashFormatContainerType" 1 (some 1)] 1 (some 1)) []) :=
  lookupType_of_getElem? manifest_names_nodup 15 rfl

theorem lk_hashes : lookupType S "HashesType" = some (.complex (.choice
    ([("hash", "HashType"), ("directoryhash", "DirectoryHashType")].map fun a => .elem a.1 a.2 1 (some 1)) 1 none) []) :=
  lookupType_of_getElem? manifest_names_nodup 10 rfl

theorem lk_author : lookupType S "AuthorType" = some (.simpleContent "string"
    [⟨"email", "EmailAddressAttributeType", false, none⟩, ⟨"phone", "string", false, none⟩,
     ⟨"role", "string", false, none⟩]) :=
  lookupType_of_getElem? manifest_names_nodup 6 rfl

theorem lk_tool : lookupType S "ToolType" = some (.simpleContent "string" [⟨"version", "string", false, none⟩]) :=
  lookupType_of_getElem? manifest_names_nodup 7 rfl

theorem lk_process : lookupType S "ProcessType" = some (.simple (.enum processes)) :=
  lookupType_of_getElem? manifest_names_nodup 8 rfl

theorem lk_ignore : lookupType S "IgnoreType" =
    some (.complex (.seq [.elem "pattern" "string" 1 none] 1 (some 1)) []) :=
  lookupType_of_getElem? manifest_names_nodup 9 rfl

theorem lk_creator : lookupType S "CreatorInfoType" = some (.complex (.seq
    [.elem "creationdate" "dateTime" 1 (some 1), .elem "hostname" "string" 1 (some 1),
     .elem "tool" "ToolType" 1 (some 1), .elem "author" "AuthorType" 0 none, .elem "location" "string" 0 (some 1),
     .elem "comment" "string" 0 (some 1)] 1 (some 1)) []) :=
  lookupType_of_getElem? manifest_names_nodup 4 rfl

theorem lk_processInfo : lookupType S "ProcessInfoType" = some (.complex (.seq
    [.elem "process" "ProcessType" 1 (some 1), .elem "roothash" "RootDirectoryHashType" 0 (some 1),
     .elem "ignore" "IgnoreType" 0 (some 1)] 1 (some 1)) []) :=
  lookupType_of_getElem? manifest_names_nodup 5 rfl

theorem lk_ref : lookupType S "HashListReferenceType" = some (.complex (.seq
    [.elem "path" "RelativePathType" 1 (some 1), .elem "c4" "HashFormatType" 1 (some 1)] 1 (some 1)) []) :=
  lookupType_of_getElem? manifest_names_nodup 19 rfl

theorem lk_references : lookupType S "ReferencesType" =
    some (.complex (.seq [.elem "hashlistreference" "HashListReferenceType" 1 none] 1 (some 1)) []) :=
  lookupType_of_getElem? manifest_names_nodup 18 rfl

theorem lk_hashList : lookupType S "HashListType" = some (.complex (.seq
    [.elem "creatorinfo" "CreatorInfoType" 1 (some 1), .elem "processinfo" "ProcessInfoType" 1 (some 1),
     .elem "hashes" "HashesType" 0 (some 1), .elem "metadata" "MetadataType" 0 (some 1),
     .elem "references" "ReferencesType" 0 (some 1)] 1 (some 1)) [⟨"version", "string", true, some "2.0"⟩]) :=
  lookupType_of_getElem? manifest_names_nodup 3 rfl

theorem validAttrs_nil (sch : Schema) : validAttrs sch [] [] = true := rfl

/-- what the lemmas below ask of the table: the costs are borne out, the element names of every sequence are pairwise
different, the root type costs no more than `validate` supplies (it costs 46) -/
theorem manifest_table : TableOk manifestSchema := tableOk_spec (by decide +kernel)

theorem string_leaf_valid (tag : String) (t : Option String) : Valid S "string" (.mk tag [] t []) :=
  (evValid_builtin lk_string rfl rfl rfl).valid

theorem relpath_leaf_valid (tag : String) (t : Option String) : Valid S "RelativePathType" (.mk tag [] t []) :=
  (evValid_simple lk_relpath rfl rfl rfl).valid

/-! ### `<c4>`, `<md5>`, … : with explicit fuel, as `sorted_formats_accepted` states it -/

theorem entry_valid (e : XEntry) (t : Option String) (h : EntryWf e) :
    EvValid 1 S "HashFormatType" (entryElem e t) := by
  refine evValid_simpleContent lk_hashFormat rfl ?_ (vt_string _)
  refine validAttrs_optAttrs [("action", e.action), ("hashdate", e.hashdate)] (by simp) (by decide) ?_
  -- Here and in the other `…_valid` lemmas of simple-content types: one conjunct per optional attribute; `attrOk` is
  -- evaluated by `attrOk_cons_ne` / `attrOk_cons_self`, the type check of the value is rewritten by `vt_…`.
  simp [attrOk_cons_ne, attrOk_cons_self, vt_action, vt_dateTime]
  exact ⟨fun _ hv => h.1.elim hv, fun _ hv => h.2.elim hv⟩

theorem six_valid (es : List XEntry) (txt : XEntry → Option String) (rest : List Elem) (ho : InOrder es)
    (hw : ∀ e ∈ es, EntryWf e) (hrest : ∀ n ∈ fmtOrder, HeadNe n rest) :
    EvSeq 10 S sixFormats (es.map (fun e => entryElem e (txt e)) ++ rest) rest := by
  have := evSeq_optionals (K := 1) S "HashFormatType" rest fmtOrder (by decide) hrest
    (es.map fun e => entryElem e (txt e)) (by simpa [InOrder, List.map_map, Function.comp_def, entryElem, Elem.tag] using ho)
    (by
      intro x hx
      obtain ⟨e, he, rfl⟩ := List.mem_map.1 hx
      exact entry_valid e _ (hw e he))
  exact this.mono (by decide)

/-- the alphabetical order of the writer is the order of the schema: the `strLe`-sorted, duplicate-free, supported formats
of a file record are accepted by the six optional elements -/
theorem sorted_formats_accepted (es : List XEntry) (rest : List Elem) (hnd : (es.map (·.fmt)).Nodup)
    (hsup : ∀ e ∈ es, e.fmt ∈ Gen.supportedFormats) (hw : ∀ e ∈ es, EntryWf e)
    (hrest : ∀ n ∈ fmtOrder, HeadNe n rest) :
    EvSeq 10 S sixFormats
      ((isort (fun a b => strLe a.fmt b.fmt) es).map (fun e => entryElem e (some e.digest)) ++ rest) rest :=
  six_valid _ _ rest (inOrder_isort hnd hsup) (fun e he => hw e ((mem_isort _ _ _).1 he)) hrest

theorem six_takes (es : List XEntry) (txt : XEntry → Option String) (ho : InOrder es) (hw : ∀ e ∈ es, EntryWf e) :
    Takes S (.seq sixFormats 1 (some 1)) (es.map fun e => entryElem e (txt e)) := by
  have hn : namesOf sixFormats = fmtOrder := rfl
  -- an element particle costs 3 at least, and there are six of them
  have h3 : 3 ≤ pcosts (costOf S) sixFormats :=
    Nat.le_trans (Nat.le_add_left ..) (pcost_le_pcosts (costOf S) (p := .elem "c4" "HashFormatType" 0 (some 1))
      (List.mem_cons_self ..))
  refine takes_seq_of_evSeq (K := 10) ?_
    (fun rest hrest => (six_valid es txt rest ho hw (hn ▸ hrest)).mono (Nat.le_add_left ..))
    (by rw [show sixFormats.length = 6 from rfl]; omega)
  intro c hc
  obtain ⟨e, he, rfl⟩ := List.mem_map.1 hc
  exact hn ▸ List.Sublist.subset ho (List.mem_map.2 ⟨e, he, rfl⟩)

/-- `<content>` / `<structure>` -/
theorem container_valid (tag : String) (es : List XEntry) (txt : XEntry → Option String) (ho : InOrder es)
    (hw : ∀ e ∈ es, EntryWf e) :
    Valid S "DirectoryHashFormatContainerType" (.mk tag [] none (es.map fun e => entryElem e (txt e))) :=
  .complex manifest_table lk_container rfl rfl rfl (six_takes es txt ho hw)

/-! ### `<path>`, `<previousPath>` -/

theorem path_valid_file (r : XRecord) (h : OptOk IsDate r.lastmod) : Valid S "HashType.path" (pathElem r) := by
  refine (evValid_simpleContent lk_filePath rfl ?_ (vt_relpath _)).valid
  refine validAttrs_optAttrs [("size", r.size.map toString), ("lastmodificationdate", r.lastmod)] (by simp) (by decide) ?_
  simp [attrOk_cons_ne, attrOk_cons_self, vt_integer, vt_dateTime]
  exact ⟨fun n _ => isInteger_toString n, fun _ hv => h.elim hv⟩

theorem path_valid_dir (r : XRecord) (hs : r.size = none) (h : OptOk IsDate r.lastmod) :
    Valid S "DirectoryHashType.path" (pathElem r) := by
  refine (evValid_simpleContent lk_dirPath rfl ?_ (vt_relpath _)).valid
  refine validAttrs_optAttrs [("size", r.size.map toString), ("lastmodificationdate", r.lastmod)] (by simp) (by decide) ?_
  simp [attrOk_cons_ne, attrOk_cons_self, vt_dateTime, hs]
  exact fun _ hv => h.elim hv

theorem prevElems_takes (r : XRecord) :
    Takes S (.elem "previousPath" "RelativePathType" 0 (some 1)) (prevElems r) := by
  unfold prevElems
  cases r.prev with
  | none => exact takes_none
  | some p => exact takes_one (Nat.zero_le 1) rfl (relpath_leaf_valid "previousPath" (some p))

/-! ### `<hash>` -/

theorem file_valid (r : XRecord) (h : FileWf r) : Valid S "HashType" (fileElem r) := by
  obtain ⟨hl, hnd, hsup, hw⟩ := h
  exact .seq manifest_table lk_hash rfl rfl (by simp [fileElem, Elem.children])
    (.one rfl (path_valid_file r hl)
      (.cons (six_takes _ (fun e => some e.digest) (inOrder_isort hnd hsup) fun e he => hw e ((mem_isort _ _ _).1 he))
        (.cons (prevElems_takes r) (.last takes_none))))

/-! ### `<directoryhash>`, `<roothash>` -/

theorem dir_valid (r : XRecord) (h : DirWf r) : Valid S "DirectoryHashType" (dirElem "directoryhash" true r) := by
  obtain ⟨hs, hl, ho, hw⟩ := h
  exact .seq manifest_table lk_dirHash rfl rfl (by simp [dirElem, Elem.children])
    (.one rfl (path_valid_dir r hs hl) (.one rfl (container_valid "content" _ (fun e => some e.digest) ho hw)
      (.one rfl (container_valid "structure" _ (fun e => e.shash) ho hw)
        (.cons (prevElems_takes r) (.last takes_none)))))

theorem root_valid (r : XRecord) (hp : r.prev = none) (ho : InOrder r.entries) (hw : ∀ e ∈ r.entries, EntryWf e) :
    Valid S "RootDirectoryHashType" (dirElem "roothash" false r) :=
  .seq manifest_table lk_rootHash rfl rfl (by simp [dirElem, Elem.children, prevElems, hp])
    (.one rfl (container_valid "content" _ (fun e => some e.digest) ho hw)
      (.one rfl (container_valid "structure" _ (fun e => e.shash) ho hw) .nil))

/-! ### `<hashes>` -/

/-- a child of `<hashes>` as `toXml` writes it -/
def recordElem (r : XRecord) : Elem := if r.isDir then dirElem "directoryhash" true r else fileElem r

theorem record_valid (r : XRecord) (h : RecordWf r) :
    ∃ ty, alookup (recordElem r).tag [("hash", "HashType"), ("directoryhash", "DirectoryHashType")] = some ty ∧
      Valid S ty (recordElem r) := by
  unfold RecordWf at h
  unfold recordElem
  cases hd : r.isDir
  · simp only [hd, Bool.false_eq_true, if_false] at h ⊢
    exact ⟨"HashType", rfl, file_valid r h⟩
  · simp only [hd, if_true] at h ⊢
    exact ⟨"DirectoryHashType", rfl, dir_valid r h⟩

theorem hashes_valid (rs : List XRecord) (hne : rs ≠ []) (h : ∀ r ∈ rs, RecordWf r) :
    Valid S "HashesType" (.mk "hashes" [] none (rs.map recordElem)) :=
  .complex manifest_table lk_hashes rfl rfl rfl (takes_choice _ (rs.map recordElem)
    (List.forall_mem_map.2 fun r hr => record_valid r (h r hr)) (by simpa using hne))

/-! ### `<creatorinfo>` -/

theorem author_valid (a : XAuthor) (h : AuthorWf a) : Valid S "AuthorType" (authorElem a) := by
  refine (evValid_simpleContent lk_author rfl ?_ (vt_string _)).valid
  refine validAttrs_optAttrs [("role", a.role), ("email", a.email), ("phone", a.phone)] (by simp) (by decide) ?_
  simp [attrOk_cons_ne, attrOk_cons_self, vt_string, vt_email]
  exact fun _ hv => OptOk.elim h hv

theorem tool_valid (name version : Option String) :
    Valid S "ToolType" (.mk "tool" (optAttr "version" version) name []) := by
  refine (evValid_simpleContent lk_tool rfl ?_ (vt_string _)).valid
  refine validAttrs_optAttrs [("version", version)] (by simp) (by decide) ?_
  simp [attrOk_cons_self, vt_string]

theorem creator_valid (c : XCreator) (hd : ReqOk IsDate c.creationdate) (ha : ∀ a ∈ c.authors, AuthorWf a) :
    Valid S "CreatorInfoType" (creatorElem c) := by
  obtain ⟨s, hs, hdt⟩ := reqOk_iff.1 hd
  have hcd : Valid S "dateTime" (.mk "creationdate" [] c.creationdate []) :=
    (evValid_builtin lk_dateTime rfl rfl (by simpa [hs, Elem.text, validSimple] using hdt)).valid
  have hopt : ∀ (tag : String) (x : Option String), Takes S (.elem tag "string" 0 (some 1))
      (match x with | some l => [.mk tag [] (some l) []] | none => []) := by
    intro tag x
    cases x with
    | none => exact takes_none
    | some l => exact takes_one (Nat.zero_le 1) rfl (string_leaf_valid _ _)
  exact .seq manifest_table lk_creator rfl rfl
    (by unfold creatorElem; cases c.location <;> cases c.comment <;> simp [Elem.children])
    (.one rfl hcd (.one rfl (string_leaf_valid "hostname" c.hostname) (.one rfl (tool_valid c.toolName c.toolVersion)
      (.cons (takes_elems 0 none (c.authors.map authorElem)
          (List.forall_mem_map.2 fun a ha' => ⟨rfl, author_valid a (ha a ha')⟩) (Nat.zero_le _) (by simp))
        (.cons (hopt "location" c.location) (.last (hopt "comment" c.comment)))))))

/-! ### `<processinfo>` -/

/-- `<ignore>` as `processElem` writes it -/
def ignoreElem (ps : List String) : Elem := .mk "ignore" [] none (ps.map fun p => .mk "pattern" [] (some p) [])

theorem ignore_valid (ps : List String) (hne : ps ≠ []) : Valid S "IgnoreType" (ignoreElem ps) :=
  .many ps _ manifest_table lk_ignore hne fun p _ => ⟨rfl, string_leaf_valid "pattern" (some p)⟩

/-- the optional `<roothash>` as `processElem` writes it -/
def rootPart (g : XGen) : List Elem :=
  match g.rootHash with
  | some r => if r.entries.isEmpty then [] else [dirElem "roothash" false r]
  | none => []

theorem rootPart_takes (g : XGen) (hr : ∀ r, g.rootHash = some r → RootWf r) :
    Takes S (.elem "roothash" "RootDirectoryHashType" 0 (some 1)) (rootPart g) := by
  unfold rootPart
  cases hg : g.rootHash with
  | none => exact takes_none
  | some r =>
    refine takes_ifNonempty rfl fun he => ?_
    rcases hr r hg with h | ⟨h1, h2, h3⟩
    · exact absurd (List.isEmpty_iff.1 h) he
    · exact root_valid r h1 h2 h3

theorem process_valid (g : XGen) (hp : ReqOk (· ∈ processes) g.process) (hr : ∀ r, g.rootHash = some r → RootWf r)
    (hi : g.ignore ≠ []) : Valid S "ProcessInfoType" (processElem g) := by
  obtain ⟨p, hpe, hpm⟩ := reqOk_iff.1 hp
  have hproc : Valid S "ProcessType" (.mk "process" [] g.process []) :=
    (evValid_simple lk_process rfl rfl (by simpa [hpe, Elem.text, validSimple] using hpm)).valid
  exact .seq manifest_table lk_processInfo rfl rfl (b := _ :: (rootPart g ++ [ignoreElem g.ignore])) rfl
    (.one rfl hproc (.cons (rootPart_takes g hr) (.last (takes_one (Nat.zero_le 1) rfl (ignore_valid g.ignore hi)))))

/-! ### `<references>` -/

theorem ref_valid (r : XRef) : Valid S "HashListReferenceType" (refElem r) :=
  have hc4 : Valid S "HashFormatType" (.mk "c4" [] r.c4 []) :=
    (evValid_simpleContent lk_hashFormat rfl (by show validAttrs S _ [] = true; decide) (vt_string _)).valid
  .seq manifest_table lk_ref rfl rfl rfl (.one rfl (relpath_leaf_valid "path" r.path) (.one rfl hc4 .nil))

theorem references_valid (rs : List XRef) (hne : rs ≠ []) :
    Valid S "ReferencesType" (.mk "references" [] none (rs.map refElem)) :=
  .many rs refElem manifest_table lk_references hne fun r _ => ⟨rfl, ref_valid r⟩

/-! ### `<hashlist>` -/

/-- the optional `<hashes>` as `toXml` writes it: none for a generation without records -/
def hashesPart (g : XGen) : List Elem :=
  if g.records.isEmpty then [] else
    [.mk "hashes" [] none (g.records.map recordElem)]

/-- the optional `<references>` as `toXml` writes it -/
def refsPart (g : XGen) : List Elem :=
  if g.refs.isEmpty then [] else [.mk "references" [] none (g.refs.map refElem)]

theorem toXml_children (g : XGen) :
    (toXml g).children = creatorElem g.creator :: processElem g :: (hashesPart g ++ refsPart g) := rfl

theorem hashlist_valid (g : XGen) (h : XsdWf g) : Valid S "HashListType" (toXml g) := by
  obtain ⟨hd, ha, hp, hr, hi, hrec⟩ := h
  exact .seq manifest_table lk_hashList rfl (by show validAttrs S _ [("version", "2.0")] = true; decide +kernel)
    (b := _ :: _ :: (hashesPart g ++ ([] ++ refsPart g))) (toXml_children g)
    (.one rfl (creator_valid g.creator hd ha) (.one rfl (process_valid g hp hr hi)
      (.cons (takes_ifNonempty rfl fun hne => hashes_valid g.records hne hrec)
        (.cons takes_none (.last (takes_ifNonempty rfl (references_valid g.refs)))))))

end manifest

/-! ## C11, manifests -/

/-- every manifest the tool writes validates against the ASC MHL manifest schema -/
theorem manifest_valid (g : XGen) (h : XsdWf g) : validate manifestSchema (toXml g) = true :=
  validate_of_valid manifest_table rfl (hashlist_valid g h)

/-- the statement of `manifest_valid` for a generation that records no file at all (DESIGN.md §8, D4a: the tool wrote
an empty `<hashes/>` element, which is invalid); the hypothesis `_h0` only marks the case -/
theorem no_records_valid (g : XGen) (h : XsdWf g) (_h0 : g.records = []) : validate manifestSchema (toXml g) = true :=
  manifest_valid g h

/-- for a generation without records the condition does not mention records at all, and no `<hashes>` child is written -/
theorem no_records_valid' (g : XGen) (h0 : g.records = [])
    (hd : ReqOk IsDate g.creator.creationdate) (ha : ∀ a ∈ g.creator.authors, AuthorWf a)
    (hp : ReqOk (· ∈ processes) g.process) (hr : ∀ r, g.rootHash = some r → RootWf r) (hi : g.ignore ≠ []) :
    validate manifestSchema (toXml g) = true ∧
      ∀ c ∈ (toXml g).children, c.tag ≠ "hashes" := by
  refine ⟨manifest_valid g ⟨hd, ha, hp, hr, hi, by simp [h0]⟩, ?_⟩
  intro c hc
  rw [toXml_children] at hc
  simp only [hashesPart, h0, List.isEmpty_nil, if_true, List.nil_append, List.mem_cons] at hc
  rcases hc with rfl | rfl | hc
  · simp [creatorElem, Elem.tag]
  · simp [processElem, Elem.tag]
  · unfold refsPart at hc
    split at hc
    · simp at hc
    · have : c = .mk "references" [] none (g.refs.map refElem) := by simpa using hc
      subst this
      simp [Elem.tag]

/-- the statement of `manifest_valid` for a generation that carries only references; `_h0`, `_h1` only mark the case -/
theorem refs_only_valid (g : XGen) (h : XsdWf g) (_h0 : g.records = []) (_h1 : g.refs ≠ []) :
    validate manifestSchema (toXml g) = true :=
  manifest_valid g h

/-! ## C11, chain files -/

section chain
local notation "D" => directorySchema

theorem directory_names_nodup : (directorySchema.types.map Prod.fst).Nodup := by decide +kernel

theorem dvt_string (s : String) : validText D "string" s = true := by
  rw [validText, lookupType_of_not_mem (by decide +kernel)]; rfl
theorem dvt_integer (s : String) : validText D "integer" s = isInteger s := by
  rw [validText, lookupType_of_not_mem (by decide +kernel)]; rfl

theorem dlk_directory : lookupType D "DirectoryType" =
    some (.complex (.seq [.elem "hashlist" "HashlistType" 1 none] 1 (some 1)) []) :=
  lookupType_of_getElem? directory_names_nodup 0 rfl

theorem dlk_hashlist : lookupType D "HashlistType" = some (.complex (.seq
    [.elem "path" "RelativePathType" 1 (some 1), .elem "c4" "HashFormatType" 1 (some 1)] 1 (some 1))
    [⟨"sequencenr", "integer", false, none⟩]) :=
  lookupType_of_getElem? directory_names_nodup 1 rfl

theorem dlk_relpath : lookupType D "RelativePathType" = some (.simple (.base "string")) :=
  lookupType_of_getElem? directory_names_nodup 3 rfl

theorem dlk_hashFormat : lookupType D "HashFormatType" = some (.simpleContent "string"
    [⟨"action", "ActionAttributeType", false, none⟩, ⟨"hashdate", "dateTime", false, none⟩,
     ⟨"structure", "string", false, none⟩]) :=
  lookupType_of_getElem? directory_names_nodup 4 rfl

theorem directory_table : TableOk directorySchema := tableOk_spec (by decide +kernel)

theorem chain_entry_valid (c : XChainEntry) (h : ChainWf c) : Valid D "HashlistType" (chainEntryElem c) := by
  obtain ⟨hs, hf⟩ := h
  have hpath : Valid D "RelativePathType" (.mk "path" [] c.path []) := (evValid_simple dlk_relpath rfl rfl rfl).valid
  have hc4 : Valid D "HashFormatType" (.mk (c.fmt.getD "c4") [] c.digest []) :=
    (evValid_simpleContent dlk_hashFormat rfl (by show validAttrs D _ [] = true; decide) (dvt_string _)).valid
  refine .seq directory_table dlk_hashlist rfl ?_ rfl (.one rfl hpath (.one hf hc4 .nil))
  refine validAttrs_optAttrs [("sequencenr", c.seq)] (by simp) (by decide) ?_
  simp [attrOk_cons_self, dvt_integer]
  exact fun _ hv => hs.elim hv

theorem directory_valid (cs : List XChainEntry) (hne : cs ≠ []) (h : ∀ c ∈ cs, ChainWf c) :
    Valid D "DirectoryType" (chainToXml cs) :=
  .many cs chainEntryElem directory_table dlk_directory hne fun c hc => ⟨rfl, chain_entry_valid c (h c hc)⟩

end chain

/-- every chain file the tool writes validates against the ASC MHL directory schema -/
theorem chain_valid (cs : List XChainEntry) (hne : cs ≠ []) (h : ∀ c ∈ cs, ChainWf c) :
    validate directorySchema (chainToXml cs) = true :=
  validate_of_valid directory_table rfl (directory_valid cs hne h)

/-- `chain_valid` under the hypotheses as the tool establishes them: the sequence number is the decimal text of a
number, the format is c4, path and digest are present -/
theorem chain_valid' (cs : List XChainEntry) (hne : cs ≠ [])
    (h : ∀ c ∈ cs, (∃ n : Nat, c.seq = some (toString n)) ∧ c.fmt = some "c4" ∧ c.path.isSome ∧ c.digest.isSome) :
    validate directorySchema (chainToXml cs) = true := by
  refine chain_valid cs hne ?_
  intro c hc
  obtain ⟨⟨n, hn⟩, hf, _, _⟩ := h c hc
  exact ⟨by simpa [hn, OptOk] using isInteger_toString n, by simp [hf]⟩

/-! ## sanity on hand-built manifests and on chain files: a valid base line (`base_valid`) and the deviations the
validator rejects (white space in element-only content, `blank_in_hashlist_valid`, is not one of them) -/

def okCreator : Elem :=
  .mk "creatorinfo" [] none [.mk "creationdate" [] (some "2020-01-01T00:00:00+00:00") [], .mk "hostname" [] (some "h") [],
    .mk "tool" [("version", "1.0")] (some "ascmhl") []]

def okProcess : Elem :=
  .mk "processinfo" [] none [.mk "process" [] (some "in-place") [],
    .mk "ignore" [] none [.mk "pattern" [] (some ".DS_Store") []]]

def okHash (kids : List Elem) : Elem := .mk "hash" [] none (.mk "path" [("size", "1")] (some "a.txt") [] :: kids)

def okList (attrs : List (String × String)) (text : Option String) (more : List Elem) : Elem :=
  .mk "hashlist" attrs text ([okCreator, okProcess] ++ more)

/-- the base line and its seven deviations -/
def okDocs : List Elem :=
  let v := [("version", "2.0")]
  let c4 : Elem := .mk "c4" [] (some "c4x") []
  let md5 : Elem := .mk "md5" [] (some "ff") []
  let doc (attrs : List (String × String)) (text : Option String) (kids : List Elem) : Elem :=
    okList attrs text [.mk "hashes" [] none [okHash kids]]
  [doc v none [.mk "c4" [("action", "original")] (some "c4x") [], md5], okList v none [.mk "hashes" [] none []],
   doc v none [md5, md5], doc v none [md5, c4], doc [] none [c4],
   doc v none [.mk "c4" [("action", "new")] (some "c4x") []], doc v (some "x") [c4], doc v (some "\n  ") [c4]]

/-- The verdicts on all of them in ONE evaluation: the documents share nearly all of it (the type look-ups, the
`<creatorinfo>` and `<processinfo>` parts), and the kernel remembers what it has evaluated only within one
declaration. -/
theorem okDocs_verdicts :
    okDocs.map (validate manifestSchema) = [true, false, false, false, false, false, false, true] := by decide +kernel

/-- reading one verdict off a table of verdicts -/
theorem eq_of_map_eq {α β : Type} {f : α → β} {l : List α} {bs : List β} (h : l.map f = bs) (i : Nat) {a : α} {b : β}
    (ha : l[i]? = some a) (hb : bs[i]? = some b) : f a = b := by
  subst h
  simpa [ha] using hb

/-- the base line the negative examples deviate from is VALID -/
theorem base_valid :
    validate manifestSchema (okList [("version", "2.0")] none
      [.mk "hashes" [] none [okHash [.mk "c4" [("action", "original")] (some "c4x") [], .mk "md5" [] (some "ff") []]]])
      = true := eq_of_map_eq okDocs_verdicts 0 rfl rfl

/-- D4a: an empty `<hashes/>` element is invalid -/
theorem empty_hashes_invalid :
    validate manifestSchema (okList [("version", "2.0")] none [.mk "hashes" [] none []]) = false := eq_of_map_eq okDocs_verdicts 1 rfl rfl

/-- D4b: a `<hash>` with two `<md5>` children is invalid -/
theorem double_md5_invalid :
    validate manifestSchema (okList [("version", "2.0")] none
      [.mk "hashes" [] none [okHash [.mk "md5" [] (some "ff") [], .mk "md5" [] (some "ff") []]]]) = false := eq_of_map_eq okDocs_verdicts 2 rfl rfl

/-- formats in the order md5, c4 -/
theorem wrong_order_invalid :
    validate manifestSchema (okList [("version", "2.0")] none
      [.mk "hashes" [] none [okHash [.mk "md5" [] (some "ff") [], .mk "c4" [] (some "c4x") []]]]) = false := eq_of_map_eq okDocs_verdicts 3 rfl rfl

/-- no version attribute -/
theorem no_version_invalid :
    validate manifestSchema (okList [] none
      [.mk "hashes" [] none [okHash [.mk "c4" [] (some "c4x") []]]]) = false := eq_of_map_eq okDocs_verdicts 4 rfl rfl

/-- an action outside the enumeration -/
theorem action_new_invalid :
    validate manifestSchema (okList [("version", "2.0")] none
      [.mk "hashes" [] none [okHash [.mk "c4" [("action", "new")] (some "c4x") []]]]) = false := eq_of_map_eq okDocs_verdicts 5 rfl rfl

/-- character data in an element-only content -/
theorem text_in_hashlist_invalid :
    validate manifestSchema (okList [("version", "2.0")] (some "x")
      [.mk "hashes" [] none [okHash [.mk "c4" [] (some "c4x") []]]]) = false := eq_of_map_eq okDocs_verdicts 6 rfl rfl

/-- … while white space there is fine -/
theorem blank_in_hashlist_valid :
    validate manifestSchema (okList [("version", "2.0")] (some "\n  ")
      [.mk "hashes" [] none [okHash [.mk "c4" [] (some "c4x") []]]]) = true := eq_of_map_eq okDocs_verdicts 7 rfl rfl

/-- a chain entry without c4 (here: with md5 instead; and with nothing at all) -/
theorem chain_without_c4_invalid :
    validate directorySchema (chainToXml [{ seq := some "1", path := some "0001.mhl", fmt := some "md5", digest := some "ff" }])
      = false ∧
    validate directorySchema (.mk "ascmhldirectory" [] none
      [.mk "hashlist" [("sequencenr", "1")] none [.mk "path" [] (some "0001.mhl") []]]) = false := by decide +kernel

/-- an empty chain file is invalid (`chain_valid` needs `cs ≠ []`) -/
theorem empty_chain_invalid : validate directorySchema (chainToXml []) = false := by decide +kernel

/-- a sequence number that is no integer -/
theorem chain_bad_seq_invalid :
    validate directorySchema (chainToXml [{ seq := some "1a", path := some "p", fmt := some "c4", digest := some "c4x" }])
      = false := by decide +kernel

/-! ### sanity on what the WRITER produces: where a condition of `XsdWf` fails (the two extra ones: a directory record
with a size, a root hash with a previous path; directory formats out of order; an empty ignore list) the written file is
invalid, whereas unsorted FILE formats are harmless.  `rich` is the generation of the positive sanity further down; its
variant without e-mail is validated here with the others, in one evaluation. -/

def minimalGen : XGen :=
  { creator := { creationdate := some "2020-01-01T00:00:00Z" }, process := some "in-place", ignore := [".DS_Store"] }

def dt : String := "2020-01-01T00:00:00+00:00"

/-- a rich generation: file record with c4 + md5 + xxh64 (given out of order), directory record, root hash, author with
e-mail, references -/
def rich : XGen :=
  { creator := { creationdate := some dt, hostname := some "h", toolName := some "ascmhl", toolVersion := some "1.0",
                 authors := [{ name := some "A", role := some "DIT", email := some "a@b.c", phone := some "1" },
                             { name := some "B" }],
                 location := some "x", comment := some "y" },
    process := some "in-place",
    rootHash := some { path := ".", isDir := true,
                       entries := [{ fmt := "c4", digest := "c4abc", shash := some "c4s", hashdate := some dt },
                                   { fmt := "xxh64", digest := "00", shash := some "11" }] },
    ignore := [".DS_Store", "ascmhl", "ascmhl/"],
    records := [ { path := "a.txt", size := some 12, lastmod := some dt, prev := some "b.txt",
                   entries := [{ fmt := "xxh64", digest := "0123", action := some "original", hashdate := some dt },
                               { fmt := "c4", digest := "c4x", action := some "verified", hashdate := some dt },
                               { fmt := "md5", digest := "ff", action := some "failed" }] },
                 { path := "d", isDir := true, lastmod := some "2020-01-01T00:00:00.5Z",
                   entries := [{ fmt := "c4", digest := "c4abc", shash := some "c4s", hashdate := some dt },
                               { fmt := "md5", digest := "ee", shash := some "dd" }] },
                 { path := "empty.txt" } ],
    refs := [{ path := some "sub/ascmhl/0001.mhl", c4 := some "c4r" }, {}] }

def sanityGens : List XGen :=
  let e : XEntry := { fmt := "c4", digest := "x" }
  [{ minimalGen with records := [{ path := "d", isDir := true, size := some 0, entries := [e] }] },
   { minimalGen with records := [{ path := "d", isDir := true, size := none, entries := [e] }] },
   { minimalGen with rootHash := some { path := ".", isDir := true, prev := some "old", entries := [e] } },
   { minimalGen with rootHash := some { path := ".", isDir := true, prev := none, entries := [e] } },
   { minimalGen with
      records := [{ path := "d", isDir := true, entries := [{ fmt := "md5", digest := "x" }, { fmt := "c4", digest := "y" }] }] },
   { minimalGen with
      records := [{ path := "f", entries := [{ fmt := "xxh64", digest := "x" }, { fmt := "md5", digest := "x" },
        { fmt := "c4", digest := "y" }] }] },
   { minimalGen with ignore := [] }, minimalGen,
   { rich with creator := { rich.creator with authors := [{ name := some "B", role := some "DIT" }] } }]

/-- the verdicts on what the writer produces for them, in one evaluation (see `okDocs_verdicts`) -/
theorem sanityGens_verdicts : sanityGens.map (fun g => validate manifestSchema (toXml g)) =
    [false, true, false, true, false, true, false, true, true] := by decide +kernel

/-- a directory record with a size: `pathElem` writes `size=`, `DirectoryHashType.path` has no such attribute -/
theorem dir_with_size_invalid :
    validate manifestSchema (toXml { minimalGen with
      records := [{ path := "d", isDir := true, size := some 0, entries := [{ fmt := "c4", digest := "x" }] }] }) = false ∧
    validate manifestSchema (toXml { minimalGen with
      records := [{ path := "d", isDir := true, size := none, entries := [{ fmt := "c4", digest := "x" }] }] }) = true :=
  ⟨eq_of_map_eq sanityGens_verdicts 0 rfl rfl, eq_of_map_eq sanityGens_verdicts 1 rfl rfl⟩

/-- a root hash with a previous path: `dirElem "roothash" false` writes `<previousPath>`, `RootDirectoryHashType` has no
such child -/
theorem root_with_prev_invalid :
    validate manifestSchema (toXml { minimalGen with
      rootHash := some { path := ".", isDir := true, prev := some "old", entries := [{ fmt := "c4", digest := "x" }] } })
      = false ∧
    validate manifestSchema (toXml { minimalGen with
      rootHash := some { path := ".", isDir := true, prev := none, entries := [{ fmt := "c4", digest := "x" }] } })
      = true :=
  ⟨eq_of_map_eq sanityGens_verdicts 2 rfl rfl, eq_of_map_eq sanityGens_verdicts 3 rfl rfl⟩

/-- directory formats that are NOT in order are written as they are, and rejected -/
theorem dir_unsorted_invalid :
    validate manifestSchema (toXml { minimalGen with
      records := [{ path := "d", isDir := true, entries := [{ fmt := "md5", digest := "x" }, { fmt := "c4", digest := "y" }] }] })
      = false := eq_of_map_eq sanityGens_verdicts 4 rfl rfl

/-- … whereas file formats in any order are sorted by the writer, and accepted -/
theorem file_unsorted_valid :
    validate manifestSchema (toXml { minimalGen with
      records := [{ path := "f", entries := [{ fmt := "xxh64", digest := "x" }, { fmt := "md5", digest := "x" },
        { fmt := "c4", digest := "y" }] }] }) = true := eq_of_map_eq sanityGens_verdicts 5 rfl rfl

/-- an empty ignore list is written as `<ignore/>` and rejected -/
theorem empty_ignore_invalid : validate manifestSchema (toXml { minimalGen with ignore := [] }) = false := eq_of_map_eq sanityGens_verdicts 6 rfl rfl

/-- a NON-deterministic schema (it violates "unique particle attribution"): an optional `a` of a type that needs fuel,
followed by a required `a` of any type -/
def ndSchema : Schema :=
  { rootName := "r", rootType := "R",
    types := [("R", .complex (.seq [.elem "a" "T" 0 (some 1), .elem "a" "Any" 1 (some 1)] 1 (some 1)) []),
              ("T", .complex (.seq [.elem "b" "Any" 0 (some 1)] 1 (some 1)) []),
              ("Any", .any)] }

/-- With little fuel the first particle "fails" on the child (out of fuel = no match = skip) and the second one takes
it; with more fuel the first one takes it and the required second one finds nothing.  So "valid with fuel n" does not
imply "valid with fuel n + k", and the lemmas of XsdLemmas.lean are all stated for EVERY sufficiently large fuel. -/
theorem fuel_not_monotone :
    validElem 7 ndSchema "R" (.mk "r" [] none [.mk "a" [] none []]) = true ∧
    validElem 20 ndSchema "R" (.mk "r" [] none [.mk "a" [] none []]) = false := by decide +kernel

/-! ## positive sanity -/

theorem email_ok : matchesPattern emailRe "a@b.c" = true := by
  have hp : parseRegex (emailRe.length + 1) emailRe.toList =
      [(.cls true ['@'], 1, true), (.lit '@', 1, false), (.cls true ['.'], 1, true), (.lit '.', 1, false),
       (.any, 1, true)] := by decide +kernel
  unfold matchesPattern
  rw [hp]
  simp [matchPieces, matchPieces.go, Atom.matches]

theorem rich_wf : XsdWf rich := by
  refine ⟨by decide +kernel, ?_, by decide +kernel, ?_, by decide +kernel, by decide +kernel⟩
  · intro a ha
    simp only [rich, List.mem_cons, List.not_mem_nil, or_false] at ha
    rcases ha with rfl | rfl
    · exact email_ok
    · trivial
  · intro r hr
    have : r = _ := (Option.some.inj hr).symm
    subst this
    decide +kernel

/-- through the theorem -/
theorem rich_valid : validate manifestSchema (toXml rich) = true := manifest_valid rich rich_wf

/-- by evaluation of the generic validator in the kernel (without the e-mail attribute: the pattern matcher
`matchPieces` is defined by well-founded recursion and does not reduce in the kernel) -/
theorem rich_valid_eval :
    validate manifestSchema (toXml { rich with creator := { rich.creator with authors := [{ name := some "B", role := some "DIT" }] } })
      = true := eq_of_map_eq sanityGens_verdicts 8 rfl rfl

/-- the hypotheses of `no_records_valid` / `refs_only_valid` are satisfiable -/
example : XsdWf { minimalGen with refs := [{ path := some "p", c4 := some "c4r" }] } ∧
    ({ minimalGen with refs := [{ path := some "p", c4 := some "c4r" }] } : XGen).records = [] := by
  refine ⟨⟨by decide, by decide, by decide, by decide, by decide, by decide⟩, rfl⟩

example : validate manifestSchema (toXml minimalGen) = true := eq_of_map_eq sanityGens_verdicts 7 rfl rfl

/-- the hypotheses of `chain_valid` / `chain_valid'` are satisfiable -/
def chain2 : List XChainEntry :=
  [{ seq := some (toString 1), path := some "0001_a.mhl", fmt := some "c4", digest := some "c4x" },
   { seq := some (toString 2), path := some "0002_a.mhl", fmt := some "c4", digest := some "c4y" }]

example : validate directorySchema (chainToXml chain2) = true :=
  chain_valid' chain2 (by decide) (by
    intro c hc
    simp only [chain2, List.mem_cons, List.not_mem_nil, or_false] at hc
    rcases hc with rfl | rfl
    · exact ⟨⟨1, rfl⟩, rfl, rfl, rfl⟩
    · exact ⟨⟨2, rfl⟩, rfl, rfl, rfl⟩)

example : validate directorySchema (chainToXml chain2) = true := by decide +kernel

end MhlProps.C11
