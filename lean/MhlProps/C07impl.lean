/-
C07 (refinement) — the directory hashes that `create` RECORDS are the ones the compositional definition specifies.

`create` computes directory hashes the way the tool does: one fold (`createVisit`) over the post-order traversal;
for every visited folder a context `DirCtx` per format is filled with the digests of the visible children in sorted
order — the digest of a file comes out of `sealFile`, the hashes of a sub-folder are popped from the association list
`dirHashes`, where the visit of the sub-folder left them — and the folder's own hashes are appended to `dirHashes`
and recorded in the session (`appendDirHashes`).

The specification `nodeHashes` (MhlModel/DirHash.lean) is a structural recursion over the tree.

Proved here, for every tree, every ignore test, every list of formats, every history, arbitrary `H` and `D`: the fold
over the traversal of a directory `d` found at `here`, started from ANY state whose `dirHashes` has no key at or below
`here`, appends exactly `(here, specified hashes of d)`, one pair per requested format (`createVisit_fold_dirHashes`);
for `createFolder`, the entry of the root folder and the root record in the session carry the specified hashes
(`create_root_hash_is_spec`, `create_root_record`).

No hypothesis on `H`, `D`, the matcher or the history is needed; what IS needed is that sibling names are distinct in
`d` (a file system guarantees it; `fileContent` and `Node.at?` look a child up by name) and that `d` is the node found
at `here` below the root (files are read through the root: `fileContent t (here ++ [name])`).
-/
import MhlProps.Proofs.CreateLemmas
import MhlProps.Proofs.DirHashImplLemmas

namespace MhlProps.C07impl
open MhlModel

/-- the `dirHashes` value the specification assigns to the node `d` located at `here`: for each format, the content
hash and the structure hash of `nodeHashes`; the second component of `specEntry` (DirHashImplLemmas), under the name
the statements of C07impl use -/
def specHashes (env : Env) (hit : RelPath → Bool) (fmts : List String) (here : RelPath) (d : Node) :
    List (String × String × String) :=
  fmts.map fun f => (f, (nodeHashes env.H env.D f hit here d).1, (nodeHashes env.H env.D f hit here d).2)

/-- `seal_file_path` returns, for every requested format, the digest of the file's current content in that format —
whatever the history records for the file (verified, failed, new, original) and whatever the session holds.  This is
the digest `createVisit` puts into the folder's contexts. -/
theorem sealFile_result_digest (H : HashFn) (rootHist : Hist) (s : Session) (file : RelPath) (content : Bytes)
    (requested : List String) (f : String) (hf : f ∈ requested) :
    ∃ ok, (sealFile H rootHist s file content requested).2.find? (fun x => x.1 == f) = some (f, H f content, ok) := by
  rw [sealFile_snd]
  exact sealEntries_res_find _ _ (fun f => H f content) requested f hf

theorem sealEntries_result (gens : List LGen) (p : String) (dig : String → String) (req : List String) :
    (∀ f ∈ req, ∃ ok, (f, dig f, ok) ∈ (sealEntries gens p dig req).2) ∧
    (∀ x ∈ (sealEntries gens p dig req).2, x.2.1 = dig x.1) :=
  ⟨fun f hf => sealEntries_res_mem gens p dig req f hf, sealEntries_res_shape gens p dig req⟩

/-- The refinement in general form, with no assumption on `fmts`: the statement of `foldl_createVisit_dirHashes`
(DirHashImplLemmas) with `specHashes`.  `d` is a directory found at `here` below the root `t`, with
distinct sibling names everywhere in `d`; `st` is ANY state whose `dirHashes` has no key at or below `here`.  Then the
fold of `createVisit` over the traversal of `d` appends to `dirHashes` exactly one entry: `here` with the hashes
`nodeHashes` specifies, for each requested format (repetitions dropped). -/
theorem createVisit_fold_dirHashes_general (env : Env) (t : Node) (rootHist : Hist) (fmts : List String)
    (hit : RelPath → Bool) (here : RelPath) (d : Node) (st : CreateState)
    (hdir : d.isDir = true) (hat : t.at? here = some d) (hnd : d.NamesDistinct)
    (hst : ∀ x ∈ st.dirHashes, ¬ here <+: x.1) :
    ((traverse hit here d).foldl (createVisit env t rootHist fmts false) st).dirHashes =
      st.dirHashes ++ [(here, specHashes env hit (ctxKeys fmts) here d)] :=
  foldl_createVisit_dirHashes env t rootHist fmts hit d hdir here st hat hnd hst

/-- The refinement for duplicate-free formats (then `ctxKeys fmts = fmts`). -/
theorem createVisit_fold_dirHashes (env : Env) (t : Node) (rootHist : Hist) (fmts : List String)
    (hit : RelPath → Bool) (here : RelPath) (d : Node) (st : CreateState)
    (hfm : fmts.Nodup) (hdir : d.isDir = true) (hat : t.at? here = some d) (hnd : d.NamesDistinct)
    (hst : ∀ x ∈ st.dirHashes, ¬ here <+: x.1) :
    ((traverse hit here d).foldl (createVisit env t rootHist fmts false) st).dirHashes =
      st.dirHashes ++ [(here, fmts.map fun f =>
        (f, (nodeHashes env.H env.D f hit here d).1, (nodeHashes env.H env.D f hit here d).2))] := by
  have := createVisit_fold_dirHashes_general env t rootHist fmts hit here d st hdir hat hnd hst
  rwa [ctxKeys_of_nodup fmts hfm] at this

/-- the entry that is appended depends on nothing in the starting state (session, counters, found paths, the other
entries of `dirHashes`), and not on the history either -/
theorem createVisit_fold_independent (env : Env) (t : Node) (rootHist rootHist' : Hist) (fmts : List String)
    (hit : RelPath → Bool) (here : RelPath) (d : Node) (st st' : CreateState)
    (hdir : d.isDir = true) (hat : t.at? here = some d) (hnd : d.NamesDistinct)
    (hst : ∀ x ∈ st.dirHashes, ¬ here <+: x.1) (hst' : ∀ x ∈ st'.dirHashes, ¬ here <+: x.1) :
    ((traverse hit here d).foldl (createVisit env t rootHist fmts false) st).dirHashes.drop st.dirHashes.length =
    ((traverse hit here d).foldl (createVisit env t rootHist' fmts false) st').dirHashes.drop st'.dirHashes.length := by
  rw [createVisit_fold_dirHashes_general env t rootHist fmts hit here d st hdir hat hnd hst,
    createVisit_fold_dirHashes_general env t rootHist' fmts hit here d st' hdir hat hnd hst']
  simp

/-- the formats that get directory hashes are exactly the requested ones: the statement of `mem_ctxKeys`
(DirHashImplLemmas), under the name C07impl is claimed by -/
theorem mem_ctxKeys_iff (fmts : List String) (f : String) : f ∈ ctxKeys fmts ↔ f ∈ fmts := mem_ctxKeys fmts f

theorem specHashes_find (env : Env) (hit : RelPath → Bool) (fmts : List String) (here : RelPath) (d : Node)
    (f : String) (hf : f ∈ fmts) :
    (specHashes env hit (ctxKeys fmts) here d).find? (fun x => x.1 == f) =
      some (f, (nodeHashes env.H env.D f hit here d).1, (nodeHashes env.H env.D f hit here d).2) :=
  find?_keyed (ctxKeys fmts)
    (fun f => ((nodeHashes env.H env.D f hit here d).1, (nodeHashes env.H env.D f hit here d).2)) f
    ((mem_ctxKeys fmts f).2 hf)

/-- the state `createFolder` reaches after the traversal (the `st` of its definition); `cState` of CreateLemmas with
the arguments in another order -/
def createFinalState (env : Env) (t : Node) (o : CreateOpts) (rootHist : Hist) : CreateState :=
  let patterns := setPatterns (latestIgnore rootHist.gens) o.ignoreCli o.ignoreFile
  (traverse (env.hit patterns) [] t).foldl (createVisit env t rootHist (isort strLe o.formats) o.noDirHashes)
    { session := { patterns := patterns } }

/-- the ignore test `createFolder` uses; `cHit` of CreateLemmas with the arguments in another order -/
def createHit (env : Env) (o : CreateOpts) (rootHist : Hist) : RelPath → Bool :=
  env.hit (setPatterns (latestIgnore rootHist.gens) o.ignoreCli o.ignoreFile)

/-- `createFinalState` IS the state of `createFolder`: without rename detection the session that is committed and the
counters that are reported are those of `createFinalState` (`createFolder_eq_gen` of CreateLemmas without `-dr`, in
the vocabulary of this file) -/
theorem createFolder_uses_finalState (env : Env) (t : Node) (o : CreateOpts) (rootHist : Hist)
    (hl : loadHistory t = .ok rootHist) (hdr : o.detectRenaming = false) :
    createFolder env t o =
      let st := createFinalState env t o rootHist
      let hit := createHit env o rootHist
      let notFound := (expectedPaths rootHist).filter fun p => !st.found.contains p
      let missingHist : List RelPath := match rootHist.gens.getLast? with
        | none => []
        | some g => g.gen.refs.filterMap fun ref =>
            let p := (splitPath ref).dropLast.dropLast
            match t.at? p with
            | some n => if n.hist.isSome then none else some p
            | none => some p
      match commit rootHist st.session env.rootName env.stamp "in-place" with
      | .error e => { err := some e }
      | .ok written =>
        let missing := missingAfter hit notFound
        { err := createExit st.failed missing missingHist,
          report := { mismatch := st.mismatch, missing := missing.map posix, renamed := [] },
          written := written } := by
  rw [createFolder_eq_gen env t o rootHist hl, cRen_noDr env t rootHist o hdr]
  rfl

theorem create_root_dirHashes (env : Env) (t : Node) (o : CreateOpts) (rootHist : Hist)
    (hno : o.noDirHashes = false) (hdir : t.isDir = true) (hnd : t.NamesDistinct) :
    (createFinalState env t o rootHist).dirHashes =
      [([], specHashes env (createHit env o rootHist) (ctxKeys (isort strLe o.formats)) [] t)] := by
  unfold createFinalState
  simp only [hno]
  rw [createVisit_fold_dirHashes_general env t rootHist (isort strLe o.formats) _ [] t _ hdir rfl hnd
    (by simp)]
  rfl

/-- The hashes `create` holds for the root folder when the traversal ends — the value `verify -dh` style
look-ups (`alookup []`) see, and the value handed to `appendDirHashes` for the root record — are the specified ones:
for every requested format `f`, the content hash and the structure hash of `nodeHashes … [] t`. -/
theorem create_root_hash_is_spec (env : Env) (t : Node) (o : CreateOpts) (rootHist : Hist)
    (hno : o.noDirHashes = false) (hdir : t.isDir = true) (hnd : t.NamesDistinct)
    (f : String) (hf : f ∈ o.formats) :
    ((alookup ([] : RelPath) (createFinalState env t o rootHist).dirHashes).getD []).find? (fun x => x.1 == f) =
      some (f, (nodeHashes env.H env.D f (createHit env o rootHist) [] t).1,
               (nodeHashes env.H env.D f (createHit env o rootHist) [] t).2) := by
  rw [create_root_dirHashes env t o rootHist hno hdir hnd]
  simp only [alookup, if_true, Option.getD_some]
  exact specHashes_find env _ _ [] t f ((mem_isort strLe o.formats f).2 hf)

/-- the session side: the LAST operation on the session is `appendDirHashes rootHist _ [] hashes` with `hashes` the
specified ones, and hence the list of the root history in the session has a root record, flagged as a directory, whose
entries END with the specified (format, content hash, structure hash) entries.  (That they are ALL its entries needs
that nothing else writes the record "." of the root history's list: for the generation the commit writes on a loaded
history, `SInv.written_dir` in NestedLemmas gives the root hash as exactly these entries.) -/
theorem create_root_record (env : Env) (t : Node) (o : CreateOpts) (rootHist : Hist)
    (hno : o.noDirHashes = false) (hdir : t.isDir = true) (hnd : t.NamesDistinct) :
    let spec := specHashes env (createHit env o rootHist) (ctxKeys (isort strLe o.formats)) [] t
    (∃ s', (createFinalState env t o rootHist).session = appendDirHashes rootHist s' [] spec) ∧
    ∃ r, ((createFinalState env t o rootHist).session.get rootHist.root).rootRec = some r ∧ r.isDir = true ∧
      ∃ pre, r.entries = pre ++ dirEntries spec := by
  intro spec
  have hdh := create_root_dirHashes env t o rootHist hno hdir hnd
  have hsess : ∃ s', (createFinalState env t o rootHist).session = appendDirHashes rootHist s' [] spec := by
    cases t with
    | file n c => simp [Node.isDir] at hdir
    | dir n cs h =>
      -- the last visit is the one of the root folder, and it records what it appends to `dirHashes`
      unfold createFinalState at hdh ⊢
      simp only [hno] at hdh ⊢
      rw [traverse_dir_nodes, List.foldl_append, List.foldl_cons, List.foldl_nil] at hdh ⊢
      exact createVisit_session (pre := []) _ _ _ _ _ _ hdh
  refine ⟨hsess, ?_⟩
  obtain ⟨s', hs'⟩ := hsess
  rw [hs']
  exact appendDirHashes_root_record rootHist s' spec

section Examples

/-- a tree with a nested folder, an ignored file, an ignored folder with content and an empty folder -/
def exTree : Node :=
  .dir "root"
    [ .file "b.txt" [1],
      .dir "sub" [.file "x" [], .dir ".git" [.file "cfg" []] none, .dir "deep" [.file "y" [2]] none] none,
      .dir "A" [] none,
      .file ".DS_Store" [] ] none

def exHit (p : RelPath) : Bool := p.getLast? == some ".DS_Store" || p.getLast? == some ".git"

theorem exTree_distinct : exTree.NamesDistinct := by
  simp [exTree, Node.NamesDistinct, Node.NamesDistinctKids, Node.name]

/-- the hypotheses of the refinement theorem hold at the root of `exTree`, for two formats and the empty state … -/
example (env : Env) (rootHist : Hist) :
    ((traverse exHit [] exTree).foldl (createVisit env exTree rootHist ["md5", "xxh64"] false)
        { session := {} }).dirHashes =
      [([], [("md5", (nodeHashes env.H env.D "md5" exHit [] exTree).1, (nodeHashes env.H env.D "md5" exHit [] exTree).2),
             ("xxh64", (nodeHashes env.H env.D "xxh64" exHit [] exTree).1,
                       (nodeHashes env.H env.D "xxh64" exHit [] exTree).2)])] :=
  createVisit_fold_dirHashes env exTree rootHist ["md5", "xxh64"] exHit [] exTree { session := {} }
    (by decide +kernel) rfl rfl exTree_distinct (by simp)

/-- … and at the nested folder `sub`, from a state that already holds the hashes of an unrelated folder -/
example (env : Env) (rootHist : Hist) (junk : List (String × String × String)) :
    ((traverse exHit ["sub"]
        (.dir "sub" [.file "x" [], .dir ".git" [.file "cfg" []] none, .dir "deep" [.file "y" [2]] none] none)).foldl
        (createVisit env exTree rootHist ["md5"] false)
        { session := {}, dirHashes := [(["A"], junk)] }).dirHashes =
      [(["A"], junk),
       (["sub"], [("md5",
          (nodeHashes env.H env.D "md5" exHit ["sub"]
            (.dir "sub" [.file "x" [], .dir ".git" [.file "cfg" []] none, .dir "deep" [.file "y" [2]] none] none)).1,
          (nodeHashes env.H env.D "md5" exHit ["sub"]
            (.dir "sub" [.file "x" [], .dir ".git" [.file "cfg" []] none, .dir "deep" [.file "y" [2]] none] none)).2)])] :=
  createVisit_fold_dirHashes env exTree rootHist ["md5"] exHit ["sub"] _ _
    (by decide +kernel) rfl (by simp [exTree, Node.at?, findChild, Node.name])
    (by simp [Node.NamesDistinct, Node.NamesDistinctKids, Node.name])
    (by intro x hx; simp only [List.mem_singleton] at hx; subst hx; show ¬ ["sub"] <+: ["A"]; decide +kernel)

/-- the hypothesis on the starting state is NEEDED: a stale entry for a sub-folder in the starting state is picked up
(`alookup` takes the first entry) instead of the hashes the traversal just computed.  Tree: `r/s/` (empty `s`);
the stale entry claims content hash "STALE" for `s`; the content list of `r` then is `["STALE"]`. -/
example :
    let env : Env := { H := fun _ b => toString b.length, D := fun _ s => some s.toUTF8.toList,
                       hit := fun _ _ => false, rootName := "r" }
    let t : Node := .dir "r" [.dir "s" [] none] none
    ((traverse (fun _ => false) [] t).foldl (createVisit env t (.mk [] [] [] false []) ["md5"] false)
        { session := {}, dirHashes := [(["s"], [("md5", "STALE", "STALE")])] }).dirHashes ≠
      [(["s"], [("md5", "STALE", "STALE")])] ++
        [([], [("md5", (nodeHashes env.H env.D "md5" (fun _ => false) [] t).1,
                       (nodeHashes env.H env.D "md5" (fun _ => false) [] t).2)])] := by
  decide +kernel

/-- distinct sibling names are NEEDED: with two entries of the same name the tool-shaped computation reads the first
one twice (`fileContent` goes through the path), the structural specification reads each node -/
example :
    let env : Env :=
      { H := fun _ b => String.singleton (Char.ofNat (97 + (b.foldl (fun a u => 3 * a + u.toNat + 1) 0) % 26)),
        D := fun _ s => some (s.toList.map fun ch => ch.toNat.toUInt8), hit := fun _ _ => false, rootName := "r" }
    let t : Node := .dir "r" [.file "a" [1], .file "a" [2]] none
    ((traverse (fun _ => false) [] t).foldl (createVisit env t (.mk [] [] [] false []) ["md5"] false)
        { session := {} }).dirHashes ≠
      [([], [("md5", (nodeHashes env.H env.D "md5" (fun _ => false) [] t).1,
                     (nodeHashes env.H env.D "md5" (fun _ => false) [] t).2)])] := by
  decide +kernel

/-- `createFolder`: formats given with a repetition and unsorted — the root entry has one pair per format, sorted -/
example (env : Env) (rootHist : Hist) :
    (createFinalState env exTree { formats := ["xxh64", "md5", "xxh64"] } rootHist).dirHashes =
      [([], specHashes env (createHit env { formats := ["xxh64", "md5", "xxh64"] } rootHist)
        ["md5", "xxh64"] [] exTree)] := by
  rw [create_root_dirHashes env exTree _ rootHist rfl rfl exTree_distinct,
    show ctxKeys (isort strLe ["xxh64", "md5", "xxh64"]) = ["md5", "xxh64"] by decide +kernel]

end Examples

end MhlProps.C07impl
