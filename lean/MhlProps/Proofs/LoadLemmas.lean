/-
Loading histories (`checkChain`, `loadOne`, `findChildren`, `loadHistory`).

The chain check is a search for the first faulty entry (`storeFault`).  `findChildren` sorts (name, result) pairs by
name; sorting the children themselves is the same, so whatever the loader collects below a folder is a `flatMap` over
ONE list, `sortNodes cs`.  The loader in closed form: `loadHistory t = ofFaults (allFaults t) (loaded t)`, the first
fault of the tree in walk order or else a pure function of the tree; `findChildren_eq` is the one induction that
follows the `Except` computation.  Faults and loaded histories are maps over the list of `ascmhl` folders in walk
order (`allStores`); every loaded history is built from a folder of the tree.  What the loader cannot see: what
`storeView` leaves out of a store; children without any `ascmhl` folder (`findChildren_filter`: a file removed or
added); an update along a path between trees it cannot tell apart (`LoadSame`; that replacing the content of a file is
one is `loadSame_setContent`, so it does not change what a tree loads as: `loadHistory_setContent_n1`).

Also here, for the modules above: trees without nested histories (`noHist`, `noNested`: they load as the flat history
of the root folder), the chain that belongs to a list of generations (`chainFrom`), `storeAt`, `emptyHist`,
`storeGens`; some members of `Hist` lists (`Hist.all`, `descList_eq`, `buildHist_root`); what the traversal sees after
the content of a file was replaced (`updateAt_setContent`, `visiblePaths_setContentAt`); a tree without `ascmhl` folder
loads as the empty history (`loadHistory_noHist`); the loader fails with a chain error only
(`loadHistory_error_kind`).
-/
import MhlProps.Proofs.TreeEditLemmas

namespace MhlModel

/-! ## the chain check -/

/-- the generation a chain entry names: the first one with that file name -/
def resolve (s : HistStore) (e : ChainEntry) : Option Generation :=
  s.gens.find? (fun g => g.fileName == e.fileName)

/-- one step of `checkChain` (the anonymous function of the fold, named) -/
def chainStep (s : HistStore) (e : ChainEntry) : Except Err Unit :=
  match resolve s e with
  | some g =>
    match g.state with
    | .ok => pure ()
    | .modified => throw errModified
    | .missing => throw errMissingManifest
  | none => throw errMissingManifest

theorem checkChain_eq (s : HistStore) : checkChain s = s.chain.foldlM (fun _ e => chainStep s e) () := rfl

def entryFault (s : HistStore) (e : ChainEntry) : Option Err :=
  match resolve s e with
  | some g =>
    match g.state with
    | .ok => none
    | .modified => some errModified
    | .missing => some errMissingManifest
  | none => some errMissingManifest

theorem chainStep_eq (s : HistStore) (e : ChainEntry) :
    chainStep s e = match entryFault s e with | none => .ok () | some x => .error x := by
  unfold chainStep entryFault
  cases resolve s e with
  | none => rfl
  | some g => cases h : g.state <;> simp [h] <;> rfl

theorem entryFault_none_iff (s : HistStore) (e : ChainEntry) :
    entryFault s e = none ↔ ∃ g, resolve s e = some g ∧ g.state = .ok := by
  unfold entryFault
  cases h : resolve s e with
  | none => simp
  | some g => cases hs : g.state <;> simp [hs]

theorem chainFold_spec (s : HistStore) (l : List ChainEntry) :
    l.foldlM (fun _ e => chainStep s e) () =
      match l.findSome? (entryFault s) with
      | none => .ok ()
      | some x => .error x := by
  induction l with
  | nil => rfl
  | cons e es ih =>
    rw [List.foldlM_cons, chainStep_eq, List.findSome?_cons]
    cases h : entryFault s e with
    | none => exact ih
    | some x => rfl

theorem checkChain_spec (s : HistStore) :
    checkChain s = match s.chain.findSome? (entryFault s) with
      | none => .ok ()
      | some x => .error x := by
  rw [checkChain_eq, chainFold_spec]

/-- the entry the chain holds for a loaded generation -/
def chainEntryOf (g : LGen) : ChainEntry := ⟨g.number, g.gen.fileName⟩

/-- the chain that belongs to the generations `gs`, numbered from `k` -/
def chainFrom (k : Nat) : List Generation → List ChainEntry
  | [] => []
  | g :: gs => ⟨k, g.fileName⟩ :: chainFrom (k + 1) gs

theorem chainFrom_append (k : Nat) (a b : List Generation) :
    chainFrom k (a ++ b) = chainFrom k a ++ chainFrom (k + a.length) b := by
  induction a generalizing k with
  | nil => rfl
  | cons x xs ih =>
    simp only [List.cons_append, chainFrom, ih, List.length_cons]
    rw [show k + 1 + xs.length = k + (xs.length + 1) by omega]

theorem chainFrom_prefix (k : Nat) (a b : List Generation) (h : a <+: b) : chainFrom k a <+: chainFrom k b := by
  obtain ⟨c, rfl⟩ := h
  rw [chainFrom_append]
  exact List.prefix_append _ _

theorem chainFrom_length (k : Nat) (a : List Generation) : (chainFrom k a).length = a.length := by
  induction a generalizing k with
  | nil => rfl
  | cons x xs ih => simp [chainFrom, ih]

theorem chainFrom_seq (k : Nat) (a : List Generation) : (chainFrom k a).map (·.seq) = List.range' k a.length := by
  induction a generalizing k with
  | nil => rfl
  | cons x xs ih => simp [chainFrom, ih, List.range'_succ]

theorem chainFrom_names (k : Nat) (a : List Generation) :
    (chainFrom k a).map (·.fileName) = a.map (·.fileName) := by
  induction a generalizing k with
  | nil => rfl
  | cons x xs ih => simp [chainFrom, ih]

theorem map_chainEntryOf (l : List LGen) (k n : Nat) (h : l.map (·.number) = List.range' k n) :
    l.map chainEntryOf = chainFrom k (l.map (·.gen)) := by
  induction l generalizing k n with
  | nil => rfl
  | cons x xs ih =>
    cases n with
    | zero => simp at h
    | succ m =>
      rw [List.range'_succ] at h
      simp only [List.map_cons, List.cons.injEq] at h
      simp only [List.map_cons, chainFrom, ih (k + 1) m h.2, chainEntryOf, h.1]

/-! ## `checkStore`, `loadOne` -/

/-- what is wrong with a store (independent of where it is and of its children) -/
def storeFault : Option HistStore → Option Err
  | none => none
  | some s => if !s.chainPresent then some errNoChain else s.chain.findSome? (entryFault s)

theorem checkStore_spec (store : Option HistStore) :
    checkStore store = match storeFault store with
      | some x => .error x
      | none => .ok () := by
  cases store with
  | none => rfl
  | some s =>
    unfold checkStore storeFault
    cases hc : s.chainPresent with
    | false => simp [hc]; rfl
    | true =>
      simp only [hc, Bool.not_true, Bool.false_eq_true, if_false]
      rw [checkChain_spec]
      cases s.chain.findSome? (entryFault s) <;> rfl

theorem loadOne_spec (here : RelPath) (store : Option HistStore) (kids : List Hist) :
    loadOne here store kids =
      match storeFault store with
      | some x => .error x
      | none => .ok (buildHist here store kids) := by
  unfold loadOne
  rw [checkStore_spec]
  cases storeFault store <;> rfl

theorem storeFault_eq_none (s : HistStore) :
    storeFault (some s) = none ↔ s.chainPresent = true ∧ ∀ e ∈ s.chain, entryFault s e = none := by
  unfold storeFault
  cases h : s.chainPresent <;> simp [h]

theorem checkStore_ok_iff (o : Option HistStore) : checkStore o = .ok () ↔ storeFault o = none := by
  rw [checkStore_spec]
  cases storeFault o <;> simp

theorem storeFault_kind (o : Option HistStore) (e : Err) (h : storeFault o = some e) :
    e = errModified ∨ e = errMissingManifest ∨ e = errNoChain := by
  cases o with
  | none => simp [storeFault] at h
  | some s =>
    unfold storeFault at h
    cases hc : s.chainPresent with
    | false => simp [hc] at h; exact Or.inr (Or.inr h.symm)
    | true =>
      simp only [hc, Bool.not_true, Bool.false_eq_true, if_false] at h
      obtain ⟨c, _, hc⟩ := List.exists_of_findSome?_eq_some h
      unfold entryFault at hc
      split at hc
      · split at hc
        · cases hc
        · cases hc; exact Or.inl rfl
        · cases hc; exact Or.inr (Or.inl rfl)
      · cases hc; exact Or.inr (Or.inl rfl)

/-- the error of an `Except` -/
def exceptErr {ε α : Type} : Except ε α → Option ε
  | .error e => some e
  | .ok _ => none

@[simp] theorem exceptErr_error {ε α : Type} (e : ε) : exceptErr (Except.error e : Except ε α) = some e := rfl
@[simp] theorem exceptErr_ok {ε α : Type} (a : α) : exceptErr (Except.ok a : Except ε α) = none := rfl

theorem exceptErr_eq_some {ε α : Type} (x : Except ε α) (e : ε) : exceptErr x = some e ↔ x = .error e := by
  cases x <;> simp [exceptErr]

theorem exceptErr_eq_none {ε α : Type} (x : Except ε α) : exceptErr x = none ↔ ∃ a, x = .ok a := by
  cases x <;> simp [exceptErr]

theorem loadOne_err (here : RelPath) (store : Option HistStore) (kids : List Hist) :
    exceptErr (loadOne here store kids) = storeFault store := by
  rw [loadOne_spec]; cases storeFault store <;> rfl

theorem loadOne_error_iff (here : RelPath) (o : Option HistStore) (kids : List Hist) (x : Err) :
    loadOne here o kids = .error x ↔ storeFault o = some x := by
  rw [← exceptErr_eq_some, loadOne_err]

theorem storeFault_of_loadOne_ok {here : RelPath} {o : Option HistStore} {kids : List Hist} {r : Hist}
    (h : loadOne here o kids = .ok r) : storeFault o = none := by
  rw [← loadOne_err here o kids, h]; rfl

theorem head?_append_of_ne_nil' {α : Type} (l₁ l₂ : List α) (h : l₁ ≠ []) : (l₁ ++ l₂).head? = l₁.head? := by
  cases l₁ with
  | nil => exact absurd rfl h
  | cons a as => rfl

/-! ## what the chain check and the loader see of a store

The chain check sees the stored manifests only through what the chain entries resolve to (`storeFault_congr`): an edit
of the manifests is judged by saying what `resolve` becomes.  The loader sees of an `ascmhl` folder the outcome of that
check, the loaded generations and the chain (`storeView`). -/

theorem storeFault_congr (s s' : HistStore) (hp : s'.chainPresent = s.chainPresent) (hc : s'.chain = s.chain)
    (h : ∀ e ∈ s.chain, resolve s' e = resolve s e) : storeFault (some s') = storeFault (some s) := by
  simp only [storeFault, hp, hc]
  rw [findSome?_congr_mem _ (entryFault s) _ fun e he => by unfold entryFault; rw [h e he]]

def storeView (o : Option HistStore) : Option (Except Err Unit × List LGen × List ChainEntry) :=
  o.map fun s => (checkStore (some s), loadGens s, s.chain)

theorem storeView_some (s s' : HistStore) : storeView (some s') = storeView (some s) ↔
    checkStore (some s') = checkStore (some s) ∧ loadGens s' = loadGens s ∧ s'.chain = s.chain := by
  simp [storeView]

theorem storeView_congr {o o' : Option HistStore} (h : storeView o' = storeView o) :
    checkStore o' = checkStore o ∧ ∀ here kids, buildHist here o' kids = buildHist here o kids := by
  cases o' <;> cases o <;> simp only [storeView, Option.map, reduceCtorEq, Option.some.injEq, Prod.mk.injEq] at h
  · exact ⟨rfl, fun _ _ => rfl⟩
  · exact ⟨h.1, fun _ _ => by simp only [buildHist, h.2.1, h.2.2]⟩

theorem loadHistory_congr_view (nm : String) (cs : List Node) {o o' : Option HistStore}
    (h : storeView o' = storeView o) : loadHistory (.dir nm cs o') = loadHistory (.dir nm cs o) := by
  unfold loadHistory
  simp only [Node.hist, (storeView_congr h).1, (storeView_congr h).2]
  rfl

/-! ## nested histories: all faults in walk order -/

/-- the order of the per-child results: by name -/
abbrev keyLe {β : Type} (a b : String × β) : Bool := strLe a.1 b.1

theorem flatMap_isort_nil {β : Type} (l : List (String × List β)) (h : ∀ x ∈ l, x.2 = []) :
    (isort keyLe l).flatMap (·.2) = [] := by
  rw [List.flatMap_eq_nil_iff]
  intro x hx
  exact h x ((mem_isort _ _ _).1 hx)

/-- a single faulty child among fault-free siblings: its faults are those of the folder, wherever it is listed -/
theorem flatMap_isort_single {β : Type} (pre post : List (String × List β)) (p : String × List β)
    (hpre : ∀ x ∈ pre, x.2 = []) (hpost : ∀ x ∈ post, x.2 = []) :
    (isort keyLe (pre ++ p :: post)).flatMap (·.2) = p.2 :=
  flatMap_single (·.2) p _ (pre ++ post) ((isort_perm _ _).trans List.perm_middle)
    fun x hx => (List.mem_append.1 hx).elim (hpre x) (hpost x)

mutual
/-- the faults of the histories strictly below a node, in the order `findChildren` reports them (= the walk order of
the tool): children in NAME order (stable for equal names), for each child first its own store, then what is
below it -/
def nestedFaults : Node → List Err
  | .file _ _ => []
  | .dir _ cs _ => (isort keyLe (nestedFaultsList cs)).flatMap (·.2)
def nestedFaultsList : List Node → List (String × List Err)
  | [] => []
  | c :: cs => (c.name, (storeFault c.hist).toList ++ nestedFaults c) :: nestedFaultsList cs
end

/-- all faults of a tree in the order `loadHistory` reports them: the root's own store first, then the nested
histories in walk order -/
def allFaults (t : Node) : List Err := (storeFault t.hist).toList ++ nestedFaults t

theorem allFaults_eq (t : Node) : allFaults t = (storeFault t.hist).toList ++ nestedFaults t := rfl

theorem nestedFaultsList_eq_map (cs : List Node) :
    nestedFaultsList cs = cs.map fun c => (c.name, (storeFault c.hist).toList ++ nestedFaults c) := by
  induction cs with
  | nil => rfl
  | cons c cs ih => simp [nestedFaultsList, ih]

theorem nestedFaultsList_append (l₁ l₂ : List Node) :
    nestedFaultsList (l₁ ++ l₂) = nestedFaultsList l₁ ++ nestedFaultsList l₂ := by
  simp [nestedFaultsList_eq_map]

theorem nestedFaults_dir (n : String) (cs : List Node) (h : Option HistStore) :
    nestedFaults (.dir n cs h) = (isort keyLe (cs.map fun c => (c.name, allFaults c))).flatMap (·.2) := by
  rw [nestedFaults, nestedFaultsList_eq_map]; rfl

/-! ## the children of a folder in walk order

`findChildren` sorts (name, result) pairs by name.  Sorting the children themselves is the same (`isort_named`), so
what the loader collects below a folder is a plain `flatMap` over ONE list, `sortNodes cs`, whatever is collected. -/

theorem isort_named {β : Type} (F : Node → β) (cs : List Node) :
    isort keyLe (cs.map fun c => (c.name, F c)) = (sortNodes cs).map fun c => (c.name, F c) :=
  isort_map _ keyLe (fun c => (c.name, F c)) (fun _ _ => rfl) cs

theorem mem_sortNodes {cs : List Node} {c : Node} : c ∈ sortNodes cs ↔ c ∈ cs := mem_isort _ _ _

theorem sortNodes_perm (cs : List Node) : (sortNodes cs).Perm cs := isort_perm _ _

theorem sortNodes_eq_of_perm {cs₁ cs₂ : List Node} (hp : cs₁.Perm cs₂) (hnd : (cs₁.map Node.name).Nodup) :
    sortNodes cs₁ = sortNodes cs₂ :=
  isort_key_eq_of_perm Node.name hp hnd

theorem sortNodes_sorted {cs : List Node} (hnd : (cs.map Node.name).Nodup) :
    (sortNodes cs).Pairwise fun a b => a.name ≠ b.name ∧ strLe a.name b.name = true :=
  (List.pairwise_map.1 (((sortNodes_perm cs).map Node.name).nodup_iff.2 hnd)).and (isort_key_sorted Node.name cs)

theorem sortNodes_filter (p : Node → Bool) {cs : List Node} (hnd : (cs.map Node.name).Nodup) :
    sortNodes (cs.filter p) = (sortNodes cs).filter p := by
  rw [← isort_of_sorted _ ((sortNodes cs).filter p) ((isort_key_sorted Node.name cs).filter p)]
  exact isort_key_eq_of_perm Node.name ((sortNodes_perm cs).filter p).symm (hnd.sublist (List.filter_sublist.map _))

theorem nestedFaults_sortNodes (n : String) (cs : List Node) (h : Option HistStore) :
    nestedFaults (.dir n cs h) = (sortNodes cs).flatMap allFaults := by
  rw [nestedFaults_dir, isort_named, List.flatMap_map]

theorem allFaults_dir_nil (n : String) (cs : List Node) (h : Option HistStore) (hroot : storeFault h = none)
    (hkids : ∀ c ∈ cs, allFaults c = []) : allFaults (.dir n cs h) = [] := by
  rw [allFaults_eq, Node.hist, hroot, nestedFaults_sortNodes]
  exact List.flatMap_eq_nil_iff.2 fun c hc => hkids c (mem_sortNodes.1 hc)

theorem allFaults_nil_kids (nm : String) (cs : List Node) (h : Option HistStore)
    (hnil : allFaults (.dir nm cs h) = []) : storeFault h = none ∧ ∀ c ∈ cs, allFaults c = [] := by
  rw [allFaults_eq, List.append_eq_nil_iff, nestedFaults_sortNodes, List.flatMap_eq_nil_iff] at hnil
  exact ⟨by cases hs : storeFault h <;> simp_all [Node.hist], fun c hc => hnil.2 c (mem_sortNodes.2 hc)⟩

/-! ## the loader in closed form

`findChildren` / `loadHistory` fail with the first fault of the tree in walk order (`nestedFaults` / `allFaults`) and
otherwise return a pure function of the tree (`nestedHists` / `loaded`).  `findChildren_eq` is the one induction that
follows the `Except` computation; everything else about the loader is a statement about one of the pure functions. -/

/-- what one child contributes to `findChildrenList`: its name and the child histories found at or below it, or the
first problem there (the anonymous `match` of `findChildrenList`) -/
def childPair (here : RelPath) (c : Node) : String × Except Err (List Hist) :=
  (c.name,
    match c.hist with
    | some s => do
      checkStore (some s)
      let kids ← findChildren (here ++ [c.name]) c
      pure [buildHist (here ++ [c.name]) (some s) kids]
    | none => findChildren (here ++ [c.name]) c)

theorem findChildrenList_eq_map (here : RelPath) (cs : List Node) :
    findChildrenList here cs = cs.map (childPair here) := by
  induction cs with
  | nil => rw [findChildrenList]; rfl
  | cons c cs ih => rw [findChildrenList, ih]; rfl

theorem findChildren_dir (here : RelPath) (n : String) (cs : List Node) (h : Option HistStore) :
    findChildren here (.dir n cs h) =
      ((isort (fun (a b : String × Except Err (List Hist)) => strLe a.1 b.1) (cs.map (childPair here))).mapM
        fun (x : String × Except Err (List Hist)) => x.2).map List.flatten := by
  rw [findChildren, findChildrenList_eq_map]

/-- fail with the first fault, or return `v` if there is none -/
def ofFaults {α : Type} (fs : List Err) (v : α) : Except Err α :=
  match fs.head? with
  | some e => .error e
  | none => .ok v

theorem ofFaults_nil {α : Type} (v : α) : ofFaults [] v = .ok v := rfl

theorem exceptErr_ofFaults {α : Type} (fs : List Err) (v : α) : exceptErr (ofFaults fs v) = fs.head? := by
  cases fs <;> rfl

theorem ofFaults_eq_ok {α : Type} (fs : List Err) (v w : α) : ofFaults fs v = .ok w ↔ fs = [] ∧ w = v := by
  cases fs <;> simp [ofFaults, eq_comm]

theorem ofFaults_map {α β : Type} (fs : List Err) (v : α) (F : α → β) :
    (ofFaults fs v).map F = ofFaults fs (F v) := by
  cases fs <;> rfl

/-- a check, then a sub-computation, then a pure step: the faults are met in that order -/
theorem ofFaults_seq {α β : Type} (f₁ f₂ : List Err) (v : α) (F : α → β) :
    (do ofFaults f₁ (); let k ← ofFaults f₂ v; pure (F k)) = ofFaults (f₁ ++ f₂) (F v) := by
  cases f₁ <;> cases f₂ <;> rfl

theorem checkStore_eq (o : Option HistStore) : checkStore o = ofFaults (storeFault o).toList () := by
  rw [checkStore_spec]; cases storeFault o <;> rfl

/-- `mapM` stops at the first error: the first non-empty `F a` is that error; without one the values are collected -/
theorem mapM_ofFaults {α β : Type} (key : α → String) (F : α → List Err) (V : α → List β) (L : List α) :
    ((L.map fun a => (key a, ofFaults (F a) (V a))).mapM fun (x : String × Except Err (List β)) => x.2).map
        List.flatten = ofFaults (L.flatMap F) (L.flatMap V) := by
  induction L with
  | nil => rfl
  | cons a L ih =>
    rw [List.map_cons, List.mapM_cons, List.flatMap_cons, List.flatMap_cons]
    cases hF : F a with
    | cons e es => rfl
    | nil =>
      simp only [ofFaults_nil, List.nil_append]
      revert ih
      cases (L.map fun a => (key a, ofFaults (F a) (V a))).mapM (fun (x : String × Except Err (List β)) => x.2) <;>
        cases hS : L.flatMap F <;> simp [ofFaults, Except.map, bind, Except.bind, pure, Except.pure]

mutual
/-- the nested histories `findChildren here` returns on a tree without faults, in the order it returns them -/
def nestedHists (here : RelPath) : Node → List Hist
  | .file _ _ => []
  | .dir _ cs _ => (isort keyLe (nestedHistsList here cs)).flatMap (·.2)
def nestedHistsList (here : RelPath) : List Node → List (String × List Hist)
  | [] => []
  | c :: cs =>
    (c.name, match c.hist with
      | some s => [buildHist (here ++ [c.name]) (some s) (nestedHists (here ++ [c.name]) c)]
      | none => nestedHists (here ++ [c.name]) c) :: nestedHistsList here cs
end

/-- the histories found AT or below the node whose path is `p`: its own history above those nested in it, or just
those if it has no `ascmhl` folder -/
def histsAt (p : RelPath) (c : Node) : List Hist :=
  match c.hist with
  | some s => [buildHist p (some s) (nestedHists p c)]
  | none => nestedHists p c

theorem histsAt_none {p : RelPath} {c : Node} (h : c.hist = none) : histsAt p c = nestedHists p c := by
  rw [histsAt, h]

theorem histsAt_some {p : RelPath} {c : Node} {s : HistStore} (h : c.hist = some s) :
    histsAt p c = [buildHist p (some s) (nestedHists p c)] := by
  rw [histsAt, h]

theorem nestedHists_dir (here : RelPath) (n : String) (cs : List Node) (h : Option HistStore) :
    nestedHists here (.dir n cs h) =
      (isort keyLe (cs.map fun c => (c.name, histsAt (here ++ [c.name]) c))).flatMap (·.2) := by
  rw [nestedHists]
  congr 2
  induction cs with
  | nil => rfl
  | cons c cs ih => rw [nestedHistsList, ih]; rfl

theorem nestedHists_sortNodes (here : RelPath) (n : String) (cs : List Node) (h : Option HistStore) :
    nestedHists here (.dir n cs h) = (sortNodes cs).flatMap fun c => histsAt (here ++ [c.name]) c := by
  rw [nestedHists_dir, isort_named, List.flatMap_map]

theorem nestedHists_dir_hist (p : RelPath) (n : String) (cs : List Node) (h h' : Option HistStore) :
    nestedHists p (.dir n cs h) = nestedHists p (.dir n cs h') := by rw [nestedHists_dir, nestedHists_dir]

/-- what `loadHistory` returns on a tree without faults -/
def loaded (t : Node) : Hist := buildHist [] t.hist (nestedHists [] t)

theorem childPair_eq_of (here : RelPath) (c : Node)
    (ih : findChildren (here ++ [c.name]) c = ofFaults (nestedFaults c) (nestedHists (here ++ [c.name]) c)) :
    childPair here c = (c.name, ofFaults (allFaults c) (histsAt (here ++ [c.name]) c)) := by
  unfold childPair histsAt allFaults
  rw [ih]
  refine congrArg (Prod.mk c.name) ?_
  cases c.hist with
  | none => rfl
  | some s => dsimp only; rw [checkStore_eq]; exact ofFaults_seq _ _ _ _

theorem findChildren_eq (t : Node) : ∀ here, findChildren here t = ofFaults (nestedFaults t) (nestedHists here t) := by
  induction t using Node.induct with
  | file n c => intro here; rfl
  | dir n cs h ih =>
    intro here
    rw [findChildren_dir, nestedHists_sortNodes, nestedFaults_sortNodes,
      List.map_congr_left fun c hc => childPair_eq_of here c (ih c hc _), isort_named]
    exact mapM_ofFaults _ _ _ _

theorem childPair_eq (here : RelPath) (c : Node) :
    childPair here c = (c.name, ofFaults (allFaults c) (histsAt (here ++ [c.name]) c)) :=
  childPair_eq_of here c (findChildren_eq c _)

theorem findChildren_perm_top (here : RelPath) (n : String) {cs₁ cs₂ : List Node} (h : Option HistStore)
    (hp : cs₁.Perm cs₂) (hnd : (cs₁.map Node.name).Nodup) :
    findChildren here (.dir n cs₁ h) = findChildren here (.dir n cs₂ h) := by
  rw [findChildren_eq, findChildren_eq, nestedFaults_sortNodes, nestedFaults_sortNodes, nestedHists_sortNodes,
    nestedHists_sortNodes, sortNodes_eq_of_perm hp hnd]

theorem loadHistory_eq (t : Node) : loadHistory t = ofFaults (allFaults t) (loaded t) := by
  unfold loadHistory
  rw [checkStore_eq, findChildren_eq]
  exact ofFaults_seq _ _ _ _

theorem findChildren_err (here : RelPath) (t : Node) : exceptErr (findChildren here t) = (nestedFaults t).head? := by
  rw [findChildren_eq, exceptErr_ofFaults]

theorem findChildrenList_err (here : RelPath) : (cs : List Node) →
    (findChildrenList here cs).map (fun x => (x.1, exceptErr x.2)) =
      (nestedFaultsList cs).map (fun x => (x.1, x.2.head?)) := by
  intro cs
  rw [findChildrenList_eq_map, nestedFaultsList_eq_map, List.map_map, List.map_map]
  exact List.map_congr_left fun c _ => by
    simp only [Function.comp, childPair_eq, exceptErr_ofFaults]; rfl

theorem loadHistory_err (t : Node) : exceptErr (loadHistory t) = (allFaults t).head? := by
  rw [loadHistory_eq, exceptErr_ofFaults]

theorem loadHistory_eq_ok (t : Node) (h : Hist) : loadHistory t = .ok h ↔ allFaults t = [] ∧ h = loaded t := by
  rw [loadHistory_eq, ofFaults_eq_ok]

theorem loadHistory_ok_eq (t : Node) (h : Hist) (hl : loadHistory t = .ok h) :
    ∃ kids, findChildren [] t = .ok kids ∧ h = buildHist [] t.hist kids := by
  obtain ⟨h0, rfl⟩ := (loadHistory_eq_ok t h).1 hl
  refine ⟨nestedHists [] t, ?_, rfl⟩
  rw [findChildren_eq, (List.append_eq_nil_iff.1 h0).2]; rfl

theorem loadHistory_root (t : Node) (rootHist : Hist) (hl : loadHistory t = .ok rootHist) : rootHist.root = [] := by
  obtain ⟨kids, -, rfl⟩ := loadHistory_ok_eq t rootHist hl
  unfold buildHist
  split <;> rfl

/-! ## trees without nested histories -/

mutual
/-- no `ascmhl` folder at or below the node -/
def noHist : Node → Bool
  | .file _ _ => true
  | .dir _ cs h => h.isNone && noHistList cs
def noHistList : List Node → Bool
  | [] => true
  | c :: cs => noHist c && noHistList cs
end

theorem noHistList_iff (cs : List Node) : noHistList cs = true ↔ ∀ c ∈ cs, noHist c = true := by
  induction cs with
  | nil => simp [noHistList]
  | cons c cs ih => simp [noHistList, ih]

theorem noHist_closed (t : Node) : noHist t = true → allFaults t = [] ∧ ∀ p, histsAt p t = [] := by
  induction t using Node.induct with
  | file n c => intro _; exact ⟨rfl, fun _ => rfl⟩
  | dir n cs h ih =>
    intro hn
    simp only [noHist, Bool.and_eq_true, Option.isNone_iff_eq_none, noHistList_iff] at hn
    obtain ⟨rfl, hcs⟩ := hn
    refine ⟨allFaults_dir_nil n cs none rfl fun c hc => (ih c hc (hcs c hc)).1, fun p => ?_⟩
    show nestedHists p _ = []
    rw [nestedHists_sortNodes]
    exact List.flatMap_eq_nil_iff.2 fun c hc => (ih c (mem_sortNodes.1 hc) (hcs c (mem_sortNodes.1 hc))).2 _

theorem allFaults_nil_of_noHist {pre post : List Node} (hpre : ∀ c ∈ pre, noHist c = true)
    (hpost : ∀ c ∈ post, noHist c = true) : ∀ y ∈ pre ++ post, allFaults y = [] :=
  fun y hy => (noHist_closed y ((List.mem_append.1 hy).elim (hpre y) (hpost y))).1

theorem nestedFaults_noHist : (t : Node) → noHist t = true → nestedFaults t = [] ∧ storeFault t.hist = none := by
  intro t h
  have := (noHist_closed t h).1
  rw [allFaults, List.append_eq_nil_iff] at this
  exact ⟨this.2, by cases hs : storeFault t.hist <;> simp_all⟩

theorem nestedFaultsList_noHist (cs : List Node) (hn : noHistList cs = true) :
    ∀ x ∈ nestedFaultsList cs, x.2 = [] := by
  intro x hx
  rw [nestedFaultsList_eq_map] at hx
  obtain ⟨c, hc, rfl⟩ := List.mem_map.1 hx
  exact (noHist_closed c ((noHistList_iff cs).1 hn c hc)).1

/-- the loader sees only the children that hold an `ascmhl` folder somewhere: the others (files among them) may be
left out -/
theorem findChildren_filter (here : RelPath) (n : String) (cs : List Node) (h : Option HistStore) (p : Node → Bool)
    (hnd : (cs.map Node.name).Nodup) (hp : ∀ c ∈ cs, p c = false → noHist c = true) :
    findChildren here (.dir n (cs.filter p) h) = findChildren here (.dir n cs h) := by
  rw [findChildren_eq, findChildren_eq, nestedFaults_sortNodes, nestedFaults_sortNodes, nestedHists_sortNodes,
    nestedHists_sortNodes, sortNodes_filter p hnd,
    flatMap_filter_of_nil fun c hc hpc => (noHist_closed c (hp c (mem_sortNodes.1 hc) hpc)).1,
    flatMap_filter_of_nil fun c hc hpc => (noHist_closed c (hp c (mem_sortNodes.1 hc) hpc)).2 _]

/-- no `ascmhl` folder strictly below the node (the node itself may have one) -/
def noNested : Node → Bool
  | .file _ _ => true
  | .dir _ cs _ => noHistList cs

theorem noHist_parts (c : Node) (h : noHist c = true) : c.hist = none ∧ noNested c = true := by
  cases c with
  | file n b => exact ⟨rfl, rfl⟩
  | dir n cs hs =>
    simp only [noHist, Bool.and_eq_true, Option.isNone_iff_eq_none] at h
    exact ⟨h.1, h.2⟩

theorem findChildren_noNested (t : Node) (here : RelPath) (hn : noNested t = true) :
    findChildren here t = .ok [] := by
  cases t with
  | file _ _ => rfl
  | dir n cs h =>
    have hc := fun c hc => noHist_closed c ((noHistList_iff cs).1 hn c (mem_sortNodes.1 hc))
    rw [findChildren_eq, nestedHists_sortNodes, nestedFaults_sortNodes, List.flatMap_eq_nil_iff.2 fun c h => (hc c h).1,
      List.flatMap_eq_nil_iff.2 fun c h => (hc c h).2 _]
    rfl

theorem findChildrenList_noHist : (cs : List Node) → (here : RelPath) → noHistList cs = true →
    ∀ x ∈ findChildrenList here cs, x.2 = .ok [] := by
  intro cs here hn x hx
  rw [findChildrenList_eq_map] at hx
  obtain ⟨c, hc, rfl⟩ := List.mem_map.1 hx
  obtain ⟨h1, h2⟩ := noHist_closed c ((noHistList_iff cs).1 hn c hc)
  rw [childPair_eq, h1, h2]; rfl

theorem loadHistory_of_noNested (t : Node) (hn : noNested t = true) :
    loadHistory t = (checkStore t.hist).map fun _ => buildHist [] t.hist [] := by
  unfold loadHistory
  rw [findChildren_noNested t [] hn]
  cases checkStore t.hist <;> rfl

theorem loadHistory_noNested (t : Node) (hn : noNested t = true) (hc : checkStore t.hist = .ok ()) :
    loadHistory t = .ok (buildHist [] t.hist []) := by
  rw [loadHistory_of_noNested t hn, hc]; rfl

theorem loadHistory_flat (t : Node) (hn : noNested t = true) (rootHist : Hist)
    (hl : loadHistory t = .ok rootHist) : rootHist.children = [] ∧ rootHist.root = [] := by
  obtain ⟨kids, hk, rfl⟩ := loadHistory_ok_eq t rootHist hl
  rw [findChildren_noNested t [] hn] at hk
  cases hk
  unfold buildHist
  split <;> exact ⟨rfl, rfl⟩

theorem loadHistory_fresh (rn : String) (cs : List Node) (hflat : noNested (.dir rn cs none) = true) :
    loadHistory (.dir rn cs none) = .ok (.mk [] [] [] false []) := by
  rw [loadHistory_of_noNested _ hflat]
  rfl

theorem noNested_root_hist (rn : String) (cs : List Node) (h h' : Option HistStore) :
    noNested (.dir rn cs h) = noNested (.dir rn cs h') := rfl

/-- the history of a folder without `ascmhl` folder -/
def emptyHist : Hist := .mk [] [] [] false []

theorem expectedPaths_emptyHist : expectedPaths emptyHist = [] := rfl

/-- the loaded generations of an `ascmhl` folder (none = no folder) -/
def storeGens (hs : Option HistStore) : List LGen :=
  match hs with
  | none => []
  | some s => loadGens s

/-- its chain entries -/
def storeChain (hs : Option HistStore) : List ChainEntry :=
  match hs with
  | none => []
  | some s => s.chain

theorem buildHist_flat (hs : Option HistStore) :
    buildHist [] hs [] = .mk [] (storeGens hs) (storeChain hs) hs.isSome [] := by
  cases hs <;> rfl

theorem loaded_gens_eq (t : Node) (h : Hist) (hl : loadHistory t = .ok h) : h.gens = storeGens t.hist := by
  obtain ⟨kids, -, rfl⟩ := loadHistory_ok_eq t h hl
  cases t.hist <;> rfl

/-! ## one child at fault -/

theorem nestedFaults_only_child (n : String) (pre post : List Node) (c : Node) (h : Option HistStore)
    (hsib : ∀ y ∈ pre ++ post, allFaults y = []) :
    nestedFaults (.dir n (pre ++ c :: post) h) = allFaults c := by
  have hnil : ∀ l : List Node, (∀ y ∈ l, y ∈ pre ++ post) → ∀ a ∈ nestedFaultsList l, a.2 = [] := by
    intro l hl a ha
    rw [nestedFaultsList_eq_map] at ha
    obtain ⟨y, hy, rfl⟩ := List.mem_map.1 ha
    exact hsib y (hl y hy)
  rw [nestedFaults, nestedFaultsList_append, nestedFaultsList,
    flatMap_isort_single _ _ _ (hnil pre fun _ hy => List.mem_append_left _ hy)
      (hnil post fun _ hy => List.mem_append_right _ hy)]
  rfl

/-! ## the `ascmhl` folders of a tree in walk order: faults and histories as maps over one list -/

/-- the history and all its transitive children, pre-order -/
def Hist.all (h : Hist) : List Hist := h :: allDescendants h

theorem descList_eq (cs : List Hist) : descList cs = cs.flatMap Hist.all := by
  induction cs with
  | nil => simp [descList]
  | cons c cs ih => simp [descList, ih, Hist.all]

theorem descList_singleton (h : Hist) : descList [h] = h :: allDescendants h := by
  simp [descList]

theorem buildHist_root (here : RelPath) (st : Option HistStore) (kids : List Hist) :
    (buildHist here st kids).root = here := by
  unfold buildHist; split <;> rfl

theorem buildHist_children (here : RelPath) (st : Option HistStore) (kids : List Hist) :
    (buildHist here st kids).children = kids := by
  unfold buildHist; split <;> rfl

theorem buildHist_desc (here : RelPath) (st : Option HistStore) (kids : List Hist) :
    allDescendants (buildHist here st kids) = descList kids := by
  unfold buildHist; split <;> rfl

/-- the node's own `ascmhl` folder, if any, under the empty path -/
def ownStore (c : Node) : List (RelPath × HistStore) :=
  match c.hist with
  | some s => [([], s)]
  | none => []

mutual
/-- the `ascmhl` folders strictly below a node with their paths, in the order the loader visits them -/
def walkStores : Node → List (RelPath × HistStore)
  | .file _ _ => []
  | .dir _ cs _ => (isort keyLe (walkStoresList cs)).flatMap (·.2)
def walkStoresList : List Node → List (String × List (RelPath × HistStore))
  | [] => []
  | c :: cs => (c.name, (ownStore c ++ walkStores c).map fun x => (c.name :: x.1, x.2)) :: walkStoresList cs
end

/-- the `ascmhl` folders of a tree, the root's included -/
def allStores (t : Node) : List (RelPath × HistStore) := ownStore t ++ walkStores t

theorem walkStores_sortNodes (n : String) (cs : List Node) (h : Option HistStore) :
    walkStores (.dir n cs h) = (sortNodes cs).flatMap fun c => (allStores c).map fun x => (c.name :: x.1, x.2) := by
  have hl : walkStoresList cs = cs.map fun c => (c.name, (allStores c).map fun x => (c.name :: x.1, x.2)) := by
    induction cs with
    | nil => rfl
    | cons c cs ih => rw [walkStoresList, ih]; rfl
  rw [walkStores, hl, isort_named, List.flatMap_map]

theorem walkStores_ne_nil (t : Node) : ∀ y ∈ walkStores t, y.1 ≠ [] := by
  cases t with
  | file _ _ => intro y hy; cases hy
  | dir n cs h =>
    intro y hy
    rw [walkStores_sortNodes, List.mem_flatMap] at hy
    obtain ⟨c, -, hyc⟩ := hy
    obtain ⟨z, -, rfl⟩ := List.mem_map.1 hyc
    simp

theorem filterMap_ownStore (c : Node) :
    (ownStore c).filterMap (fun x => storeFault (some x.2)) = (storeFault c.hist).toList := by
  unfold ownStore
  cases c.hist with
  | none => rfl
  | some s => cases hs : storeFault (some s) <;> simp [hs]

theorem allFaults_eq_filterMap (t : Node) :
    allFaults t = (allStores t).filterMap fun x => storeFault (some x.2) := by
  induction t using Node.induct with
  | file n c => rfl
  | dir n cs h ih =>
    rw [allFaults, allStores, List.filterMap_append, filterMap_ownStore, nestedFaults_sortNodes, walkStores_sortNodes,
      List.filterMap_flatMap]
    exact congrArg _ (flatMap_congr_mem fun c hc => by rw [ih c (mem_sortNodes.1 hc), List.filterMap_map]; rfl)

theorem allFaults_kind (t : Node) : ∀ e ∈ allFaults t,
    e = errModified ∨ e = errMissingManifest ∨ e = errNoChain := by
  intro e he
  rw [allFaults_eq_filterMap, List.mem_filterMap] at he
  obtain ⟨x, -, hx⟩ := he
  exact storeFault_kind _ e hx

/-- the `Hist.view` of the history loaded from the `ascmhl` folder `x.2` found under the path `x.1` by a walk that
started at `here` -/
def histViewAt (here : RelPath) (x : RelPath × HistStore) : RelPath × List LGen × List ChainEntry × Bool :=
  (here ++ x.1, loadGens x.2, x.2.chain, true)

/-- a history without its children -/
def Hist.view (x : Hist) : RelPath × List LGen × List ChainEntry × Bool := (x.root, x.gens, x.chain, x.folderExists)

theorem Hist.eq_buildHist {x : Hist} {p : RelPath} {y : RelPath × HistStore} (h : histViewAt p y = x.view) :
    x = buildHist (p ++ y.1) (some y.2) x.children := by
  cases x
  simp only [Hist.view, histViewAt, Hist.root, Hist.gens, Hist.chain, Hist.folderExists, Prod.mk.injEq] at h
  simp [buildHist, Hist.children, h]

theorem descList_flatMap {α : Type} (L : List α) (f : α → List Hist) :
    descList (L.flatMap f) = L.flatMap fun a => descList (f a) := by
  simp only [descList_eq, List.flatMap_assoc]

theorem descList_histsAt (p : RelPath) (c : Node)
    (ih : (descList (nestedHists p c)).map Hist.view = (walkStores c).map (histViewAt p)) :
    (descList (histsAt p c)).map Hist.view = (allStores c).map (histViewAt p) := by
  rw [allStores, List.map_append, ← ih]
  unfold histsAt ownStore
  cases c.hist with
  | none => rfl
  | some s =>
    simp only [descList, buildHist_desc, List.append_nil, List.map_cons, List.map_nil, List.cons_append,
      List.nil_append]
    congr 1
    simp [Hist.view, histViewAt, buildHist, Hist.root, Hist.gens, Hist.chain, Hist.folderExists]

/-- the nested histories found (all depths, pre-order) are the `ascmhl` folders below the node, one for one and in
walk order, each with its path, its loaded generations and its chain (the children aside, that is all of it) -/
theorem descList_nestedHists (t : Node) : ∀ here,
    (descList (nestedHists here t)).map Hist.view = (walkStores t).map (histViewAt here) := by
  induction t using Node.induct with
  | file n c => intro here; rfl
  | dir n cs h ih =>
    intro here
    rw [nestedHists_sortNodes, walkStores_sortNodes, descList_flatMap, List.map_flatMap, List.map_flatMap]
    refine flatMap_congr_mem fun c hc => ?_
    rw [descList_histsAt _ c (ih c (mem_sortNodes.1 hc) _), List.map_map]
    exact List.map_congr_left fun x _ => by simp [histViewAt]

theorem histsAt_walk (p : RelPath) (c : Node) : ∀ x ∈ descList (histsAt p c),
    ∃ y ∈ allStores c, x = buildHist (p ++ y.1) (some y.2) x.children := by
  intro x hx
  have := List.mem_map_of_mem (f := Hist.view) hx
  rw [descList_histsAt p c (descList_nestedHists c p), List.mem_map] at this
  obtain ⟨y, hy, hv⟩ := this
  exact ⟨y, hy, Hist.eq_buildHist hv⟩

theorem nestedHists_walk (p : RelPath) (t : Node) : ∀ x ∈ descList (nestedHists p t),
    ∃ y ∈ walkStores t, x = buildHist (p ++ y.1) (some y.2) x.children := by
  intro x hx
  have := List.mem_map_of_mem (f := Hist.view) hx
  rw [descList_nestedHists, List.mem_map] at this
  obtain ⟨y, hy, hv⟩ := this
  exact ⟨y, hy, Hist.eq_buildHist hv⟩

theorem nestedHists_root_below (p : RelPath) (t : Node) :
    ∀ x ∈ descList (nestedHists p t), p <+: x.root ∧ p.length < x.root.length := by
  intro x hx
  obtain ⟨y, hy, hxy⟩ := nestedHists_walk p t x hx
  rw [hxy, buildHist_root, List.length_append]
  exact ⟨List.prefix_append p y.1, Nat.lt_add_of_pos_right (List.length_pos_iff.2 (walkStores_ne_nil t y hy))⟩

theorem nestedHists_root_ne (p : RelPath) (t : Node) : ∀ x ∈ descList (nestedHists p t), x.root ≠ p :=
  fun x hx he => Nat.lt_irrefl _ (he ▸ (nestedHists_root_below p t x hx).2)

theorem histsAt_root_prefix (p : RelPath) (c : Node) : ∀ x ∈ descList (histsAt p c), p <+: x.root := by
  intro x hx
  obtain ⟨y, -, hxy⟩ := histsAt_walk p c x hx
  rw [hxy, buildHist_root]
  exact List.prefix_append p y.1

/-! ## every loaded history is built from a folder of the tree; trees the loader cannot tell apart -/

/-- the content of the `ascmhl` folder of the folder at path `r` -/
def storeAt (t : Node) (r : RelPath) : Option HistStore := (t.at? r).bind Node.hist

theorem storeAt_eq_some (t : Node) (r : RelPath) (s : HistStore) :
    storeAt t r = some s ↔ ∃ d, t.at? r = some d ∧ d.hist = some s := by
  unfold storeAt
  cases t.at? r <;> simp

theorem storeAt_nil (t : Node) : storeAt t [] = t.hist := by
  unfold storeAt; rw [Node.at?_nil]; rfl

theorem storeAt_dir_cons (nm : String) (cs : List Node) (h : Option HistStore) (n : String) (rest : RelPath) :
    storeAt (.dir nm cs h) (n :: rest) = (findChild cs n).bind fun c => storeAt c rest := by
  unfold storeAt
  rw [Node.at?_dir_cons]
  cases findChild cs n <;> rfl

theorem mem_walkStores_dir {nm : String} {cs : List Node} {h : Option HistStore} {c : Node} (hc : c ∈ cs)
    {y : RelPath × HistStore} (hy : y ∈ allStores c) : (c.name :: y.1, y.2) ∈ walkStores (.dir nm cs h) := by
  rw [walkStores_sortNodes, List.mem_flatMap]
  exact ⟨c, mem_sortNodes.2 hc, List.mem_map.2 ⟨y, hy, rfl⟩⟩

theorem mem_allStores_of_storeAt : ∀ (r : RelPath) (t : Node) (s : HistStore), storeAt t r = some s →
    (r, s) ∈ allStores t
  | [], t, s, h => by
    rw [storeAt_nil] at h
    exact List.mem_append_left _ (by rw [ownStore, h]; exact List.mem_singleton_self _)
  | n :: rest, .file _ _, s, h => by simp [storeAt, Node.at?] at h
  | n :: rest, .dir nm cs st, s, h => by
    rw [storeAt_dir_cons] at h
    cases hc : findChild cs n with
    | none => rw [hc] at h; cases h
    | some c =>
      rw [hc] at h
      have := mem_walkStores_dir (nm := nm) (h := st) (List.mem_of_find?_eq_some hc)
        (mem_allStores_of_storeAt rest c s h)
      rw [(findChild_some hc).2] at this
      exact List.mem_append_right _ this

theorem storeAt_of_mem_allStores (t : Node) : t.NamesDistinct → ∀ x ∈ allStores t, storeAt t x.1 = some x.2 := by
  induction t using Node.induct with
  | file n c => intro _ x hx; simp [allStores, ownStore, walkStores, Node.hist] at hx
  | dir nm cs st ih =>
    intro hd x hx
    rw [Node.namesDistinct_dir] at hd
    rcases List.mem_append.1 hx with hx | hx
    · unfold ownStore at hx
      cases hst : (Node.dir nm cs st).hist with
      | none => rw [hst] at hx; cases hx
      | some s => rw [hst] at hx; rw [List.mem_singleton.1 hx, storeAt_nil, hst]
    · rw [walkStores_sortNodes, List.mem_flatMap] at hx
      obtain ⟨c, hc, hxc⟩ := hx
      obtain ⟨y, hy, rfl⟩ := List.mem_map.1 hxc
      rw [storeAt_dir_cons, findChild_of_mem hd.1 (mem_sortNodes.1 hc)]
      exact ih c (mem_sortNodes.1 hc) (hd.2 c (mem_sortNodes.1 hc)) y hy

theorem storeFault_of_allFaults_nil (t : Node) (hnil : allFaults t = []) (r : RelPath) (s : HistStore)
    (hs : storeAt t r = some s) : storeFault (some s) = none := by
  rw [allFaults_eq_filterMap, List.filterMap_eq_nil_iff] at hnil
  exact hnil _ (mem_allStores_of_storeAt r t s hs)

/-- the histories `hs` found at or below the node `c` (whose path is `P`) and all their descendants are the loaded
stores of folders of `c` -/
def StoresAt (c : Node) (P : RelPath) (hs : List Hist) : Prop :=
  ∀ x ∈ descList hs, ∃ q d s, x.root = P ++ q ∧ c.at? q = some d ∧ d.hist = some s ∧
    x.gens = loadGens s ∧ x.chain = s.chain

theorem findChildren_walk (t : Node) (here : RelPath) (hs : List Hist) (h : findChildren here t = .ok hs) :
    ∀ x ∈ descList hs, ∃ q s kids, x = buildHist (here ++ q) (some s) kids ∧
      (t.NamesDistinct → ∃ d, t.at? q = some d ∧ d.hist = some s) := by
  rw [findChildren_eq, ofFaults_eq_ok] at h
  obtain ⟨-, rfl⟩ := h
  intro x hx
  obtain ⟨y, hy, hxy⟩ := nestedHists_walk here t x hx
  exact ⟨y.1, y.2, _, hxy, fun hd =>
    (storeAt_eq_some _ _ _).1 (storeAt_of_mem_allStores t hd y (List.mem_append_right _ hy))⟩

theorem findChildrenList_walk (cs : List Node) (here : RelPath) :
    ∀ a ∈ findChildrenList here cs, ∃ c ∈ cs, a.1 = c.name ∧ ∀ hs, a.2 = .ok hs →
      ∀ x ∈ descList hs, ∃ q s kids, x = buildHist ((here ++ [c.name]) ++ q) (some s) kids ∧
        (c.NamesDistinct → ∃ d, c.at? q = some d ∧ d.hist = some s) := by
  intro a ha
  rw [findChildrenList_eq_map] at ha
  obtain ⟨c, hc, rfl⟩ := List.mem_map.1 ha
  refine ⟨c, hc, rfl, fun hs hok x hx => ?_⟩
  rw [childPair_eq, ofFaults_eq_ok] at hok
  obtain ⟨-, rfl⟩ := hok
  obtain ⟨y, hy, hxy⟩ := histsAt_walk _ c x hx
  exact ⟨y.1, y.2, _, hxy, fun hd => (storeAt_eq_some _ _ _).1 (storeAt_of_mem_allStores c hd y hy)⟩

theorem findChildrenList_stores : (cs : List Node) → (here : RelPath) → Node.NamesDistinctKids cs →
    ∀ x ∈ findChildrenList here cs, ∃ c ∈ cs, x.1 = c.name ∧ ∀ hs, x.2 = .ok hs → StoresAt c (here ++ [c.name]) hs := by
  intro cs here hd a ha
  obtain ⟨c, hc, hname, hw⟩ := findChildrenList_walk cs here a ha
  refine ⟨c, hc, hname, fun hs hok x hx => ?_⟩
  obtain ⟨q, s, kids, rfl, hat⟩ := hw hs hok x hx
  obtain ⟨d, h1, h2⟩ := hat ((Node.namesDistinctKids_iff cs).1 hd c hc)
  exact ⟨q, d, s, buildHist_root _ _ _, h1, h2, rfl, rfl⟩

/-- every history of a loaded tree holds what `loadGens` reads from one `ascmhl` folder, or nothing (a root folder
without one): what is true of every such list is true of its generations -/
theorem loaded_all_gens {P : List LGen → Prop} (h0 : P []) (hs : ∀ s, P (loadGens s)) (t : Node) (h : Hist)
    (hl : loadHistory t = .ok h) : ∀ x ∈ h.all, P x.gens := by
  obtain ⟨kids, hk, rfl⟩ := loadHistory_ok_eq t h hl
  intro x hx
  rcases List.mem_cons.1 hx with rfl | hx
  · cases t.hist with
    | none => exact h0
    | some s => exact hs s
  · rw [buildHist_desc] at hx
    obtain ⟨q, s, kids', rfl, -⟩ := findChildren_walk t [] kids hk x hx
    exact hs s

theorem loadHistory_stores (t : Node) (h : Hist) (hl : loadHistory t = .ok h) (hd : t.NamesDistinct) :
    ∀ c ∈ allDescendants h, ∃ d s, t.at? c.root = some d ∧ d.hist = some s ∧ c.gens = loadGens s ∧
      c.chain = s.chain := by
  obtain ⟨-, rfl⟩ := (loadHistory_eq_ok t h).1 hl
  intro c hc
  rw [loaded, buildHist_desc] at hc
  obtain ⟨y, hy, hcy⟩ := nestedHists_walk [] t c hc
  obtain ⟨d, h1, h2⟩ := (storeAt_eq_some _ _ _).1 (storeAt_of_mem_allStores t hd y (List.mem_append_right _ hy))
  rw [hcy, buildHist_root]
  exact ⟨d, y.2, h1, h2, rfl, rfl⟩

/-- the loader cannot tell `t'` from `t` -/
structure LoadSame (t t' : Node) : Prop where
  name : t'.name = t.name
  view : storeView t'.hist = storeView t.hist
  kids : ∀ here, findChildren here t' = findChildren here t

theorem LoadSame.loadHistory {t t' : Node} (h : LoadSame t t') : loadHistory t' = loadHistory t := by
  unfold MhlModel.loadHistory
  rw [h.kids, (storeView_congr h.view).1]
  simp only [(storeView_congr h.view).2]

theorem LoadSame.childPair {t t' : Node} (h : LoadSame t t') (here : RelPath) :
    childPair here t' = childPair here t := by
  have hv := h.view
  unfold MhlModel.childPair
  rw [h.name, h.kids]
  -- four cases; with no store on either side `rw` closes the goal by `rfl`
  cases ht' : t'.hist <;> cases ht : t.hist <;> rw [ht', ht] at hv
  · cases hv
  · cases hv
  · simp only [(storeView_congr hv).1, (storeView_congr hv).2]

theorem LoadSame.dir (n : String) (pre : List Node) (c c' : Node) (post : List Node) (h : Option HistStore)
    (hc : LoadSame c c') : LoadSame (.dir n (pre ++ c :: post) h) (.dir n (pre ++ c' :: post) h) :=
  ⟨rfl, rfl, fun here => by
    rw [findChildren_dir, findChildren_dir]
    simp only [List.map_append, List.map_cons, hc.childPair]⟩

theorem LoadSame.updateAt (f : Node → Node) (r : RelPath) (t d : Node) (hd : t.DistinctAlong r)
    (hat : t.at? r = some d) (h : LoadSame d (f d)) : LoadSame t (Node.updateAt f t r) :=
  Node.updateAt_relAt (fun _ => LoadSame) f (fun _ n pre c c' post h _ hc => LoadSame.dir n pre c c' post h hc)
    r [] t d hd hat h

theorem LoadSame.map (n : String) (h : Option HistStore) (cs : List Node) (g : Node → Node)
    (hk : ∀ c ∈ cs, LoadSame c (g c)) : LoadSame (.dir n cs h) (.dir n (cs.map g) h) :=
  ⟨rfl, rfl, fun here => by
    rw [findChildren_dir, findChildren_dir, List.map_map]
    exact congrArg _ (congrArg _ (congrArg _ (List.map_congr_left fun c hc => (hk c hc).childPair here)))⟩

theorem LoadSame.updateAt_all (f : Node → Node) (hf : ∀ d, LoadSame d (f d)) (p : RelPath) (t : Node) :
    LoadSame t (Node.updateAt f t p) :=
  Node.updateAt_rel f (fun _ => ⟨rfl, rfl, fun _ => rfl⟩) LoadSame.map p t (onPath_of_forall _ hf p t)

/-! ## a file removed, a file added: the loader does not see it -/

theorem loadHistory_updateAt_at (f : Node → Node) (hn : ∀ x, (f x).name = x.name) (hh : ∀ x, (f x).hist = x.hist)
    (p : RelPath) (t : Node) (hd : t.NamesDistinct)
    (hf : ∀ d, t.at? p = some d → ∀ here, findChildren here (f d) = findChildren here d) :
    loadHistory (Node.updateAt f t p) = loadHistory t := by
  cases hat : t.at? p with
  | none => rw [Node.updateAt_of_none f p t (hd.distinctAlong p) hat]
  | some d =>
    exact (LoadSame.updateAt f p t d (hd.distinctAlong p) hat ⟨hn d, by rw [hh d], hf d hat⟩).loadHistory

theorem findChildren_removeChild (na : String) (d : Node) (hd : d.NamesDistinct) (nmA : String) (cA : Bytes)
    (ha : d.at? [na] = some (.file nmA cA)) (here : RelPath) :
    findChildren here (removeChild na d) = findChildren here d := by
  cases d with
  | file _ _ => rfl
  | dir nm cs h =>
    rw [Node.namesDistinct_dir] at hd
    refine findChildren_filter here nm cs h _ hd.1 fun c hc hp => ?_
    have hcn : c.name = na := by simpa using hp
    rw [Node.at?_dir_cons, ← hcn, findChild_of_mem hd.1 hc] at ha
    cases (Option.some.inj ha : c = _)
    rfl

theorem findChildren_addChild (nb : String) (c : Bytes) (d : Node) (hd : d.NamesDistinct)
    (hfresh : d.at? [nb] = none) (here : RelPath) :
    findChildren here (addChild (.file nb c) d) = findChildren here d := by
  cases d with
  | file _ _ => rfl
  | dir nm cs h =>
    rw [Node.namesDistinct_dir] at hd
    have hfile : ∀ x : Node, x.isDir = false → noHist x = true := fun x hx => by cases x <;> first | rfl | cases hx
    have hnd : ((cs ++ [Node.file nb c]).map Node.name).Nodup := by
      rw [List.map_append, List.nodup_append]
      refine ⟨hd.1, by simp, fun a ha b hb hab => ?_⟩
      obtain ⟨x, hx, rfl⟩ := List.mem_map.1 ha
      rw [List.mem_singleton.1 hb] at hab
      rw [Node.at?_dir_cons, ← show x.name = nb from hab, findChild_of_mem hd.1 hx] at hfresh
      simp [Node.at?_nil] at hfresh
    -- both folders have the same sub-folders
    rw [addChild, ← findChildren_filter here nm _ h Node.isDir hnd fun x _ => hfile x,
      ← findChildren_filter here nm cs h Node.isDir hd.1 fun x _ => hfile x, List.filter_append,
      show [Node.file nb c].filter Node.isDir = [] from rfl, List.append_nil]

theorem loadHistory_removeAt (T : Node) (hd : T.NamesDistinct) (pa : RelPath) (na nm : String) (c : Bytes)
    (hat : T.at? (pa ++ [na]) = some (.file nm c)) :
    loadHistory (Node.updateAt (removeChild na) T pa) = loadHistory T := by
  refine loadHistory_updateAt_at _ (removeChild_name na) (removeChild_hist na) pa _ hd fun d hdat here => ?_
  apply findChildren_removeChild na d (Node.NamesDistinct.at? _ pa d hd hdat) nm c _ here
  have := Node.at?_append T pa [na]
  rw [hat, hdat] at this
  exact this.symm

theorem loadHistory_addAt (T : Node) (hd : T.NamesDistinct) (pb : RelPath) (nb : String) (c : Bytes)
    (hfresh : T.at? (pb ++ [nb]) = none) :
    loadHistory (Node.updateAt (addChild (.file nb c)) T pb) = loadHistory T := by
  refine loadHistory_updateAt_at _ (addChild_name _) (addChild_hist _) pb _ hd fun d hdat here => ?_
  apply findChildren_addChild nb c d (Node.NamesDistinct.at? _ pb d hd hdat) _ here
  have := Node.at?_append T pb [nb]
  rw [hfresh, hdat] at this
  exact this.symm

/-! ## edits that keep what the loader and the traversal look at -/

/-- replacing the content of a file changes neither which entries are folders, nor where `ascmhl` folders are, nor
what the traversal yields: `Node.updateAt_rel` at the relation of these three facts and the name -/
theorem updateAt_setContent (c' : Bytes) (hit : RelPath → Bool) (p : RelPath) (t : Node) :
    (Node.updateAt (setContent c') t p).isDir = t.isDir ∧
    noHist (Node.updateAt (setContent c') t p) = noHist t ∧
    ∀ here, traverse hit here (Node.updateAt (setContent c') t p) = traverse hit here t :=
  (Node.updateAt_rel (R := fun t t' => t'.name = t.name ∧ t'.isDir = t.isDir ∧ noHist t' = noHist t ∧
      ∀ here, traverse hit here t' = traverse hit here t) (setContent c') (fun _ => ⟨rfl, rfl, rfl, fun _ => rfl⟩)
    (fun n h cs g hk => by
      refine ⟨rfl, rfl, ?_, fun here => ?_⟩
      · rw [noHist, noHist, Bool.eq_iff_iff, Bool.and_eq_true, Bool.and_eq_true, noHistList_iff, noHistList_iff,
          List.forall_mem_map]
        exact and_congr_right fun _ => forall₂_congr fun c hc => by rw [(hk c hc).2.2.1]
      · have hkid : (cs.map g).map (kidOf hit here) = cs.map (kidOf hit here) := by
          rw [List.map_map]
          exact List.map_congr_left fun c hc => by
            obtain ⟨h1, h2, -, h4⟩ := hk c hc
            simp only [Function.comp, kidOf, h1, h2, h4]
        rw [traverse_dir, traverse_dir, visKids, visKids, hkid])
    p t (onPath_of_forall _ (fun d => by
      cases d with
      | file n c => exact ⟨rfl, rfl, rfl, fun here => by rw [setContent, traverse, traverse]⟩
      | dir n cs h => exact ⟨rfl, rfl, rfl, fun _ => rfl⟩) p t)).2

theorem visiblePaths_setContentAt (c' : Bytes) (hit : RelPath → Bool) (p : RelPath) (t : Node) :
    visiblePaths hit (Node.updateAt (setContent c') t p) = visiblePaths hit t := by
  unfold MhlModel.visiblePaths
  rw [(updateAt_setContent c' hit p t).2.2 []]

theorem noNested_kids : KidsProp (fun t => noNested t = true) fun ks => ∀ k ∈ ks, k.2 = none where
  file _ _ := rfl
  dir nm cs h := by
    simp only [noNested, noHistList_iff, List.mem_map, forall_exists_index, and_imp]
    constructor
    · intro hall
      refine ⟨?_, ?_⟩
      · rintro k c hc rfl
        exact (noHist_parts c (hall c hc)).1
      · intro c hc
        exact (noHist_parts c (hall c hc)).2
    · rintro ⟨h1, h2⟩ c hc
      have hh := h1 _ c hc rfl
      have hn := h2 c hc
      cases c with
      | file _ _ => rfl
      | dir n cs' h' =>
        simp only [Node.hist] at hh
        subst hh
        simpa [noHist, noNested] using hn

theorem removeAt_props (na : String) (q : RelPath) (t : Node) :
    (t.NamesDistinct → (Node.updateAt (removeChild na) t q).NamesDistinct) ∧
    (t.NamesOk → (Node.updateAt (removeChild na) t q).NamesOk) ∧
    (noNested t = true → noNested (Node.updateAt (removeChild na) t q) = true) :=
  ⟨namesDistinct_removeAt na q t,
   removeAt_good namesOk_kids (fun _ _ h hn k hk => hn k (h.subset hk)) na q t,
   removeAt_good noNested_kids (fun _ _ h hn k hk => hn k (h.subset hk)) na q t⟩

theorem addAt_props (nb : String) (c : Bytes) (hnb : NameOk nb) (q : RelPath) (t : Node) (hd : t.NamesDistinct)
    (hfresh : t.at? (q ++ [nb]) = none) :
    (Node.updateAt (addChild (.file nb c)) t q).NamesDistinct ∧
    (t.NamesOk → (Node.updateAt (addChild (.file nb c)) t q).NamesOk) ∧
    (noNested t = true → noNested (Node.updateAt (addChild (.file nb c)) t q) = true) := by
  refine ⟨namesDistinct_addAt nb c q t hd hfresh, addAt_good namesOk_kids nb c ?_ q t hd hfresh,
    addAt_good noNested_kids nb c ?_ q t hd hfresh⟩
  · intro ks _ hn k hk
    rcases List.mem_append.1 hk with h1 | h1
    · exact hn k h1
    · rw [List.mem_singleton.1 h1]
      exact hnb
  · intro ks _ hn k hk
    rcases List.mem_append.1 hk with h1 | h1
    · exact hn k h1
    · rw [List.mem_singleton.1 h1]

theorem nestedFaults_hist (nm : String) (cs : List Node) (h h' : Option HistStore) :
    nestedFaults (.dir nm cs h) = nestedFaults (.dir nm cs h') := by
  rw [nestedFaults, nestedFaults]

theorem loadGens_empty : loadGens {} = [] := rfl

theorem setContent_hist (c' : Bytes) (x : Node) : (setContent c' x).hist = x.hist := by
  cases x <;> rfl

theorem loadSame_setContent (c' : Bytes) (d : Node) : LoadSame d (setContent c' d) :=
  ⟨setContent_name c' d, by rw [setContent_hist], fun here => by cases d <;> rfl⟩

theorem loadHistory_setContent_n1 (c' : Bytes) (t : Node) (p : RelPath) :
    loadHistory (Node.updateAt (setContent c') t p) = loadHistory t :=
  (LoadSame.updateAt_all _ (loadSame_setContent c') p t).loadHistory

theorem loadHistory_noHist (t : Node) (hnh : noHist t = true) (hdir : t.isDir = true) :
    loadHistory t = .ok emptyHist := by
  cases t with
  | file n c => simp [Node.isDir] at hdir
  | dir n cs hs =>
    simp only [noHist, Bool.and_eq_true, Option.isNone_iff_eq_none] at hnh
    obtain ⟨rfl, hcs⟩ := hnh
    exact loadHistory_fresh n cs hcs

/-- loading never ends with an internal error: only 31 / 33 / 32 -/
theorem loadHistory_error_kind (t : Node) (e : Err) (h : loadHistory t = .error e) :
    e = errModified ∨ e = errMissingManifest ∨ e = errNoChain := by
  have : (allFaults t).head? = some e := by rw [← loadHistory_err, h]; rfl
  exact allFaults_kind t e (List.mem_of_head? this)

end MhlModel
