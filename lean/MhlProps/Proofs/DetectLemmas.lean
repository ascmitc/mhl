/-
What the double loop of `detectRenames` (`create -dr`) does.

It is one guarded loop over the pairs (new path, not-found path) with the matched step `drHit`.  For ANY session, what
the matched step keeps the loop keeps (`detectRenames_inv`).  On a session keyed by root (`Session.RootsNodup`) the
writes only rewrite previous paths (`Session.withPrev`), which the guard does not read: the result is the matched
step over the pairs that match on the session given (`detectRenames_pairsG`), and on a flat history the session
afterwards is the session given with its previous paths rewritten (`foldl_setPrevOf_withPrev`).

Names: `…B` / `…In` / `…Of` speak of a flat history (`matchesB`, `setPrevIn` with the holder given, `setPrevOf` with the
holder looked up), `…G` / `…H` of one that may have nested histories (`matchesG`, `setPrevG` with the holder given,
`setPrevH` with the holder looked up); names without such a letter (`renamePairs`, `detectRenames_pairs`) are the flat
ones, beside `renamePairsG`, `detectRenames_pairsG`; `setPrevList` is the write to one list that all of them make.
-/
import MhlProps.Proofs.CreateLemmas

namespace MhlModel

/-! ## the inner step in named pieces; what the loop keeps for any session -/

/-- the record of the new path `np` in the session: the first list (in insertion order) whose root is a prefix of
`np` and that has a record for the rest of the path (the anonymous `holder` of `detectRenames`) -/
def holderOf (s : Session) (np : RelPath) : Option (NewList × Record) :=
  s.lists.findSome? fun l =>
    if isPrefixOf l.root np then (l.find (posix (np.drop l.root.length))).map fun r => (l, r) else none

/-- the digest `detectRenames` compares for the new path `np` in format `fmt`: the one its record of this run
carries in that format, else the digest of the content of the file at `np` (nothing if `np` is not a file) -/
def digestFor (env : Env) (t : Node) (np : RelPath) (entries : List Entry) (fmt : String) : Option String :=
  match entries.find? (fun e => e.fmt == fmt) with
  | some e => some e.digest
  | none =>
    match t.at? np with
    | some (.file _ c) => some (env.H fmt c)
    | _ => none

def holderEntries (s : Session) (np : RelPath) : Option (List Entry) := (holderOf s np).map (·.2.entries)

def newDigest (env : Env) (t : Node) (s : Session) (np : RelPath) (fmt : String) : Option String :=
  (holderEntries s np).bind fun es => digestFor env t np es fmt

/-- `newDigest` spelled out: the new path has a record in the session (first list, in insertion order, whose root
is a prefix of the path and that knows the rest of the path), and the digest is the one that record carries in the
format, or — if it carries none in that format — the digest of the content of the FILE at the new path -/
theorem newDigest_eq_some_iff (env : Env) (t : Node) (s : Session) (np : RelPath) (fmt d : String) :
    newDigest env t s np fmt = some d ↔
      ∃ l r, holderOf s np = some (l, r) ∧
        ((∃ e, r.entries.find? (fun e => e.fmt == fmt) = some e ∧ e.digest = d) ∨
         (r.entries.find? (fun e => e.fmt == fmt) = none ∧ ∃ nm c, t.at? np = some (.file nm c) ∧ env.H fmt c = d)) := by
  unfold newDigest holderEntries digestFor
  cases hh : holderOf s np with
  | none => simp
  | some x =>
    obtain ⟨l, r⟩ := x
    simp only [Option.map_some, Option.bind_some, Option.some.injEq, Prod.mk.injEq]
    cases hf : r.entries.find? (fun e => e.fmt == fmt) with
    | some e =>
      simp only [Option.some.injEq]
      constructor
      · intro h; exact ⟨l, r, ⟨rfl, rfl⟩, Or.inl ⟨e, by simpa using hf, h⟩⟩
      · rintro ⟨l', r', ⟨rfl, rfl⟩, h | h⟩
        · obtain ⟨e', he', hd⟩ := h
          rw [hf] at he'
          cases he'
          exact hd
        · rw [hf] at h
          cases h.1
    | none =>
      constructor
      · intro h
        refine ⟨l, r, ⟨rfl, rfl⟩, Or.inr ⟨hf, ?_⟩⟩
        cases hat : t.at? np with
        | none => rw [hat] at h; cases h
        | some n =>
          rw [hat] at h
          cases n with
          | dir _ _ _ => cases h
          | file nm c => exact ⟨nm, c, rfl, by simpa using h⟩
      · rintro ⟨l', r', ⟨rfl, rfl⟩, h | h⟩
        · obtain ⟨e', he', -⟩ := h
          rw [hf] at he'
          cases he'
        · obtain ⟨-, nm, c, hat, hd⟩ := h
          rw [hat]
          simp [hd]

/-- does the pair (new path, not-found path) count as a rename: the first entry recorded for the old path and the
digest of the new path in that entry's format are equal -/
def matchesB (env : Env) (t : Node) (gens : List LGen) (s : Session) (np nf : RelPath) : Bool :=
  match findFirstAny gens (posix nf) with
  | none => false
  | some oldE => newDigest env t s np oldE.fmt == some oldE.digest

def setPrevList (l : NewList) (k old : String) : NewList :=
  { l with records := l.records.map fun x => if x.path == k then { x with prev := some old } else x }

/-- `setPrev` of `detectRenames` on a flat history (there is no parent history, so a root record "." is left
alone): every record of the list `l` with the path of `r` gets the previous path `old`: the list is overwritten with
`setPrevList l r.path old` (`setPrevIn_eq`) -/
def setPrevIn (s : Session) (l : NewList) (r : Record) (old : String) : Session :=
  if r.path == "." then s
  else s.put { l with records := l.records.map fun x => if x.path == r.path then { x with prev := some old } else x }

def setPrevOf (s : Session) (np : RelPath) (old : String) : Session :=
  match holderOf s np with
  | none => s
  | some (l, r) => setPrevIn s l r old

theorem setPrevIn_eq (s : Session) (l : NewList) (r : Record) (old : String) :
    setPrevIn s l r old = if r.path == "." then s else s.put (setPrevList l r.path old) := rfl

/-- the test of `detectRenames` for the pair (new path, not-found path) below a history that may have nested
histories: the not-found path is routed to the history that owns it, then judged as on a flat history -/
def matchesG (env : Env) (t : Node) (rootHist : Hist) (s : Session) (np nf : RelPath) : Bool :=
  matchesB env t (route rootHist nf).1.gens s np (route rootHist nf).2

/-- `setPrev` of `detectRenames`, with nested histories: the root record "." of a nested history is not touched,
the record of the folder in the PARENT history's list is -/
def setPrevG (rootHist : Hist) (s : Session) (l : NewList) (r : Record) (np : RelPath) (old : String) : Session :=
  if r.path == "." then
    match parentRoot rootHist l.root with
    | some pr => s.put (setPrevList (s.get pr) (posix (np.drop pr.length)) old)
    | none => s
  else s.put (setPrevList l r.path old)

def setPrevH (rootHist : Hist) (s : Session) (np : RelPath) (old : String) : Session :=
  match holderOf s np with
  | some (l, r) => setPrevG rootHist s l r np old
  | none => s

def drHit (rootHist : Hist) (np : RelPath) (acc : Session × List RelPath × List (String × String)) (nf : RelPath) :
    Session × List RelPath × List (String × String) :=
  (setPrevH rootHist acc.1 np (posix (route rootHist nf).2), appendNew acc.2.1 nf,
    acc.2.2 ++ [(posix (route rootHist nf).2, posix np)])

def drStepG (env : Env) (t : Node) (rootHist : Hist) (np : RelPath)
    (acc : Session × List RelPath × List (String × String)) (nf : RelPath) :
    Session × List RelPath × List (String × String) :=
  if matchesG env t rootHist acc.1 np nf then drHit rootHist np acc nf else acc

/-- the inner body of `detectRenames` is `drStepG` once the look-ups of the holder and of the digest have names; the
cases of the proof are those of the body: `findFirstAny`, `holderOf`, the entry of the format in the record, the node at
`np` -/
theorem detectRenames_eq_G (env : Env) (t : Node) (rootHist : Hist)
    (s : Session) (newPaths notFound : List RelPath) :
    detectRenames env t rootHist s newPaths notFound =
      newPaths.foldl (fun acc np => notFound.foldl (drStepG env t rootHist np) acc) (s, [], []) := by
  unfold detectRenames
  congr 1
  funext acc np
  congr 1
  funext acc nf
  obtain ⟨s, fo, ren⟩ := acc
  unfold drStepG matchesG matchesB newDigest holderEntries drHit setPrevH
  generalize route rootHist nf = x
  obtain ⟨oh, orel⟩ := x
  simp only
  cases hff : findFirstAny oh.gens (posix orel) with
  | none => simp
  | some oldE =>
    simp only
    change (match holderOf s np with
      | none => (s, fo, ren)
      | some (l, r) => _) = _
    cases hh : holderOf s np with
    | none => simp
    | some x =>
      obtain ⟨l, r⟩ := x
      simp only [Option.map_some, Option.bind_some]
      unfold digestFor setPrevG setPrevList
      cases hfe : r.entries.find? (fun e => e.fmt == oldE.fmt) with
      | some e =>
        by_cases hd : e.digest = oldE.digest
        · simp [hd]
          rfl
        · simp [hd]
      | none =>
        simp only
        cases hat : t.at? np with
        | none => simp
        | some n =>
          cases n with
          | dir _ _ _ => simp
          | file nm c =>
            by_cases hd : env.H oldE.fmt c = oldE.digest
            · simp [hd]
              rfl
            · simp [hd]

theorem matchesG_flat (env : Env) (t : Node) (rootHist : Hist) (hc : rootHist.children = []) (s : Session)
    (np nf : RelPath) : matchesG env t rootHist s np nf = matchesB env t rootHist.gens s np nf := by
  unfold matchesG
  rw [route_flat rootHist hc]

theorem holderOf_mem {s : Session} {np : RelPath} {l : NewList} {r : Record} (h : holderOf s np = some (l, r)) :
    l ∈ s.lists ∧ isPrefixOf l.root np = true ∧ l.find (posix (np.drop l.root.length)) = some r := by
  unfold holderOf at h
  obtain ⟨l', hl', hf⟩ := List.exists_of_findSome?_eq_some h
  by_cases hp : isPrefixOf l'.root np = true
  · simp only [hp, if_true, Option.map_eq_some_iff] at hf
    obtain ⟨r', hr', heq⟩ := hf
    simp only [Prod.mk.injEq] at heq
    obtain ⟨rfl, rfl⟩ := heq
    exact ⟨hl', hp, hr'⟩
  · simp [hp] at hf

theorem setPrevH_flat (rootHist : Hist) (hc : rootHist.children = []) (s : Session) (np : RelPath) (old : String) :
    setPrevH rootHist s np old = setPrevOf s np old := by
  unfold setPrevH setPrevOf
  cases holderOf s np with
  | none => rfl
  | some x => simp only [setPrevG, parentRoot_flat rootHist hc, setPrevIn_eq]

/-- the matched step writes the session only by overwriting a list with itself, previous paths set (`setPrevList`):
a list of the session, or the list of the parent history of the history of one -/
theorem setPrevH_inv {P : Session → Prop} (rootHist : Hist) (s : Session) (np : RelPath) (old : String) (hs : P s)
    (hown : ∀ l ∈ s.lists, ∀ k, P (s.put (setPrevList l k old)))
    (hparent : ∀ l ∈ s.lists, ∀ pr k, parentRoot rootHist l.root = some pr →
      P (s.put (setPrevList (s.get pr) k old))) :
    P (setPrevH rootHist s np old) := by
  unfold setPrevH
  cases hh : holderOf s np with
  | none => exact hs
  | some x =>
    obtain ⟨l, r⟩ := x
    have hl := (holderOf_mem hh).1
    show P (setPrevG rootHist s l r np old)
    unfold setPrevG
    split
    · split
      · next pr hpr => exact hparent l hl pr _ hpr
      · exact hs
    · exact hown l hl _

/-- for any session (keyed by root or not): what the matched step keeps, for a new path and a not-found path of the
lists given, holds of the result -/
theorem detectRenames_inv {P : Session × List RelPath × List (String × String) → Prop} (env : Env) (t : Node)
    (rootHist : Hist) (s : Session) (newPaths notFound : List RelPath)
    (hstep : ∀ acc, ∀ np ∈ newPaths, ∀ nf ∈ notFound, P acc → P (drHit rootHist np acc nf)) (h0 : P (s, [], [])) :
    P (detectRenames env t rootHist s newPaths notFound) := by
  rw [detectRenames_eq_G]
  refine foldl_invariant P _ _ (fun acc np hnp hacc => ?_) _ h0
  refine foldl_invariant P _ _ (fun acc nf hnf hacc => ?_) _ hacc
  unfold drStepG
  split
  · exact hstep acc np hnp nf hnf hacc
  · exact hacc

theorem detectRenames_session_inv {P : Session → Prop} (env : Env) (t : Node) (rootHist : Hist)
    (hown : ∀ (s : Session) (l : NewList) (k old : String), P s → l ∈ s.lists → P (s.put (setPrevList l k old)))
    (hparent : ∀ (s : Session) (l : NewList) (pr : RelPath) (k old : String), P s → l ∈ s.lists →
      parentRoot rootHist l.root = some pr → P (s.put (setPrevList (s.get pr) k old)))
    (s : Session) (newPaths notFound : List RelPath) (hs : P s) :
    P (detectRenames env t rootHist s newPaths notFound).1 :=
  detectRenames_inv (P := fun acc => P acc.1) env t rootHist s newPaths notFound
    (fun acc np _ _ _ hacc => setPrevH_inv rootHist acc.1 np _ hacc (fun l hl k => hown _ l k _ hacc hl)
      fun l hl pr k hpr => hparent _ l pr k _ hacc hl hpr) hs

theorem detectRenames_allRecs {P : RelPath → Record → Prop}
    (hprev : ∀ R (r : Record) old, P R r → P R { r with prev := some old }) (env : Env) (t : Node) (rootHist : Hist)
    {s : Session} (hs : s.AllRecs P) (newPaths notFound : List RelPath) :
    (detectRenames env t rootHist s newPaths notFound).1.AllRecs P := by
  have hset : ∀ (l : NewList) (k old : String), (∀ r ∈ l.records, P l.root r) →
      ∀ r ∈ (setPrevList l k old).records, P l.root r := by
    intro l k old hl r hr
    obtain ⟨r0, hr0, rfl⟩ := List.mem_map.1 hr
    split
    · exact hprev _ _ _ (hl r0 hr0)
    · exact hl r0 hr0
  exact detectRenames_session_inv env t rootHist
    (fun _ l k old hP hl => hP.put _ (hset l k old (hP l hl)))
    (fun s' _ pr k old hP _ _ => hP.put _ (hset _ k old (by rw [Session.get_root]; exact hP.get pr)))
    s newPaths notFound hs

theorem detectRenames_patterns (env : Env) (t : Node) (h : Hist) (s : Session) (newPaths notFound : List RelPath) :
    (detectRenames env t h s newPaths notFound).1.patterns = s.patterns :=
  detectRenames_session_inv (P := fun s' => s'.patterns = s.patterns) env t h
    (fun _ _ _ _ hP _ => (Session.put_patterns _ _).trans hP)
    (fun _ _ _ _ _ hP _ _ => (Session.put_patterns _ _).trans hP)
    s newPaths notFound rfl

/-! ## previous paths rewritten, previous paths erased -/

def NewList.withPrev (l : NewList) (f : Record → Option String) : NewList :=
  { l with records := l.records.map fun r => { r with prev := f r } }

/-- the session with the previous path of every record set to `f` of the root of its list and the record: all that
a run of `setPrevOf` does to a session keyed by root (`foldl_setPrevOf_withPrev`) -/
def Session.withPrev (s : Session) (f : RelPath → Record → Option String) : Session :=
  { s with lists := s.lists.map fun l => l.withPrev (f l.root) }

theorem NewList.withPrev_self (l : NewList) : l.withPrev (·.prev) = l := by
  simp [NewList.withPrev]

theorem Session.withPrev_self (s : Session) : s.withPrev (fun _ r => r.prev) = s := by
  simp [Session.withPrev, NewList.withPrev_self]

/-- the later rewrite sees the records the earlier one made -/
theorem Session.withPrev_withPrev (s : Session) (f g : RelPath → Record → Option String) :
    (s.withPrev f).withPrev g = s.withPrev fun R r => g R { r with prev := f R r } := by
  simp [Session.withPrev, NewList.withPrev, Function.comp_def]

theorem NewList.find_withPrev (l : NewList) (f : Record → Option String) (k : String) :
    (l.withPrev f).find k = (l.find k).map (if k == "." then id else fun r => { r with prev := f r }) := by
  unfold NewList.find NewList.withPrev
  by_cases hk : (k == ".") = true
  · simp [hk]
  · simp only [hk, Bool.false_eq_true, if_false]
    rw [List.find?_map]
    rfl

theorem holderOf_withPrev (s : Session) (f : RelPath → Record → Option String) (np : RelPath) :
    holderOf (s.withPrev f) np = (holderOf s np).map fun x =>
      (x.1.withPrev (f x.1.root),
        if posix (np.drop x.1.root.length) == "." then x.2 else { x.2 with prev := f x.1.root x.2 }) := by
  unfold holderOf Session.withPrev
  simp only
  induction s.lists with
  | nil => rfl
  | cons x xs ih =>
    simp only [List.map_cons, List.findSome?_cons]
    rw [show (x.withPrev (f x.root)).root = x.root from rfl, NewList.find_withPrev, ih]
    by_cases hp : isPrefixOf x.root np = true
    · simp only [hp, if_true]
      cases hf : x.find (posix (np.drop x.root.length)) with
      | none => simp
      | some r =>
        simp only [Option.map_some]
        split <;> rfl
    · simp [hp]

def eraseRec (r : Record) : Record := { r with prev := none }

def eraseList (l : NewList) : NewList := { l with records := l.records.map eraseRec }

/-- the session with every previous path erased: `withPrev` to `none` (`eraseSess_eq_withPrev`), in the form the
theorems of C17detect state -/
def eraseSess (s : Session) : Session := { s with lists := s.lists.map eraseList }

theorem eraseSess_eq_withPrev (s : Session) : eraseSess s = s.withPrev fun _ _ => none := rfl

theorem eraseSess_withPrev (s : Session) (f : RelPath → Record → Option String) :
    eraseSess (s.withPrev f) = eraseSess s := by
  rw [eraseSess_eq_withPrev, Session.withPrev_withPrev]
  rfl

/-! ## sessions keyed by root: what the test reads of one, a write as a rewrite -/

/-- the roots of the lists of a session are pairwise different (an invariant of `touch` / `put`, which key the
lists by root; `Session.put` overwrites EVERY list with the root of the given one) -/
def Session.RootsNodup (s : Session) : Prop := (s.lists.map (·.root)).Nodup

theorem eraseSess_roots (s : Session) : (eraseSess s).lists.map (·.root) = s.lists.map (·.root) := by
  simp [eraseSess, eraseList, List.map_map, Function.comp_def]

theorem rootsNodup_of_erase {s s' : Session} (h : eraseSess s' = eraseSess s) (hs : s.RootsNodup) :
    s'.RootsNodup := by
  unfold Session.RootsNodup at *
  rw [← eraseSess_roots, h, eraseSess_roots]
  exact hs

theorem Session.Flat.rootsNodup {s : Session} (h : s.Flat) : s.RootsNodup := by
  rcases h with h | ⟨nl, h, -⟩ <;> simp [Session.RootsNodup, h]

/-- what `detectRenames` reads of the record of a new path: root of its list, its path, its entries -/
def holderInfo (s : Session) (np : RelPath) : Option (RelPath × String × List Entry) :=
  (holderOf s np).map fun x => (x.1.root, x.2.path, x.2.entries)

theorem holderInfo_erase (s : Session) (np : RelPath) : holderInfo (eraseSess s) np = holderInfo s np := by
  unfold holderInfo
  rw [eraseSess_eq_withPrev, holderOf_withPrev, Option.map_map]
  cases holderOf s np with
  | none => rfl
  | some x =>
    simp only [Option.map_some, Function.comp]
    split <;> rfl

theorem holderInfo_congr {s s' : Session} (h : eraseSess s' = eraseSess s) (np : RelPath) :
    holderInfo s' np = holderInfo s np := by
  rw [← holderInfo_erase s', h, holderInfo_erase]

theorem matchesB_congr_holders (env : Env) (t : Node) (gens : List LGen) {s s' : Session}
    (h : ∀ q, holderInfo s' q = holderInfo s q) (np nf : RelPath) :
    matchesB env t gens s' np nf = matchesB env t gens s np nf := by
  have he : ∀ s, holderEntries s np = (holderInfo s np).map (·.2.2) := fun s => by
    unfold holderEntries holderInfo
    rw [Option.map_map]
    rfl
  unfold matchesB newDigest
  rw [he, he, h np]

theorem setPrevList_eq_withPrev (l : NewList) (k old : String) :
    setPrevList l k old = l.withPrev fun r => if r.path = k then some old else r.prev := by
  unfold setPrevList NewList.withPrev
  congr 1
  apply List.map_congr_left
  intro r _
  by_cases hr : r.path = k <;> simp [hr]

theorem Session.put_setPrevList (s : Session) (hs : s.RootsNodup) (l : NewList) (hl : l ∈ s.lists) (k old : String) :
    s.put (setPrevList l k old) = s.withPrev fun R r => if R = l.root ∧ r.path = k then some old else r.prev := by
  rw [Session.put_of_mem s l (setPrevList l k old) hl rfl]
  unfold Session.withPrev
  congr 1
  apply List.map_congr_left
  intro x hx
  by_cases hxr : x.root = l.root
  · obtain rfl : x = l := List.inj_on_of_nodup_map hs hx hl hxr
    simp only [beq_self_eq_true, if_true, true_and, setPrevList_eq_withPrev]
  · have : (x.root == l.root) = false := by simpa using hxr
    simp only [this, Bool.false_eq_true, if_false, hxr, false_and]
    exact (NewList.withPrev_self x).symm

/-! ## the exact result of the double loop on a session keyed by root -/

/-- what `detectRenames` reads of a session, and what its writes leave alone: the lists are keyed by root, and the
record of every new path has the same list root, path and entries -/
def SameHolders (s' s : Session) : Prop := s'.RootsNodup ∧ ∀ q, holderInfo s' q = holderInfo s q

theorem SameHolders.refl {s : Session} (hs : s.RootsNodup) : SameHolders s s := ⟨hs, fun _ => rfl⟩

theorem SameHolders.trans {a b c : Session} (h1 : SameHolders a b) (h2 : SameHolders b c) : SameHolders a c :=
  ⟨h1.1, fun q => (h1.2 q).trans (h2.2 q)⟩

/-- equal up to previous paths is the stronger notion: it is what the theorems of C17detect about a flat
history state, and it does not survive the empty list `setPrevG` may add for a parent history, which `SameHolders`
does -/
theorem SameHolders.of_erase {s s' : Session} (h : eraseSess s' = eraseSess s) (hs : s.RootsNodup) :
    SameHolders s' s :=
  ⟨rootsNodup_of_erase h hs, holderInfo_congr h⟩

theorem sameHolders_put_fresh (s : Session) (hs : s.RootsNodup) (pr : RelPath)
    (hno : s.lists.any (fun l => l.root == pr) = false) (k old : String) :
    SameHolders (s.put (setPrevList { root := pr } k old)) s := by
  have hpr : pr ∉ s.roots := fun h => by rw [(s.any_root_iff pr).2 h] at hno; cases hno
  refine ⟨s.put_roots_nodup _ hs, ?_⟩
  rw [s.put_of_not_mem _ hpr, show setPrevList { root := pr } k old = { root := pr } from rfl]
  intro q
  unfold holderInfo holderOf
  simp only [List.findSome?_append, List.findSome?_cons, List.findSome?_nil]
  have : (if isPrefixOf pr q = true then
      Option.map (fun r => (({ root := pr } : NewList), r))
        (({ root := pr } : NewList).find (posix (List.drop pr.length q))) else none) = none := by
    split
    · unfold NewList.find
      split <;> rfl
    · rfl
  simp only [this, Option.or_none]

theorem sameHolders_setPrevH (rootHist : Hist) (s : Session) (hs : s.RootsNodup) (np : RelPath) (old : String) :
    SameHolders (setPrevH rootHist s np old) s := by
  have hput : ∀ l ∈ s.lists, ∀ k, SameHolders (s.put (setPrevList l k old)) s := fun l hl k =>
    .of_erase (by rw [Session.put_setPrevList s hs l hl, eraseSess_withPrev]) hs
  refine setPrevH_inv (P := fun s' => SameHolders s' s) rootHist s np old (SameHolders.refl hs) hput
    fun _ _ pr k _ => ?_
  by_cases hpr : pr ∈ s.roots
  · exact hput _ (s.get_mem hpr) k
  · rw [s.get_not_mem hpr]
    refine sameHolders_put_fresh s hs pr ?_ _ _
    rw [List.any_eq_false]
    intro x hx hxr
    exact hpr (List.mem_map.2 ⟨x, hx, by simpa using hxr⟩)

/-- the pairs (new path, not-found path) that count as renames, in the order the double loop meets them -/
def renamePairs (env : Env) (t : Node) (gens : List LGen) (s : Session) (newPaths notFound : List RelPath) :
    List (RelPath × RelPath) :=
  newPaths.flatMap fun np => (notFound.filter (matchesB env t gens s np)).map fun nf => (np, nf)

def renamePairsG (env : Env) (t : Node) (rootHist : Hist) (s : Session) (newPaths notFound : List RelPath) :
    List (RelPath × RelPath) :=
  newPaths.flatMap fun np => (notFound.filter (matchesG env t rootHist s np)).map fun nf => (np, nf)

theorem mem_renamePairsG (env : Env) (t : Node) (rootHist : Hist) (s : Session) (newPaths notFound : List RelPath)
    (np nf : RelPath) :
    (np, nf) ∈ renamePairsG env t rootHist s newPaths notFound ↔
      np ∈ newPaths ∧ nf ∈ notFound ∧ matchesG env t rootHist s np nf = true := by
  unfold renamePairsG
  simp only [List.mem_flatMap, List.mem_map, List.mem_filter, Prod.mk.injEq]
  constructor
  · rintro ⟨np', hnp', nf', ⟨hnf', hm⟩, rfl, rfl⟩
    exact ⟨hnp', hnf', hm⟩
  · rintro ⟨h1, h2, h3⟩
    exact ⟨np, h1, nf, ⟨h2, h3⟩, rfl, rfl⟩

theorem renamePairsG_flat (env : Env) (t : Node) (rootHist : Hist) (hc : rootHist.children = []) (s : Session)
    (newPaths notFound : List RelPath) :
    renamePairsG env t rootHist s newPaths notFound = renamePairs env t rootHist.gens s newPaths notFound := by
  unfold renamePairsG renamePairs
  simp only [funext (matchesG_flat env t rootHist hc s _)]

/-- The double loop is one loop over the pairs (new path, not-found path)
with a guard; on a session keyed by root the guard does not change while the loop runs (the writes set previous
paths, `sameHolders_setPrevH`, which the guard does not read, `matchesB_congr_holders`), so it is the loop of the
matched step over the pairs that match on the session given. -/
theorem detectRenames_pairsG (env : Env) (t : Node) (rootHist : Hist) (s : Session) (hs : s.RootsNodup)
    (newPaths notFound : List RelPath) :
    detectRenames env t rootHist s newPaths notFound =
      (renamePairsG env t rootHist s newPaths notFound).foldl (fun acc x => drHit rootHist x.1 acc x.2) (s, [], []) := by
  have h1 : detectRenames env t rootHist s newPaths notFound =
      (newPaths.flatMap fun np => notFound.map fun nf => (np, nf)).foldl
        (fun acc x => if matchesG env t rootHist acc.1 x.1 x.2 then drHit rootHist x.1 acc x.2 else acc)
        (s, [], []) := by
    rw [detectRenames_eq_G, List.foldl_flatMap]
    simp only [List.foldl_map]
    rfl
  rw [h1, foldl_guard_eq_filter (fun acc : Session × List RelPath × List (String × String) => SameHolders acc.1 s)
    (fun acc (x : RelPath × RelPath) => drHit rootHist x.1 acc x.2)
    (fun acc x => matchesG env t rootHist acc.1 x.1 x.2) (fun x => matchesG env t rootHist s x.1 x.2)
    (fun b a hb => matchesB_congr_holders env t _ hb.2 _ _)
    (fun b a hb => (sameHolders_setPrevH rootHist b.1 hb.1 a.1 _).trans hb) _ _ (SameHolders.refl hs)]
  unfold renamePairsG
  rw [List.filter_flatMap]
  simp only [List.filter_map]
  rfl

theorem foldl_drHit (rootHist : Hist) (ps : List (RelPath × RelPath))
    (acc : Session × List RelPath × List (String × String)) :
    ps.foldl (fun acc x => drHit rootHist x.1 acc x.2) acc =
      (ps.foldl (fun s x => setPrevH rootHist s x.1 (posix (route rootHist x.2).2)) acc.1,
       ps.foldl (fun a x => appendNew a x.2) acc.2.1,
       acc.2.2 ++ ps.map fun x => (posix (route rootHist x.2).2, posix x.1)) := by
  induction ps generalizing acc with
  | nil => simp
  | cons p ps ih => rw [List.foldl_cons, ih]; simp [drHit]

theorem detectRenames_exactG (env : Env) (t : Node) (rootHist : Hist) (s : Session) (hs : s.RootsNodup)
    (newPaths notFound : List RelPath) :
    detectRenames env t rootHist s newPaths notFound =
      ((renamePairsG env t rootHist s newPaths notFound).foldl
          (fun s x => setPrevH rootHist s x.1 (posix (route rootHist x.2).2)) s,
       (renamePairsG env t rootHist s newPaths notFound).foldl (fun a x => appendNew a x.2) [],
       (renamePairsG env t rootHist s newPaths notFound).map fun x => (posix (route rootHist x.2).2, posix x.1)) := by
  rw [detectRenames_pairsG env t rootHist s hs, foldl_drHit]
  simp

theorem detectRenames_pairs (env : Env) (t : Node) (rootHist : Hist) (hc : rootHist.children = [])
    (s : Session) (hs : s.RootsNodup) (newPaths notFound : List RelPath) :
    detectRenames env t rootHist s newPaths notFound =
      ((renamePairs env t rootHist.gens s newPaths notFound).foldl (fun s x => setPrevOf s x.1 (posix x.2)) s,
       (renamePairs env t rootHist.gens s newPaths notFound).foldl (fun a x => appendNew a x.2) [],
       (renamePairs env t rootHist.gens s newPaths notFound).map fun x => (posix x.2, posix x.1)) := by
  rw [detectRenames_exactG env t rootHist s hs, renamePairsG_flat env t rootHist hc]
  simp only [route_flat rootHist hc, setPrevH_flat rootHist hc]

/-- sound and complete: the renames reported are the matching pairs, as texts -/
theorem detectRenames_renamed_iff (env : Env) (t : Node) (rootHist : Hist) (s : Session) (hs : s.RootsNodup)
    (newPaths notFound : List RelPath) (old new : String) :
    (old, new) ∈ (detectRenames env t rootHist s newPaths notFound).2.2 ↔
      ∃ np ∈ newPaths, ∃ nf ∈ notFound, matchesG env t rootHist s np nf = true ∧
        old = posix (route rootHist nf).2 ∧ new = posix np := by
  rw [detectRenames_exactG env t rootHist s hs, List.mem_map]
  constructor
  · rintro ⟨⟨np, nf⟩, hmem, heq⟩
    obtain ⟨h1, h2, h3⟩ := (mem_renamePairsG _ _ _ _ _ _ _ _).1 hmem
    simp only [Prod.mk.injEq] at heq
    exact ⟨np, h1, nf, h2, h3, heq.1.symm, heq.2.symm⟩
  · rintro ⟨np, h1, nf, h2, h3, rfl, rfl⟩
    exact ⟨(np, nf), (mem_renamePairsG _ _ _ _ _ _ _ _).2 ⟨h1, h2, h3⟩, rfl⟩

theorem detectRenames_found_iffG (env : Env) (t : Node) (rootHist : Hist) (s : Session) (hs : s.RootsNodup)
    (newPaths notFound : List RelPath) (nf : RelPath) :
    nf ∈ (detectRenames env t rootHist s newPaths notFound).2.1 ↔
      nf ∈ notFound ∧ ∃ np ∈ newPaths, matchesG env t rootHist s np nf = true := by
  rw [detectRenames_exactG env t rootHist s hs]
  simp only
  rw [mem_foldl_appendNew (fun x : RelPath × RelPath => x.2)]
  simp only [List.not_mem_nil, false_or]
  constructor
  · rintro ⟨⟨np, nf'⟩, hmem, rfl⟩
    obtain ⟨h1, h2, h3⟩ := (mem_renamePairsG _ _ _ _ _ _ _ _).1 hmem
    exact ⟨h2, np, h1, h3⟩
  · rintro ⟨h2, np, h1, h3⟩
    exact ⟨(np, nf), (mem_renamePairsG _ _ _ _ _ _ _ _).2 ⟨h1, h2, h3⟩, rfl⟩

theorem detectRenames_congr_filter (env : Env) (t : Node) (rootHist : Hist) (s : Session) (hs : s.RootsNodup)
    (newPaths nf₁ nf₂ : List RelPath)
    (h : ∀ np ∈ newPaths, nf₁.filter (matchesG env t rootHist s np) = nf₂.filter (matchesG env t rootHist s np)) :
    detectRenames env t rootHist s newPaths nf₁ = detectRenames env t rootHist s newPaths nf₂ := by
  rw [detectRenames_pairsG env t rootHist s hs, detectRenames_pairsG env t rootHist s hs]
  unfold renamePairsG
  rw [List.flatMap_congr fun np hnp => by rw [h np hnp]]

theorem matchesB_iff (env : Env) (t : Node) (gens : List LGen) (s : Session) (np nf : RelPath) :
    matchesB env t gens s np nf = true ↔
      ∃ oldE, findFirstAny gens (posix nf) = some oldE ∧ newDigest env t s np oldE.fmt = some oldE.digest := by
  unfold matchesB
  cases findFirstAny gens (posix nf) with
  | none => simp
  | some e => simp

theorem matchesG_iff (env : Env) (t : Node) (rootHist : Hist) (s : Session) (np nf : RelPath) :
    matchesG env t rootHist s np nf = true ↔
      ∃ oldE, findFirstAny (route rootHist nf).1.gens (posix (route rootHist nf).2) = some oldE ∧
        newDigest env t s np oldE.fmt = some oldE.digest :=
  matchesB_iff env t _ s np _

/-! ## the session after a run of `setPrevOf` (a flat history) -/

/-- which records a `setPrevOf` for the new path touches: the list root and the record path of its holder -/
def holderKey (s : Session) (np : RelPath) : Option (RelPath × String) :=
  (holderOf s np).map fun x => (x.1.root, x.2.path)

theorem holderKey_congr {s s' : Session} (h : eraseSess s' = eraseSess s) (np : RelPath) :
    holderKey s' np = holderKey s np := by
  have hk : ∀ s, holderKey s np = (holderInfo s np).map fun i => (i.1, i.2.1) := fun s => by
    unfold holderKey holderInfo
    rw [Option.map_map]
    rfl
  rw [hk, hk, holderInfo_congr h]

theorem find_path {l : NewList} {k : String} {r : Record} (hk : k ≠ ".") (h : l.find k = some r) : r.path = k := by
  unfold NewList.find at h
  have : (k == ".") = false := by simpa using hk
  simp only [this, Bool.false_eq_true, if_false] at h
  simpa using List.find?_some h

/-- one `setPrevOf`: the records with the holder key of the new path get the old path (a holder with the path "."
is a root record, and nothing is written) -/
theorem setPrevOf_withPrev (s : Session) (hs : s.RootsNodup) (np : RelPath) (old : String) :
    setPrevOf s np old =
      s.withPrev fun R r => if holderKey s np = some (R, r.path) ∧ r.path ≠ "." then some old else r.prev := by
  unfold setPrevOf holderKey
  cases hh : holderOf s np with
  | none => simp [Session.withPrev_self]
  | some x =>
    obtain ⟨l, r0⟩ := x
    simp only [setPrevIn_eq, Option.map_some, Option.some.injEq, Prod.mk.injEq]
    by_cases hd : r0.path = "."
    · simp only [hd, beq_self_eq_true, if_true]
      conv => lhs; rw [← Session.withPrev_self s]
      congr 1
      funext R r
      have : ¬ ((l.root = R ∧ "." = r.path) ∧ r.path ≠ ".") := fun h => h.2 h.1.2.symm
      rw [if_neg this]
    · have : (r0.path == ".") = false := by simpa using hd
      simp only [this, Bool.false_eq_true, if_false]
      rw [Session.put_setPrevList s hs l (holderOf_mem hh).1]
      congr 1
      funext R r
      have : (R = l.root ∧ r.path = r0.path) ↔ ((l.root = R ∧ r0.path = r.path) ∧ r.path ≠ ".") :=
        ⟨fun h => ⟨⟨h.1.symm, h.2.symm⟩, h.2 ▸ hd⟩, fun h => ⟨h.1.1.symm, h.1.2.symm⟩⟩
      simp only [this]

/-- after a run of `setPrevOf` over the pairs `ps`, on a session keyed by root, every record has as
previous path the old path of the LAST pair whose new path has its holder key (its own previous path if there is
none); the keys are those of the session given, since a rewrite of previous paths does not move them -/
theorem foldl_setPrevOf_withPrev (ps : List (RelPath × RelPath)) (s : Session) (hs : s.RootsNodup) :
    ps.foldl (fun s x => setPrevOf s x.1 (posix x.2)) s =
      s.withPrev fun R r => ps.foldl (fun acc x =>
        if holderKey s x.1 = some (R, r.path) ∧ r.path ≠ "." then some (posix x.2) else acc) r.prev := by
  induction ps generalizing s with
  | nil => exact (Session.withPrev_self s).symm
  | cons p ps ih =>
    have he : eraseSess (setPrevOf s p.1 (posix p.2)) = eraseSess s := by
      rw [setPrevOf_withPrev s hs, eraseSess_withPrev]
    rw [List.foldl_cons, ih _ (rootsNodup_of_erase he hs)]
    simp only [holderKey_congr he]
    rw [setPrevOf_withPrev s hs, Session.withPrev_withPrev]
    rfl

theorem eraseSess_foldl_setPrevOf (ps : List (RelPath × RelPath)) (s : Session) (hs : s.RootsNodup) :
    eraseSess (ps.foldl (fun s x => setPrevOf s x.1 (posix x.2)) s) = eraseSess s := by
  rw [foldl_setPrevOf_withPrev ps s hs, eraseSess_withPrev]

theorem holderOf_foldl_setPrev (ps : List (RelPath × RelPath)) (s : Session) (hs : s.RootsNodup) (np : RelPath)
    (l : NewList) (r : Record) (hh : holderOf s np = some (l, r)) (hk : posix (np.drop l.root.length) ≠ ".") :
    ∃ l', holderOf (ps.foldl (fun s x => setPrevOf s x.1 (posix x.2)) s) np =
        some (l', { r with prev := ps.foldl (fun acc x =>
          if holderKey s x.1 = holderKey s np then some (posix x.2) else acc) r.prev }) ∧
      l'.root = l.root := by
  have hrp : r.path ≠ "." := find_path hk (holderOf_mem hh).2.2 ▸ hk
  have hkey : holderKey s np = some (l.root, r.path) := by simp [holderKey, hh]
  have hkd : (posix (np.drop l.root.length) == ".") = false := by simpa using hk
  rw [foldl_setPrevOf_withPrev ps s hs, holderOf_withPrev, hh]
  simp only [Option.map_some, hkd, Bool.false_eq_true, if_false, hkey, hrp, ne_eq, not_false_eq_true, and_true]
  exact ⟨_, rfl, rfl⟩

theorem holderOf_rootList (s : Session) (nl : NewList) (hl : s.lists = [nl]) (hroot : nl.root = []) (q : RelPath) :
    holderOf s q = (nl.find (posix q)).map fun r => (nl, r) := by
  unfold holderOf
  simp only [hl, List.findSome?_cons, List.findSome?_nil, hroot, isPrefixOf, List.length_nil, Nat.zero_le,
    decide_true, List.take_zero, beq_self_eq_true, Bool.and_self, if_true, List.drop_zero]
  cases nl.find (posix q) <;> rfl

theorem holderOf_single (s : Session) (nl : NewList) (hl : s.lists = [nl]) (hroot : nl.root = [])
    (hnd : (nl.records.map (·.path)).Nodup) (r : Record) (hr : r ∈ nl.records) (p : RelPath)
    (hp : r.path = posix p) (hdot : posix p ≠ ".") : holderOf s p = some (nl, r) := by
  have hfind : nl.find (posix p) = some r := by
    unfold NewList.find
    have : (posix p == ".") = false := by simpa using hdot
    simp only [this, Bool.false_eq_true, if_false]
    rw [← hp]
    exact find?_of_nodup_map hnd hr (by simp) fun _ _ hx => by simpa using hx
  rw [holderOf_rootList s nl hl hroot, hfind]
  rfl

theorem detectRenames_single (env : Env) (t : Node) (rootHist : Hist) (hc : rootHist.children = []) (s : Session)
    (nl : NewList) (hl : s.lists = [nl]) (hroot : nl.root = []) (r : Record) (a b : RelPath)
    (hh : holderOf s b = some (nl, r)) (hdot : posix b ≠ ".")
    (hm : matchesB env t rootHist.gens s b a = true) :
    detectRenames env t rootHist s [b] [a] =
      ({ s with lists := [setPrevList nl (posix b) (posix a)] }, [a], [(posix a, posix b)]) := by
  have hp : r.path = posix b := by
    have := find_path (by rwa [hroot]) (holderOf_mem hh).2.2
    rwa [hroot] at this
  have hset : setPrevOf s b (posix a) = { s with lists := [setPrevList nl (posix b) (posix a)] } := by
    unfold setPrevOf
    rw [hh]
    simp only [setPrevIn_eq, hp, show (posix b == ".") = false by simpa using hdot, Bool.false_eq_true, if_false]
    rw [Session.put_of_mem s nl (setPrevList nl (posix b) (posix a)) (by simp [hl]) rfl, hl]
    simp
  rw [detectRenames_pairs env t rootHist hc s (by simp [Session.RootsNodup, hl]),
    show renamePairs env t rootHist.gens s [b] [a] = [(b, a)] by simp [renamePairs, hm]]
  simp [hset, appendNew]

theorem holderKey_inj_single (s : Session) (nl : NewList) (hl : s.lists = [nl]) (hroot : nl.root = [])
    (np np' : RelPath) (hok : ∀ x ∈ np, NameOk x) (hok' : ∀ x ∈ np', NameOk x) (hne : np ≠ []) (hne' : np' ≠ [])
    (hh : (holderOf s np).isSome = true) (heq : holderKey s np' = holderKey s np) : np' = np := by
  -- the key of a path the list knows is the path's text
  have hkey : ∀ q : RelPath, (∀ x ∈ q, NameOk x) → q ≠ [] →
      holderKey s q = (nl.find (posix q)).map fun _ => (([] : RelPath), posix q) := by
    intro q hq hqne
    have hdot : posix q ≠ "." := fun h => hqne ((posix_eq_dot hq).1 h)
    unfold holderKey
    rw [holderOf_rootList s nl hl hroot]
    cases hf : nl.find (posix q) with
    | none => rfl
    | some r => simp [find_path hdot hf, hroot]
  rw [holderOf_rootList s nl hl hroot] at hh
  rw [hkey np hok hne, hkey np' hok' hne'] at heq
  cases hf : nl.find (posix np) with
  | none => simp [hf] at hh
  | some r =>
    cases hf' : nl.find (posix np') with
    | none => rw [hf, hf'] at heq; cases heq
    | some r' =>
      rw [hf, hf'] at heq
      simp only [Option.map_some, Option.some.injEq, Prod.mk.injEq, true_and] at heq
      exact posix_inj hok' hok heq

/-- the fold of the previous path over `renamePairs` when `np` is the only new path with its holder key that has a
match: the LAST matching not-found path wins -/
theorem foldl_prev_renamePairs (K : RelPath → Option (RelPath × String)) (M : RelPath → RelPath → Bool)
    (newPaths notFound : List RelPath) (np nfLast : RelPath)
    (hlast : (notFound.filter (M np)).getLast? = some nfLast)
    (huniq : ∀ np' ∈ newPaths, (∃ nf ∈ notFound, M np' nf = true) → K np' = K np → np' = np)
    (init : Option String) :
    (newPaths.flatMap fun np' => (notFound.filter (M np')).map fun nf => (np', nf)).foldl
        (fun acc (x : RelPath × RelPath) => if K x.1 = K np then some (posix x.2) else acc) init =
      if np ∈ newPaths then some (posix nfLast) else init := by
  have hin : ∀ (np' : RelPath) (L : List RelPath) (i : Option String),
      (L.map fun nf => (np', nf)).foldl
          (fun acc (x : RelPath × RelPath) => if K x.1 = K np then some (posix x.2) else acc) i =
        if K np' = K np then (L.getLast?.map posix).or i else i := by
    intro np' L
    induction L with
    | nil => intro i; simp
    | cons a as ih =>
      intro i
      rw [List.map_cons, List.foldl_cons, ih]
      by_cases hK : K np' = K np
      · cases as with
        | nil => simp [hK]
        | cons b bs =>
          rw [List.getLast?_cons_cons]
          cases hgl : (b :: bs).getLast? with
          | none => simp at hgl
          | some x => simp [hK]
      · simp [hK]
  induction newPaths generalizing init with
  | nil => rfl
  | cons np' nps ih =>
    rw [List.flatMap_cons, List.foldl_append, ih (fun q hq => huniq q (by simp [hq])), hin]
    by_cases hnp : np' = np
    · subst hnp
      simp [hlast]
    · have hnp' : ¬ np = np' := fun h => hnp h.symm
      -- another new path with the key of `np` has no match
      have : (if K np' = K np then ((notFound.filter (M np')).getLast?.map posix).or init else init) = init := by
        split
        · next hK =>
          have hnil : notFound.filter (M np') = [] := by
            rw [List.filter_eq_nil_iff]
            intro nf hnf hm
            exact hnp (huniq np' (by simp) ⟨nf, hnf, hm⟩ hK)
          simp [hnil]
        · rfl
      rw [this]
      simp [hnp']

end MhlModel
