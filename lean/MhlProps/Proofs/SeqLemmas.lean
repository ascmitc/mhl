/-
`create` on a tree whose only history is the one at the root.  For C06seq: the root's `ascmhl` folder in order
(`GoodStore`, stated on `Option HistStore`), the commit that puts one more generation into it (`commit_goodStore`), and
`lastIgnore`, which the statements of C06seq are written with.  For C06seq and C12nested: what `create` writes, in
folder mode or with `-sf`, is what a `commit` returned for a session that carries the run's patterns
(`create_written_cases`).  For the end-to-end files on one history (C03e2e, C17detect, C18e2e, RenameLemmas): the first
two loads of a tree that had no history, and what the commit of a loaded history without children wrote, loaded again
(readings of `C06.loadHistory_add_root`).
-/
import MhlProps.C06
import MhlProps.C12
import MhlProps.Proofs.DetectLemmas
import MhlProps.Proofs.SingleFileLemmas

namespace MhlModel
open MhlProps

/-! ## what `create` writes is what a `commit` returned, for a session that carries the run's patterns -/

open MhlProps.C02sf in
theorem create_written_cases (env : Env) (t : Node) (o : CreateOpts) (rootHist : Hist)
    (hl : loadHistory t = .ok rootHist) :
    (create env t o).written = [] ∨
      ∃ s, s.patterns = setPatterns (latestIgnore rootHist.gens) o.ignoreCli o.ignoreFile ∧
        commit rootHist s env.rootName env.stamp "in-place" none = .ok (create env t o).written := by
  unfold create
  split
  · rcases createFolder_cases env t o rootHist hl with ⟨e, -, h⟩ | ⟨hcm, -⟩
    · exact Or.inl (by rw [h])
    · exact Or.inr ⟨_, cRen_session_inv (createFold_patterns ..)
        (fun s np nf hs => (detectRenames_patterns env t rootHist s np nf).trans hs), hcm⟩
  · rcases createSingleFiles_cases env t o rootHist hl with ⟨e, -, h⟩ | hcm
    · exact Or.inl (by rw [h])
    · exact Or.inr ⟨_, by rw [sfSession, sfFold_addAll, Session.addAll_patterns]; rfl, hcm⟩

/-! ## the root `ascmhl` folder in order -/

/-- the root `ascmhl` folder is in order: its checks pass, it loads as generations 1..n = `gs`, the chain has
one entry per generation (number, file name), every stored manifest is present and unaltered -/
def GoodStore (hs : Option HistStore) (n : Nat) (gs : List Generation) : Prop :=
  checkStore hs = .ok () ∧
  (storeGens hs).map (·.number) = List.range' 1 n ∧
  (storeGens hs).map (·.gen) = gs ∧
  storeChain hs = (storeGens hs).map chainEntryOf ∧
  ∀ s, hs = some s → ∀ g ∈ s.gens, g.state = .ok

theorem storeGens_getD (hs : Option HistStore) : loadGens (hs.getD {}) = storeGens hs := by
  cases hs <;> rfl

theorem storeGens_parse (hs : Option HistStore) :
    ∀ g ∈ storeGens hs, parseGenName g.gen.fileName = some g.number := by
  cases hs with
  | none => intro g hg; cases hg
  | some s => exact C06.loadGens_parse s

theorem storeChain_getD (hs : Option HistStore) : (hs.getD {}).chain = storeChain hs := by
  cases hs <;> rfl

theorem checkStore_getD (hs : Option HistStore) (h : checkStore hs = .ok ()) :
    checkStore (some (hs.getD {})) = .ok () := by
  cases hs with
  | none => rfl
  | some s => exact h

/-! ## the commit on a folder in order -/

/-- the pattern list of the latest stored generation ([] when there is none) -/
def lastIgnore (gs : List Generation) : List String := (gs.getLast?.map (·.ignore)).getD []

theorem latestIgnore_map (gens : List LGen) :
    latestIgnore gens = (gens.map (·.gen)).getLast?.map (·.ignore) := by
  unfold latestIgnore
  rw [List.getLast?_map]
  cases gens.getLast? <;> rfl

/-- The commit on a folder in order (`C06.writeOne_reload_contiguous` for the flat history of the root, with the chain
check and the states of the manifests): nothing is written, or exactly generation `n + 1` under the generated name, and
the folder with it is in order again -/
theorem commit_goodStore (hs : Option HistStore) (n : Nat) (gs : List Generation) (hg : GoodStore hs n gs)
    (s : Session) (rn stamp : String) (hrn : '\n' ∉ rn.toList) (hstamp : '\n' ∉ stamp.toList)
    (ws : List Written) (hcm : commit (buildHist [] hs []) s rn stamp "in-place" none = .ok ws) :
    ws = [] ∨ ∃ w, ws = [w] ∧ w.histRoot = [] ∧ w.number = n + 1 ∧
      w.gen.fileName = genFileName (n + 1) rn stamp ∧
      w.gen.ignore = setPatterns (gs.getLast?.map (·.ignore)) s.patterns [] ∧
      GoodStore (some ((hs.getD {}).add w)) (n + 1) (gs ++ [w.gen]) := by
  obtain ⟨hchk, hnums, hgens, hchain, hst⟩ := hg
  rw [buildHist_flat] at hcm
  rcases commit_flat _ rfl s rn stamp "in-place" none ws hcm with ⟨h0, -⟩ | ⟨w, hw, hone⟩
  · exact Or.inl h0
  · right
    -- the flat history of the root is the history loaded from the store `hs.getD {}`
    have hload : (Hist.mk [] (storeGens hs) (storeChain hs) hs.isSome []).gens = loadGens (hs.getD {}) :=
      (storeGens_getD hs).symm
    rw [← storeGens_getD] at hnums
    obtain ⟨hnum, hadd, hnums', hchain'⟩ := C06.writeOne_reload_contiguous _ s rn stamp "in-place" _ [] w
      (hs.getD {}) n hload hnums hone hrn hstamp
    obtain ⟨-, hstate, hparse, hlt⟩ := C06.writeOne_next_loaded _ s rn stamp "in-place" _ [] w (hs.getD {}) hload
      hone hrn hstamp
    obtain ⟨-, hroot, hname⟩ := C06.writeOne_number _ s rn stamp "in-place" _ [] w hone
    have hign := C12.written_ignore _ s rn stamp "in-place" none _ [] w hone
    rw [latestIgnore_map, show (Hist.mk [] (storeGens hs) (storeChain hs) hs.isSome []).gens = storeGens hs from rfl,
      hgens] at hign
    rw [hnum] at hname hparse hlt
    refine ⟨w, hw, hroot, hnum, hname, hign, ?_⟩
    refine ⟨C06.checkStore_add _ w (n + 1) (checkStore_getD hs hchk) hparse hstate hlt, hnums', ?_, ?_, ?_⟩
    · show (loadGens _).map _ = _
      rw [hadd, List.map_append, storeGens_getD, hgens]; rfl
    · show ((hs.getD {}).add w).chain = (loadGens _).map chainEntryOf
      rw [hchain', hadd, List.map_append, storeChain_getD, storeGens_getD, ← hchain]; rfl
    · intro s' hs' g hg
      cases hs'
      rcases (C06.mem_add_gens _ w g).1 hg with ⟨hg, -⟩ | rfl
      · cases hs with
        | none => cases hg
        | some s₀ => exact hst s₀ rfl g hg
      · exact hstate

/-! ## one more generation in the root's `ascmhl` folder, loaded again -/

/-- what a first `write_new_generation` leaves in the new `ascmhl` folder -/
def firstStore (w : Written) : HistStore := ({} : HistStore).add w

theorem applyWritten_root (rn : String) (cs : List Node) (hs : Option HistStore) (w : Written)
    (hw : w.histRoot = []) :
    applyWritten (.dir rn cs hs) [w] = .dir rn cs (some ((hs.getD {}).add w)) := by
  simp only [applyWritten, List.foldl_cons, List.foldl_nil, hw]
  rfl

theorem loadHistory_firstStore (rn : String) (cs : List Node) (hflat : noNested (.dir rn cs none) = true)
    (w : Written) (k : Nat) (hparse : parseGenName w.gen.fileName = some k) (hstate : w.gen.state = .ok) :
    loadHistory (.dir rn cs (some (firstStore w))) =
      .ok (.mk [] [⟨k, w.gen⟩] [⟨w.number, w.gen.fileName⟩] true []) :=
  C06.loadHistory_add_root rn cs none _ (loadHistory_fresh rn cs hflat) w k hparse hstate (fun _ h => nomatch h)

theorem loadHistory_secondStore (rn : String) (cs : List Node) (hflat : noNested (.dir rn cs none) = true)
    (w w2 : Written) (hparse : parseGenName w.gen.fileName = some 1) (hstate : w.gen.state = .ok)
    (hparse2 : parseGenName w2.gen.fileName = some 2) (hstate2 : w2.gen.state = .ok) :
    loadHistory (.dir rn cs (some ((firstStore w).add w2))) =
      .ok (.mk [] [⟨1, w.gen⟩, ⟨2, w2.gen⟩]
        [⟨w.number, w.gen.fileName⟩, ⟨w2.number, w2.gen.fileName⟩] true []) :=
  C06.loadHistory_add_root rn cs (some (firstStore w)) _ (loadHistory_firstStore rn cs hflat w 1 hparse hstate) w2 2
    hparse2 hstate2 (fun g hg => by rw [List.mem_singleton.1 hg]; exact Nat.lt_succ_self 1)

/-- the generation a run on a history without children wrote, put into the `ascmhl` folder at the root: the tree loads
as that history with the generation appended (`C06.loadHistory_add_root`; what `writeOne` returns is a valid next
generation, `C06.writeOne_next_loaded`) -/
theorem reload_flat {env : Env} {rn : String} {cs : List Node} {hs : Option HistStore} {H : Hist}
    (hl : loadHistory (.dir rn cs hs) = .ok H) (hc : H.children = [])
    {s : Session} {w : Written} (hcm : commit H s env.rootName env.stamp "in-place" none = .ok [w])
    (hrn : '\n' ∉ env.rootName.toList) (hst : '\n' ∉ env.stamp.toList) :
    w.histRoot = [] ∧ w.number = latestGenerationNumber H.gens + 1 ∧
    applyWritten (.dir rn cs hs) [w] = .dir rn cs (some ((hs.getD {}).add w)) ∧
    ∃ H', loadHistory (.dir rn cs (some ((hs.getD {}).add w))) = .ok H' ∧ H'.children = [] ∧ H'.root = [] ∧
      H'.gens = H.gens ++ [⟨w.number, w.gen⟩] := by
  have hr := loadHistory_root _ H hl
  have hload : H.gens = loadGens (hs.getD {}) := (loaded_gens_eq _ H hl).trans (storeGens_getD hs).symm
  rcases commit_flat H hc _ _ _ _ _ _ hcm with ⟨h0, -⟩ | ⟨w', hw', hone⟩
  · cases h0
  · cases hw'
    obtain ⟨hnum, hstate, hparse, hlt⟩ := C06.writeOne_next_loaded _ s _ _ _ H [] w _ hload hone
      (by rw [hr]; exact hrn) hst
    have hroot : w.histRoot = [] := (C06.writeOne_state _ s _ _ _ _ H [] w hone).2.2.trans hr
    rw [← hload] at hnum hlt
    exact ⟨hroot, hnum, applyWritten_root rn cs hs w hroot, _,
      C06.loadHistory_add_root rn cs hs H hl w _ hparse hstate hlt, hc, rfl, rfl⟩

end MhlModel
