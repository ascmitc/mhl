/- Lemmas about `flattenRecords` (C18): the nested fold is one fold of `ins` over the list of non-failed file
entries (`items`), and that fold in closed form (`flattenRecords_closed`): one record per path in the order of first
appearance (`pathsOf`), each with the size of the first item of the path and the first entry of every format
(`recordOf`).  The invariant `Inv` (which records the result has, which entries each of them holds) and what C18order
says of order and sizes are read off that equation. -/
import MhlModel.Commands
import MhlProps.Proofs.ListLemmas

namespace MhlModel

/-- the statements of `mem_isort` and `length_isort` (Proofs/ListLemmas.lean), which the proofs use -/
theorem mem_isort_f {α : Type} (le : α → α → Bool) (l : List α) (x : α) : x ∈ isort le l ↔ x ∈ l :=
  mem_isort le l x

theorem length_isort_f {α : Type} (le : α → α → Bool) (l : List α) : (isort le l).length = l.length :=
  length_isort le l

/-! ## `flattenRecords` as one fold of `ins` over `items` -/

/-- one digest of a file record that is taken into account: path and size of the record, and the entry -/
structure Item where
  path : String
  size : Option Nat
  entry : Entry
  deriving Repr, DecidableEq

def addEntry (it : Item) (y : Record) : Record :=
  if y.path == it.path then { y with entries := y.entries ++ [it.entry] } else y

/-- take one non-failed entry over -/
def ins (acc : List Record) (it : Item) : List Record :=
  match acc.find? (fun x => x.path == it.path) with
  | none => acc ++ [{ path := it.path, size := it.size, entries := [it.entry] }]
  | some x => if x.entries.any (fun y => y.fmt == it.entry.fmt) then acc else acc.map (addEntry it)

theorem addEntry_of_eq {it : Item} {y : Record} (h : y.path = it.path) :
    addEntry it y = { y with entries := y.entries ++ [it.entry] } := by
  simp [addEntry, h]

theorem addEntry_of_ne {it : Item} {y : Record} (h : y.path ≠ it.path) : addEntry it y = y := by
  simp [addEntry, h]

theorem ins_cases (acc : List Record) (it : Item) :
    ((∀ r ∈ acc, r.path ≠ it.path) ∧
      ins acc it = acc ++ [{ path := it.path, size := it.size, entries := [it.entry] }]) ∨
    ∃ x, acc.find? (fun x => x.path == it.path) = some x ∧ x ∈ acc ∧ x.path = it.path ∧
      (((∃ y ∈ x.entries, y.fmt = it.entry.fmt) ∧ ins acc it = acc) ∨
       ((∀ y ∈ x.entries, y.fmt ≠ it.entry.fmt) ∧ ins acc it = acc.map (addEntry it))) := by
  unfold ins
  split
  · next h => exact .inl ⟨fun r hr => by simpa using List.find?_eq_none.mp h r hr, rfl⟩
  · next x h =>
    refine .inr ⟨x, h, List.mem_of_find?_eq_some h, by simpa using List.find?_some h, ?_⟩
    split
    · next ha => exact .inl ⟨by simpa using ha, rfl⟩
    · next ha => exact .inr ⟨by simpa using ha, rfl⟩

def stepEntry (r : Record) (acc : List Record) (e : Entry) : List Record :=
  if e.action == "failed" then acc else ins acc ⟨r.path, r.size, e⟩

def stepRecord (acc : List Record) (r : Record) : List Record :=
  if r.isDir then acc else r.entries.foldl (stepEntry r) acc

def stepGen (acc : List Record) (g : LGen) : List Record :=
  g.gen.records.foldl stepRecord acc

theorem flattenRecords_eq_foldl (gens : List LGen) : flattenRecords gens = gens.foldl stepGen [] := rfl

def itemsOfRecord (r : Record) : List Item :=
  if r.isDir then []
  else (r.entries.filter fun e => !(e.action == "failed")).map fun e => ⟨r.path, r.size, e⟩

def itemsOfGen (g : LGen) : List Item := g.gen.records.flatMap itemsOfRecord

def items (gens : List LGen) : List Item := gens.flatMap itemsOfGen

theorem stepRecord_eq (acc : List Record) (r : Record) :
    stepRecord acc r = (itemsOfRecord r).foldl ins acc := by
  unfold stepRecord itemsOfRecord
  by_cases hd : r.isDir = true
  · simp [hd]
  · simp only [hd, Bool.false_eq_true, ↓reduceIte]
    generalize r.entries = es
    induction es generalizing acc with
    | nil => rfl
    | cons e es ih =>
      simp only [List.foldl_cons, List.filter_cons]
      by_cases hf : (e.action == "failed") = true
      · simp [stepEntry, hf, ih]
      · simp [stepEntry, hf, ih]

theorem stepGen_eq (acc : List Record) (g : LGen) : stepGen acc g = (itemsOfGen g).foldl ins acc := by
  unfold stepGen itemsOfGen
  rw [List.foldl_flatMap]
  congr 1
  funext acc r
  exact stepRecord_eq acc r

theorem flattenRecords_eq_items (gens : List LGen) : flattenRecords gens = (items gens).foldl ins [] := by
  rw [flattenRecords_eq_foldl]
  unfold items
  rw [List.foldl_flatMap]
  congr 1
  funext acc g
  exact stepGen_eq acc g

theorem items_append (g₁ g₂ : List LGen) : items (g₁ ++ g₂) = items g₁ ++ items g₂ := by
  simp [items, List.flatMap_append]

theorem flattenRecords_append (g₁ g₂ : List LGen) :
    flattenRecords (g₁ ++ g₂) = (items g₂).foldl ins (flattenRecords g₁) := by
  rw [flattenRecords_eq_items, items_append, List.foldl_append, ← flattenRecords_eq_items]

theorem mem_itemsOfRecord (r : Record) (it : Item) :
    it ∈ itemsOfRecord r ↔ r.isDir = false ∧ ∃ e ∈ r.entries, e.action ≠ "failed" ∧ it = ⟨r.path, r.size, e⟩ := by
  unfold itemsOfRecord
  by_cases hd : r.isDir = true
  · simp [hd]
  · simp only [Bool.not_eq_true] at hd
    simp only [hd, Bool.false_eq_true, ↓reduceIte, List.mem_map, List.mem_filter, true_and]
    constructor
    · rintro ⟨e, ⟨he, hf⟩, rfl⟩
      exact ⟨e, he, by simpa using hf, rfl⟩
    · rintro ⟨e, he, hf, rfl⟩
      exact ⟨e, ⟨he, by simpa using hf⟩, rfl⟩

theorem mem_items (gens : List LGen) (it : Item) :
    it ∈ items gens ↔ ∃ g ∈ gens, ∃ r ∈ g.gen.records, r.isDir = false ∧
      ∃ e ∈ r.entries, e.action ≠ "failed" ∧ it = ⟨r.path, r.size, e⟩ := by
  unfold items itemsOfGen
  simp only [List.mem_flatMap, mem_itemsOfRecord]

/-! ## the first item of a path and format -/

/-- the entry of the first item with that path and format -/
def firstItem (L : List Item) (p fmt : String) : Option Entry :=
  (L.find? fun it => it.path == p && it.entry.fmt == fmt).map (·.entry)

theorem firstItem_some {L : List Item} {p fmt : String} {e : Entry} (h : firstItem L p fmt = some e) :
    e.fmt = fmt ∧ ∃ it ∈ L, it.path = p ∧ it.entry = e := by
  unfold firstItem at h
  rw [Option.map_eq_some_iff] at h
  obtain ⟨it, hfind, rfl⟩ := h
  have hp := List.find?_some hfind
  have hm := List.mem_of_find?_eq_some hfind
  simp only [Bool.and_eq_true, beq_iff_eq] at hp
  exact ⟨hp.2, it, hm, hp.1, rfl⟩

theorem firstItem_isSome_of_mem {L : List Item} {it : Item} (h : it ∈ L) :
    ∃ e, firstItem L it.path it.entry.fmt = some e := by
  unfold firstItem
  have : (L.find? fun x => x.path == it.path && x.entry.fmt == it.entry.fmt).isSome := by
    rw [List.find?_isSome]
    exact ⟨it, h, by simp⟩
  obtain ⟨x, hx⟩ := Option.isSome_iff_exists.mp this
  exact ⟨x.entry, by simp [hx]⟩

/-! ## the fold of `ins` in closed form -/

def addFmt (acc : List Entry) (e : Entry) : List Entry :=
  if acc.any (fun y => y.fmt == e.fmt) then acc else acc ++ [e]

/-- the record of the path `p`: the size of its first item, the first entry of every format -/
def recordOf (L : List Item) (p : String) : Record :=
  { path := p, size := (L.find? (·.path == p)).bind (·.size),
    entries := ((L.filter (·.path == p)).map (·.entry)).foldl addFmt [] }

/-- the paths of the items, each once, in the order of first appearance -/
def pathsOf (L : List Item) : List String := (L.map (·.path)).foldl appendNew []

theorem mem_pathsOf (L : List Item) (p : String) : p ∈ pathsOf L ↔ ∃ it ∈ L, it.path = p := by
  unfold pathsOf
  rw [mem_foldl_appendNew']
  simp

theorem pathsOf_snoc (L : List Item) (it : Item) : pathsOf (L ++ [it]) = appendNew (pathsOf L) it.path := by
  simp [pathsOf, List.foldl_append]

theorem recordOf_snoc (L : List Item) (it : Item) (q : String) (hq : q ∈ pathsOf L) :
    recordOf (L ++ [it]) q =
      if q = it.path then { recordOf L q with entries := addFmt (recordOf L q).entries it.entry } else recordOf L q := by
  obtain ⟨x, hx, hxq⟩ := (mem_pathsOf L q).1 hq
  have hsome : (L.find? (·.path == q)).isSome := List.find?_isSome.2 ⟨x, hx, by simp [hxq]⟩
  obtain ⟨y, hy⟩ := Option.isSome_iff_exists.1 hsome
  unfold recordOf
  rw [List.find?_append, hy, List.filter_append, List.map_append, List.foldl_append]
  by_cases h : q = it.path
  · subst h
    simp
  · have : (it.path == q) = false := by simpa using Ne.symm h
    simp [this, h]

theorem recordOf_fresh (L : List Item) (it : Item) (h : it.path ∉ pathsOf L) :
    recordOf (L ++ [it]) it.path = { path := it.path, size := it.size, entries := [it.entry] } := by
  have hno : ∀ x ∈ L, (x.path == it.path) = false := fun x hx => by
    simpa using fun hp => h ((mem_pathsOf L _).2 ⟨x, hx, hp⟩)
  unfold recordOf
  rw [List.find?_append, List.find?_eq_none.2 (fun x hx => by simp [hno x hx]), List.filter_append,
    List.filter_eq_nil_iff.2 (fun x hx => by simp [hno x hx])]
  simp [addFmt]

theorem find?_closed (L : List Item) (p : String) :
    ((pathsOf L).map (recordOf L)).find? (fun x => x.path == p) =
      if p ∈ pathsOf L then some (recordOf L p) else none := by
  rw [List.find?_map]
  split
  · next h => rw [find?_unique h (by simp [recordOf]) fun q _ hq => by simpa [recordOf] using hq]; rfl
  · next h =>
    rw [List.find?_eq_none.2 fun q hq hqp => h ?_]; rfl
    rwa [← show q = p by simpa [recordOf] using hqp]

theorem ins_closed (L : List Item) (it : Item) :
    ins ((pathsOf L).map (recordOf L)) it = (pathsOf (L ++ [it])).map (recordOf (L ++ [it])) := by
  unfold ins
  rw [find?_closed, pathsOf_snoc]
  by_cases hin : it.path ∈ pathsOf L
  · -- the path has a record: it gets the entry unless it has one of the format
    rw [if_pos hin, appendNew_of_mem hin]
    have hstep : ∀ q ∈ pathsOf L, recordOf (L ++ [it]) q =
        if (recordOf L it.path).entries.any (fun y => y.fmt == it.entry.fmt) then recordOf L q
        else addEntry it (recordOf L q) := by
      intro q hq
      rw [recordOf_snoc L it q hq]
      by_cases h : q = it.path
      · subst h
        rw [if_pos rfl, addEntry_of_eq rfl]
        unfold addFmt
        split <;> rfl
      · rw [if_neg h, addEntry_of_ne h]
        split <;> rfl
    simp only
    split
    · next hany => exact List.map_congr_left fun q hq => by rw [hstep q hq, if_pos hany]
    · next hany =>
      rw [List.map_map]
      exact List.map_congr_left fun q hq => by rw [hstep q hq, if_neg hany]; rfl
  · -- a path without a record gets one
    rw [if_neg hin, appendNew_of_not_mem hin, List.map_append, List.map_singleton, recordOf_fresh L it hin]
    simp only
    congr 1
    exact List.map_congr_left fun q hq => by
      rw [recordOf_snoc L it q hq, if_neg fun h : q = it.path => hin (h ▸ hq)]

theorem foldl_ins_closed (L₀ L : List Item) :
    L.foldl ins ((pathsOf L₀).map (recordOf L₀)) = (pathsOf (L₀ ++ L)).map (recordOf (L₀ ++ L)) := by
  induction L generalizing L₀ with
  | nil => simp
  | cons it L ih => rw [List.foldl_cons, ins_closed, ih, List.append_assoc]; rfl

theorem flattenRecords_closed (gens : List LGen) :
    flattenRecords gens = (pathsOf (items gens)).map (recordOf (items gens)) := by
  rw [flattenRecords_eq_items]
  exact foldl_ins_closed [] (items gens)

/-! ## the fold of `addFmt`: the first entry of every format -/

theorem addFmt_nodup (acc : List Entry) (x : Entry) (h : (acc.map (·.fmt)).Nodup) :
    ((addFmt acc x).map (·.fmt)).Nodup := by
  unfold addFmt
  split
  · exact h
  · next hany =>
    rw [List.map_append, List.nodup_append]
    refine ⟨h, by simp, fun a ha b hb => ?_⟩
    obtain ⟨y, hy, rfl⟩ := List.mem_map.1 ha
    rw [List.mem_singleton.1 hb]
    simpa using fun h' => hany (List.any_eq_true.2 ⟨y, hy, by simp [h']⟩)

theorem mem_foldl_addFmt (es acc : List Entry) (h : (acc.map (·.fmt)).Nodup) (e : Entry) :
    e ∈ es.foldl addFmt acc ↔ (acc ++ es).find? (fun y => y.fmt == e.fmt) = some e := by
  induction es generalizing acc with
  | nil =>
    rw [List.append_nil]
    exact ⟨fun he => find?_of_nodup_map h he (by simp) fun _ _ hx => by simpa using hx, List.mem_of_find?_eq_some⟩
  | cons x es ih =>
    rw [List.foldl_cons, ih _ (addFmt_nodup acc x h)]
    unfold addFmt
    split
    · next hany =>
      -- `x` is not the first of its format
      obtain ⟨y, hy, hyf⟩ := List.any_eq_true.1 hany
      rw [List.find?_append, List.find?_append, List.find?_cons]
      by_cases hx : (x.fmt == e.fmt) = true
      · have : (acc.find? fun y => y.fmt == e.fmt).isSome :=
          List.find?_isSome.2 ⟨y, hy, by rw [beq_iff_eq] at hyf hx ⊢; exact hyf.trans hx⟩
        obtain ⟨z, hz⟩ := Option.isSome_iff_exists.1 this
        rw [hz]; rfl
      · rw [Bool.not_eq_true] at hx
        rw [hx]
    · rw [List.append_assoc]; rfl

theorem nodup_foldl_addFmt (es acc : List Entry) (h : (acc.map (·.fmt)).Nodup) :
    ((es.foldl addFmt acc).map (·.fmt)).Nodup := by
  induction es generalizing acc with
  | nil => exact h
  | cons x es ih => exact ih _ (addFmt_nodup acc x h)

theorem mem_recordOf (L : List Item) (p : String) (e : Entry) :
    e ∈ (recordOf L p).entries ↔ firstItem L p e.fmt = some e := by
  unfold recordOf firstItem
  rw [mem_foldl_addFmt _ [] (by simp), List.nil_append, List.find?_map, List.find?_filter]
  simp only [Function.comp_def, Bool.decide_and, Bool.decide_eq_true]

/-! ## the invariant, read off the closed form -/

/-- what holds of the accumulator `acc` after the items `L` have been taken in -/
structure Inv (L : List Item) (acc : List Record) : Prop where
  noDir : ∀ r ∈ acc, r.isDir = false
  pathsNodup : (acc.map (·.path)).Nodup
  fmtsNodup : ∀ r ∈ acc, (r.entries.map (·.fmt)).Nodup
  nonempty : ∀ r ∈ acc, r.entries ≠ []
  sound : ∀ r ∈ acc, ∀ e ∈ r.entries, firstItem L r.path e.fmt = some e
  complete : ∀ p fmt e, firstItem L p fmt = some e → ∃ r ∈ acc, r.path = p ∧ e ∈ r.entries

theorem recordOf_inv (L : List Item) : Inv L ((pathsOf L).map (recordOf L)) where
  noDir := by simp [recordOf]
  pathsNodup := by
    rw [List.map_map, show (fun r : Record => r.path) ∘ recordOf L = id from rfl, List.map_id]
    exact (foldl_appendNew_nodup _ _).2 List.nodup_nil
  fmtsNodup := by
    rw [List.forall_mem_map]
    exact fun p _ => nodup_foldl_addFmt _ [] (by simp)
  nonempty := by
    rw [List.forall_mem_map]
    intro p hp
    obtain ⟨it, hit, rfl⟩ := (mem_pathsOf L p).1 hp
    obtain ⟨e, he⟩ := firstItem_isSome_of_mem hit
    exact List.ne_nil_of_mem ((mem_recordOf L _ e).2 ((firstItem_some he).1 ▸ he))
  sound := by
    rw [List.forall_mem_map]
    exact fun p _ e he => (mem_recordOf L p e).1 he
  complete := fun p fmt e h => by
    obtain ⟨hf, it, hit, hp, -⟩ := firstItem_some h
    exact ⟨_, List.mem_map_of_mem ((mem_pathsOf L p).2 ⟨it, hit, hp⟩), rfl, (mem_recordOf L p e).2 (hf ▸ h)⟩

theorem flattenRecords_inv (gens : List LGen) : Inv (items gens) (flattenRecords gens) :=
  flattenRecords_closed gens ▸ recordOf_inv (items gens)

/-! ## the specification `firstNonFailed`, and that it is `firstItem` over `items` -/

/-- the first entry - generations in order, records in order, entries in order - of a file record with path `p`
that has format `fmt` and did not fail -/
def firstNonFailed (gens : List LGen) (p fmt : String) : Option Entry :=
  gens.findSome? fun g => g.gen.records.findSome? fun r =>
    if r.isDir = false ∧ r.path = p then r.entries.find? (fun e => e.fmt == fmt && e.action != "failed")
    else none

theorem firstNonFailed_append (pre post : List LGen) (p fmt : String) :
    firstNonFailed (pre ++ post) p fmt = (firstNonFailed pre p fmt).or (firstNonFailed post p fmt) := by
  unfold firstNonFailed
  induction pre with
  | nil => simp
  | cons g gs ih =>
    simp only [List.cons_append, List.findSome?_cons]
    cases List.findSome? _ g.gen.records with
    | some x => rfl
    | none => exact ih

theorem firstNonFailed_cons (g : LGen) (post : List LGen) (p fmt : String) :
    firstNonFailed (g :: post) p fmt =
      (g.gen.records.findSome? fun r =>
        if r.isDir = false ∧ r.path = p then r.entries.find? (fun e => e.fmt == fmt && e.action != "failed")
        else none).or (firstNonFailed post p fmt) := by
  unfold firstNonFailed
  rw [List.findSome?_cons]
  cases List.findSome? _ g.gen.records <;> rfl

theorem firstItem_flatMap {α : Type} (f : α → List Item) (l : List α) (p fmt : String) :
    firstItem (l.flatMap f) p fmt = l.findSome? (fun x => firstItem (f x) p fmt) := by
  unfold firstItem
  rw [List.find?_flatMap, List.map_findSome?]
  rfl

theorem firstItem_itemsOfRecord (r : Record) (p fmt : String) :
    firstItem (itemsOfRecord r) p fmt =
      if r.isDir = false ∧ r.path = p then r.entries.find? (fun e => e.fmt == fmt && e.action != "failed")
      else none := by
  unfold firstItem itemsOfRecord
  by_cases hd : r.isDir = true
  · simp [hd]
  · rw [if_neg hd, List.find?_map, List.find?_filter, Option.map_map]
    simp only [Bool.not_eq_true] at hd
    by_cases hp : r.path = p
    · rw [if_pos ⟨hd, hp⟩]
      simp [Function.comp_def, hp, Bool.and_comm, bne]
      rfl
    · rw [if_neg (fun h => hp h.2)]
      simp [Function.comp_def, hp]

theorem firstNonFailed_eq_firstItem (gens : List LGen) (p fmt : String) :
    firstNonFailed gens p fmt = firstItem (items gens) p fmt := by
  unfold firstNonFailed items itemsOfGen
  rw [firstItem_flatMap]
  congr 1
  funext g
  rw [firstItem_flatMap]
  congr 1
  funext r
  exact (firstItem_itemsOfRecord r p fmt).symm

end MhlModel
