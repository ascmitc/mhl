/-
The commands with the path splitter as a parameter, so that the kernel can evaluate them on closed trees: the model
splits record paths with `splitPath` (not reducible by evaluation), the copies take any `sp` and are the model's at
`splitPathL`: `expectedPathsWith` (`expectedPaths_eq_with`), `cMissingHistWith`, `createFolderWith`
(`createFolder_eq_with`), `verifyOrDiffWith` (`verifyOrDiff_eq_with`, `verify_eq_with`, `diff_eq_with`).  C04nested,
C12nested, C03nested and C09nested run these on their closed trees.
-/
import MhlProps.C17

namespace MhlModel

def expectedPathsWith (sp : String → RelPath) (h : Hist) : List RelPath :=
  (h :: allDescendants h).foldl (fun acc x => (MhlProps.C17.expectedOfGensWith sp x.root x.gens).foldl appendNew acc) []

theorem expectedPaths_eq_with (h : Hist) : expectedPaths h = expectedPathsWith splitPathL h := by
  rw [← splitPath_eq_splitPathL]
  rfl

def cMissingHistWith (sp : String → RelPath) (t : Node) (rootHist : Hist) : List RelPath :=
  match rootHist.gens.getLast? with
  | none => []
  | some g => g.gen.refs.filterMap fun ref =>
      let p := (sp ref).dropLast.dropLast
      match t.at? p with
      | some n => if n.hist.isSome then none else some p
      | none => some p

theorem cMissingHist_eq_with (t : Node) (rootHist : Hist) :
    cMissingHist t rootHist = cMissingHistWith splitPathL t rootHist := by
  rw [← splitPath_eq_splitPathL]
  rfl


/-- `createFolder` with the path splitter as a parameter (a copy of the model's definition, the missing nested
histories named) -/
def createFolderWith (sp : String → RelPath) (env : Env) (t : Node) (o : CreateOpts) : Outcome :=
  match loadHistory t with
  | .error e => { err := some e }
  | .ok rootHist =>
    let patterns := setPatterns (latestIgnore rootHist.gens) o.ignoreCli o.ignoreFile
    let hit := env.hit patterns
    let fmts := isort strLe o.formats
    let visits := traverse hit [] t
    let st := visits.foldl (createVisit env t rootHist fmts o.noDirHashes)
      { session := { patterns := patterns } }
    let notFound := (expectedPathsWith sp rootHist).filter fun p => !st.found.contains p
    let missingHist := cMissingHistWith sp t rootHist
    let (session, notFound, renamed) :=
      if o.detectRenaming then
        let (s, foundOld, ren) := detectRenames env t rootHist st.session st.newPaths
          (isort (fun a b => strLe (posix a) (posix b)) notFound)
        (s, notFound.filter fun p => !foundOld.contains p, ren)
      else (st.session, notFound, [])
    match commit rootHist session env.rootName env.stamp "in-place" with
    | .error e => { err := some e }
    | .ok written =>
      let missing := missingAfter hit notFound
      { err := createExit st.failed missing missingHist,
        report := { mismatch := st.mismatch, missing := missing.map posix, renamed := renamed },
        written := written }

theorem createFolder_eq_with : createFolder = createFolderWith splitPathL := by
  rw [← splitPath_eq_splitPathL]
  rfl

/-- against the history on disk only (no packing list) -/
def verifyOrDiffWith (sp : String → RelPath) (env : Env) (t : Node) (o : VerifyOpts) (hashing : Bool) : Outcome :=
  match loadHistory t with
  | .error e => { err := some e }
  | .ok rootHist =>
    if rootHist.gens.isEmpty then { err := some errNoHistory }
    else
      let patterns := setPatterns (latestIgnore rootHist.gens) o.ignoreCli o.ignoreFile
      let hit := env.hit patterns
      let vis := visiblePaths hit t
      let found := vis.map (·.1)
      let files := (vis.filter fun x => !x.2).map (·.1)
      let considered := files.filter fun p => o.singleFile.isNone || o.singleFile == some p
      let news := (considered.filter fun p => judgeFile env t rootHist hashing p == .new).map posix
      let mism := (considered.filter fun p => judgeFile env t rootHist hashing p == .mismatch).map posix
      let foundSingle := considered.any fun p => judgeFile env t rootHist hashing p != .new
      let notFound := (expectedPathsWith sp rootHist).filter fun p => !found.contains p
      let missing := missingAfter hit notFound
      let err := if hashing then verifyExit mism news o.singleFile.isSome foundSingle missing
                 else diffExit news missing
      { err := err, report := { mismatch := mism, missing := missing.map posix, new := news } }

theorem verifyOrDiff_eq_with (env : Env) (t : Node) (o : VerifyOpts) (hashing : Bool) :
    verifyOrDiff env t o hashing none = verifyOrDiffWith splitPathL env t o hashing := by
  rw [← splitPath_eq_splitPathL]
  unfold verifyOrDiff verifyOrDiffWith
  rfl

theorem verify_eq_with (env : Env) (t : Node) (o : VerifyOpts) :
    verify env t o = verifyOrDiffWith splitPathL env t o true := verifyOrDiff_eq_with env t o true

theorem diff_eq_with (env : Env) (t : Node) (o : VerifyOpts) :
    diff env t o = verifyOrDiffWith splitPathL env t { o with singleFile := none } false :=
  verifyOrDiff_eq_with env t _ false

end MhlModel
