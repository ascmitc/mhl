/-
The entries written for ONE file, and what the look-ups make of them: `writtenEntries` (what a folder-mode `create`
records for a file; on no history `origEntries`, `mkOrig` over the requested formats each once in name order), the C04
judgements on them for any history (`writtenEntries_spec`), the recorded history of a never-edited file (`PInv`) with
what a further run writes for it, and the verdict of verify / diff on a recorded file (`RecordedOriginal`,
`recorded_append`; `firstFormat` is the format of the entry verify finds first in a first record).  `FirstOk` and
`RecordedOriginal` are decidable (through the Boolean tests `firstOkB`, `recordedOriginalB`), for the closed examples.
-/
import MhlProps.C17
import MhlProps.Proofs.VerifyLemmas

namespace MhlModel

/-- the entries of the record a folder-mode `create` writes for a file: what `seal_file_path` appended (`new` turned
into `verified` by the validation), sorted by format name -/
def writtenEntries (env : Env) (gens : List LGen) (sp : String) (c : Bytes) (formats : List String) : List Entry :=
  isort (fun a b => strLe a.fmt b.fmt)
    ((sealEntries gens sp (fun f => env.H f c) (isort strLe formats)).1.map relabel)

/-- the requested formats as a first generation records them: each once, in format-name order -/
def fmtList (formats : List String) : List String := isort strLe ((isort strLe formats).foldl appendNew [])

theorem mem_fmtList (formats : List String) (f : String) : f ∈ fmtList formats ↔ f ∈ formats := by
  unfold fmtList
  rw [mem_isort, (dedup_spec _).2, mem_isort]

theorem fmtList_nodup (formats : List String) : (fmtList formats).Nodup := by
  unfold fmtList
  rw [(isort_perm strLe _).nodup_iff]
  exact (dedup_spec _).1

theorem fmtList_sorted (formats : List String) : (fmtList formats).Pairwise (· < ·) := by
  have h1 : (fmtList formats).Pairwise (· ≤ ·) := isort_strLe_sorted _
  have h2 : (fmtList formats).Pairwise (· ≠ ·) := fmtList_nodup formats
  exact (h1.and h2).imp (fun ⟨a, b⟩ => Std.lt_of_le_of_ne a b)

theorem fmtList_ne_nil (formats : List String) (hf : formats ≠ []) : fmtList formats ≠ [] := by
  obtain ⟨f, hfm⟩ := List.exists_mem_of_ne_nil _ hf
  exact List.ne_nil_of_mem ((mem_fmtList formats f).2 hfm)

theorem fmtList_length_le (formats : List String) : (fmtList formats).length ≤ formats.length := by
  unfold fmtList
  rw [length_isort]
  have h1 : ((isort strLe formats).foldl appendNew []).Subperm (isort strLe formats) :=
    List.subperm_of_subset (dedup_spec _).1 (fun x hx => ((dedup_spec _).2 x).1 hx)
  have := h1.length_le
  rwa [length_isort] at this

section firstSeal
open MhlProps.C04

/-- the entry a first generation records for a file of content `c` in the format `f` (what `origEntries` maps over
the formats) -/
def mkOrig (env : Env) (c : Bytes) (f : String) : Entry := { fmt := f, digest := env.H f c, action := "original" }

/-- the entries of a file record of a first generation: one `original` entry per requested format (each once),
sorted by format name -/
def origEntries (env : Env) (c : Bytes) (formats : List String) : List Entry :=
  isort (fun a b => strLe a.fmt b.fmt)
    (((isort strLe formats).foldl appendNew []).map fun f =>
      ({ fmt := f, digest := env.H f c, action := "original" } : Entry))

theorem writtenEntries_nil (env : Env) (sp : String) (c : Bytes) (formats : List String) :
    writtenEntries env [] sp c formats = origEntries env c formats := by
  unfold writtenEntries origEntries
  rw [sealEntries_unrecorded (gens := []) (fun _ hg => nomatch hg), List.map_map]
  rfl

/-- the format whose entry comes first in a file record of a first generation: the least requested format name -/
def firstFormat (formats : List String) : String := (isort strLe formats).headD ""

theorem origEntries_eq_map (env : Env) (c : Bytes) (formats : List String) :
    origEntries env c formats = (fmtList formats).map (mkOrig env c) := by
  unfold origEntries fmtList
  exact isort_map strLe (fun (a b : Entry) => strLe a.fmt b.fmt) (mkOrig env c) (fun _ _ => rfl) _

theorem mem_origEntries (env : Env) (c : Bytes) (formats : List String) (e : Entry) :
    e ∈ origEntries env c formats ↔ ∃ f ∈ formats, e = mkOrig env c f := by
  simp only [origEntries_eq_map, List.mem_map, mem_fmtList, eq_comm]

theorem origEntries_ne_nil (env : Env) (c : Bytes) (formats : List String) (hf : formats ≠ []) :
    origEntries env c formats ≠ [] := by
  obtain ⟨f, hfm⟩ := List.exists_mem_of_ne_nil _ hf
  exact List.ne_nil_of_mem ((mem_origEntries env c formats _).2 ⟨f, hfm, rfl⟩)

theorem origEntries_spec (env : Env) (c : Bytes) (formats : List String) :
    ∀ e ∈ origEntries env c formats, e.action = "original" ∧ e.digest = env.H e.fmt c ∧ e.fmt ∈ formats := by
  intro e he
  obtain ⟨f, hf, rfl⟩ := (mem_origEntries env c formats e).1 he
  exact ⟨rfl, rfl, hf⟩

theorem firstFormat_spec (formats : List String) (hf : formats ≠ []) :
    firstFormat formats ∈ formats ∧ ∀ f ∈ formats, strLe (firstFormat formats) f = true := by
  unfold firstFormat
  have hs := isort_sorted strLe strLe_total strLe_trans formats
  have hm := mem_isort strLe formats
  cases hS : isort strLe formats with
  | nil =>
    have := length_isort strLe formats
    rw [hS] at this
    exact absurd (List.length_eq_zero_iff.1 this.symm) hf
  | cons f0 rest =>
    rw [hS] at hs hm
    simp only [List.headD_cons]
    refine ⟨(hm f0).1 (by simp), ?_⟩
    intro f hfm
    rcases List.mem_cons.1 ((hm f).2 hfm) with rfl | hr
    · rcases strLe_total f f with h | h <;> exact h
    · exact (List.pairwise_cons.1 hs).1 f hr

theorem fmtList_head (formats : List String) (hf : formats ≠ []) :
    (fmtList formats).head? = some (firstFormat formats) := by
  obtain ⟨hin, hle⟩ := firstFormat_spec formats hf
  have hs : (fmtList formats).Pairwise fun a b => strLe a b = true := isort_sorted strLe strLe_total strLe_trans _
  have hm := mem_fmtList formats
  cases hL : fmtList formats with
  | nil => exact absurd hL (fmtList_ne_nil formats hf)
  | cons f0 rest =>
    rw [hL] at hs hm
    have h1 : strLe f0 (firstFormat formats) = true := by
      rcases List.mem_cons.1 ((hm _).2 hin) with h | h
      · rw [h]; exact (strLe_total f0 f0).elim id id
      · exact (List.pairwise_cons.1 hs).1 _ h
    rw [strLe_antisymm _ _ h1 (hle f0 ((hm f0).1 (by simp)))]
    rfl

theorem origEntries_head (env : Env) (c : Bytes) (formats : List String) (hf : formats ≠ []) :
    (origEntries env c formats).head? = some (mkOrig env c (firstFormat formats)) := by
  rw [origEntries_eq_map, List.head?_map, fmtList_head formats hf]
  rfl

theorem origEntries_find_original (env : Env) (c : Bytes) (formats : List String) (hf : formats ≠ []) :
    (origEntries env c formats).find? (fun e => e.action == "original") =
      some (mkOrig env c (firstFormat formats)) := by
  rw [find?_all, origEntries_head env c formats hf]
  intro e he
  simp [(origEntries_spec env c formats e he).1]

theorem origEntries_fmts_nodup (env : Env) (c : Bytes) (formats : List String) :
    ((origEntries env c formats).map (·.fmt)).Nodup := by
  rw [origEntries_eq_map, List.map_map, show ((·.fmt) ∘ mkOrig env c) = id from rfl, List.map_id]
  exact fmtList_nodup formats

theorem origEntries_sorted_idem (env : Env) (c : Bytes) (formats : List String) :
    isort (fun a b => strLe a.fmt b.fmt) (origEntries env c formats) = origEntries env c formats :=
  isort_key_eq_of_perm (fun e : Entry => e.fmt) (isort_perm _ _) (origEntries_fmts_nodup env c formats)

theorem origEntries_clean (env : Env) (c : Bytes) (formats : List String) (hf : formats ≠ []) :
    ((origEntries env c formats).map (·.fmt)).Nodup ∧ origEntries env c formats ≠ [] ∧
      ∀ e ∈ origEntries env c formats, e.action ≠ "failed" := by
  refine ⟨origEntries_fmts_nodup env c formats, origEntries_ne_nil env c formats hf, ?_⟩
  intro e he h
  have := (origEntries_spec env c formats e he).1
  rw [this] at h
  exact absurd h (by decide)

theorem origEntries_find_fmt (env : Env) (c : Bytes) (formats : List String) (f : String) :
    (origEntries env c formats).find? (fun e => e.fmt == f && e.action != "failed") =
      if f ∈ formats then some (mkOrig env c f) else none := by
  have hp : ((fun e : Entry => e.fmt == f && e.action != "failed") ∘ mkOrig env c) = fun g => g == f := by
    funext g; simp [mkOrig]
  rw [origEntries_eq_map, List.find?_map, hp]
  split
  · next hf =>
    obtain ⟨g, hg⟩ := Option.isSome_iff_exists.1
      ((List.find?_isSome (p := fun g => g == f)).2 ⟨f, (mem_fmtList formats f).2 hf, beq_self_eq_true f⟩)
    have hgf : (g == f) = true := List.find?_some (p := fun g => g == f) hg
    rw [hg, Option.map_some, eq_of_beq hgf]
  · next hf =>
    rw [List.find?_eq_none.2 fun g hg (h : (g == f) = true) => hf ((mem_fmtList formats f).1 (eq_of_beq h ▸ hg))]
    rfl

end firstSeal

section fileHistory
open MhlProps MhlProps.C04

/-- the recorded history of the file with path text `sp`, as a run over a never-edited file of content `c` leaves
it: every recorded digest is the digest of `c`, and the entries a generation holds for the file are all `original`
if no earlier generation holds an original entry for it, all `verified` otherwise -/
structure PInv (env : Env) (sp : String) (c : Bytes) (gens : List LGen) : Prop where
  digest : ∀ g ∈ gens, ∀ r, g.gen.find sp = some r → ∀ e ∈ r.entries, e.digest = env.H e.fmt c
  action : ∀ i (hi : i < gens.length), ∀ r, gens[i].gen.find sp = some r → ∀ e ∈ r.entries,
    e.action = if findOriginal (gens.take i) sp = none then "original" else "verified"

theorem PInv.nil (env : Env) (sp : String) (c : Bytes) : PInv env sp c [] :=
  ⟨fun g hg => (by cases hg), fun i hi => (by simp at hi)⟩

theorem PInv.firstOk {env : Env} {sp : String} {c : Bytes} {gens : List LGen} (h : PInv env sp c gens) :
    FirstOk (fun f => env.H f c) gens sp := by
  intro fmt e he
  obtain ⟨g, hg, r, hf, hm, hfmt⟩ := findFirstOfFormat_spec gens sp fmt e he
  exact hfmt ▸ h.digest g hg r hf e hm

theorem findOriginal_of_entry (pre post : List LGen) (g : LGen) (sp : String) (r : Record) (e : Entry)
    (hf : g.gen.find sp = some r) (he : e ∈ r.entries) (ha : e.action = "original") :
    findOriginal (pre ++ g :: post) sp ≠ none := by
  rw [findOriginal_eq_lookup, Ne, lookupEntry_eq_none]
  exact fun h => by simpa [ha] using List.find?_eq_none.1 (h g (by simp) r hf) e he

theorem PInv.orig_of_existing {env : Env} {sp : String} {c : Bytes} {gens : List LGen} (h : PInv env sp c gens)
    (hex : existingFormats gens sp ≠ []) : findOriginal gens sp ≠ none := by
  obtain ⟨f, hf⟩ := List.exists_mem_of_ne_nil _ hex
  obtain ⟨g, hg, r, hr, e, he, -⟩ := (mem_existingFormats gens sp f).1 hf
  obtain ⟨i, hi, rfl⟩ := List.getElem_of_mem hg
  have hact := h.action i hi r hr e he
  have hsplit : gens = gens.take i ++ gens[i] :: gens.drop (i + 1) := by
    rw [List.getElem_cons_drop, List.take_append_drop]
  by_cases h0 : findOriginal (gens.take i) sp = none
  · rw [if_pos h0] at hact
    rw [hsplit]
    exact findOriginal_of_entry _ _ _ sp r e hr he hact
  · cases hpre : findOriginal (gens.take i) sp with
    | none => exact absurd hpre h0
    | some o =>
      rw [hsplit, original_is_monotone _ _ sp o hpre]
      simp

/-- the invariant after one more generation: the new generation has no record for the file, or a record whose
entries are digests of `c`, all `original` / all `verified` as the history before decides -/
theorem PInv.append {env : Env} {sp : String} {c : Bytes} {gens : List LGen} (h : PInv env sp c gens) (x : LGen)
    (hx : ∀ r, x.gen.find sp = some r → ∀ e ∈ r.entries, e.digest = env.H e.fmt c ∧
      e.action = if findOriginal gens sp = none then "original" else "verified") :
    PInv env sp c (gens ++ [x]) := by
  constructor
  · intro g hg r hr e he
    rcases List.mem_append.1 hg with hg | hg
    · exact h.digest g hg r hr e he
    · simp only [List.mem_singleton] at hg
      subst hg
      exact (hx r hr e he).1
  · intro i hi r hr e he
    simp only [List.length_append, List.length_singleton] at hi
    by_cases hlt : i < gens.length
    · rw [List.getElem_append_left hlt] at hr
      rw [List.take_append_of_le_length (by omega)]
      exact h.action i hlt r hr e he
    · have hie : i = gens.length := by omega
      subst hie
      rw [List.getElem_append_right (by omega)] at hr
      simp only [Nat.sub_self, List.getElem_cons_zero] at hr
      rw [List.take_left']
      · exact (hx r hr e he).2
      · rfl

theorem sealEntries_original (gens : List LGen) (p : String) (dig : String → String) (req : List String)
    (h : findOriginal gens p = none) : ∀ e ∈ (sealEntries gens p dig req).1, e.action = "original" := fun e he => by
  rw [(sealEntries_entry gens p dig req e he).2]
  exact (original_iff_first gens p _ _).2 h

/-- the entries as written (`new` relabelled, any order) of a file against the generations of its history: every
digest is the digest of the current content; with an `original` on record an entry in an already recorded format is
`verified` iff the digest equals the FIRST recorded one and `failed` otherwise (C04 `verified_iff_equal_first`), an
entry in a format new for the file is `verified` and is only there when nothing failed (C04 `new_format_gated`);
when nothing failed every requested format is there; an unaltered file (C04 `FirstOk`) never fails -/
theorem writtenEntries_spec (gens : List LGen) (p : String) (dig : String → String) (req : List String)
    (E : List Entry) (hE : E.Perm ((sealEntries gens p dig req).1.map relabel)) :
    (∀ e ∈ E, e.digest = dig e.fmt) ∧
    (∀ o0, findOriginal gens p = some o0 →
      (∀ e ∈ E, ∀ e1, findFirstOfFormat gens p e.fmt = some e1 →
        (e.action = "verified" ↔ dig e.fmt = e1.digest) ∧ (e.action = "failed" ↔ dig e.fmt ≠ e1.digest)) ∧
      (∀ e ∈ E, findFirstOfFormat gens p e.fmt = none →
        e.action = "verified" ∧ ∀ e' ∈ E, e'.action ≠ "failed")) ∧
    ((∀ e ∈ E, e.action ≠ "failed") → ∀ f ∈ req, ∃ e ∈ E, e.fmt = f) ∧
    (FirstOk dig gens p → ∀ e ∈ E, e.action ≠ "failed") := by
  have hmem : ∀ e, e ∈ E ↔ ∃ e0 ∈ (sealEntries gens p dig req).1, relabel e0 = e := by
    intro e; rw [hE.mem_iff, List.mem_map]
  have hsh := sealEntries_entry gens p dig req
  have hfail : (∃ e ∈ E, e.action = "failed") → ∃ e0 ∈ (sealEntries gens p dig req).1, e0.action = "failed" := by
    rintro ⟨e, he, hf⟩
    obtain ⟨e0, he0, rfl⟩ := (hmem e).1 he
    exact ⟨e0, he0, (relabel_failed e0).1 hf⟩
  refine ⟨?_, ?_, ?_, ?_⟩
  · intro e he
    obtain ⟨e0, he0, rfl⟩ := (hmem e).1 he
    rw [relabel_digest, relabel_fmt]
    exact (hsh e0 he0).1
  · intro o0 ho
    constructor
    · intro e he e1 he1
      obtain ⟨e0, he0, rfl⟩ := (hmem e).1 he
      rw [relabel_fmt] at he1 ⊢
      obtain ⟨hv, hf⟩ := verified_iff_equal_first gens p e0.fmt (dig e0.fmt) o0 e1 ho he1
      rw [← (hsh e0 he0).2] at hv hf
      have hnn : e0.action ≠ "new" := by
        intro hn
        by_cases hd : dig e0.fmt = e1.digest
        · rw [hv.2 hd] at hn; exact absurd hn (by decide)
        · rw [hf.2 hd] at hn; exact absurd hn (by decide)
      rw [relabel_of_not_new e0 hnn]
      exact ⟨hv, hf⟩
    · intro e he hnone
      obtain ⟨e0, he0, rfl⟩ := (hmem e).1 he
      rw [relabel_fmt] at hnone
      have hnew : e0.action = "new" := by
        rw [(hsh e0 he0).2]
        exact new_format_action gens p e0.fmt _ o0 ho hnone
      refine ⟨relabel_new e0 hnew, ?_⟩
      intro e' he' hf'
      have := new_format_gated gens p dig req (hfail ⟨e', he', hf'⟩) e0 he0
      exact (findFirstOfFormat_none_iff gens p e0.fmt).1 hnone this
  · intro hnf f hf
    have hnf0 : ∀ e0 ∈ (sealEntries gens p dig req).1, e0.action ≠ "failed" := by
      intro e0 he0 hf0
      exact hnf (relabel e0) ((hmem _).2 ⟨e0, he0, rfl⟩) ((relabel_failed e0).2 hf0)
    obtain ⟨e0, he0, hfmt⟩ := sealEntries_requested gens p dig req hnf0 f hf
    exact ⟨relabel e0, (hmem _).2 ⟨e0, he0, rfl⟩, by rw [relabel_fmt, hfmt]⟩
  · intro hok e he hf
    obtain ⟨e0, he0, hf0⟩ := hfail ⟨e, he, hf⟩
    exact unaltered_no_failed dig gens p req hok e0 he0 hf0

theorem sealEntries_fmt_mem (gens : List LGen) (p : String) (dig : String → String) (req : List String) :
    ∀ e ∈ (sealEntries gens p dig req).1, e.fmt ∈ existingFormats gens p ∨ e.fmt ∈ req := by
  intro e he
  obtain ⟨f, hgen, rfl, -⟩ := mem_sealEntries.1 he
  exact ((mem_foldl_appendNew' _ _ _).1 hgen).imp_left (MhlProps.C04.base_subset_existing _ _ _)

/-- The entries are those of the recorded formats that are checked, then those of the generated formats not recorded
yet: each part is duplicate-free and the filter keeps the two apart. -/
theorem sealEntries_fmts_nodup (gens : List LGen) (p : String) (dig : String → String) (req : List String) :
    ((sealEntries gens p dig req).1.map (·.fmt)).Nodup := by
  have hex := existingFormats_nodup gens p
  have hbase : (baseFormats (existingFormats gens p) req).Nodup := by
    unfold baseFormats
    dsimp only
    split
    · exact (List.take_sublist _ _).nodup hex
    · exact hex.filter _
  have htg : (formatsToGenerate (existingFormats gens p) req).Nodup := by
    unfold formatsToGenerate
    exact (foldl_appendNew_nodup req _).2 hbase
  unfold sealEntries
  dsimp only
  rw [List.map_append, List.nodup_append]
  refine ⟨?_, ?_, ?_⟩
  · rw [List.map_map]
    exact (hex.filter _).map_on (fun a _ b _ h => h)
  · split
    · rw [List.map_map]
      exact (htg.filter _).map_on (fun a _ b _ h => h)
    · simp
  · intro a ha b hb hab
    simp only [List.map_map, List.mem_map, List.mem_filter, Function.comp] at ha
    obtain ⟨f, ⟨hf, -⟩, rfl⟩ := ha
    split at hb
    · simp only [List.map_map, List.mem_map, List.mem_filter, Function.comp] at hb
      obtain ⟨f', ⟨-, hf'⟩, rfl⟩ := hb
      have hab' : f = f' := hab
      subst hab'
      simp [hf] at hf'
    · simp at hb

theorem writtenEntries_fmts_nodup (gens : List LGen) (p : String) (dig : String → String) (req : List String)
    (E : List Entry) (hE : E.Perm ((sealEntries gens p dig req).1.map relabel)) : (E.map (·.fmt)).Nodup := by
  rw [(hE.map (·.fmt)).nodup_iff, List.map_map]
  have : ((·.fmt) ∘ relabel) = fun e : Entry => e.fmt := by
    funext e; exact relabel_fmt e
  rw [this]
  exact sealEntries_fmts_nodup gens p dig req

theorem mem_writtenEntries (env : Env) (gens : List LGen) (sp : String) (c : Bytes) (formats : List String)
    (e : Entry) : e ∈ writtenEntries env gens sp c formats ↔
      ∃ e0 ∈ (sealEntries gens sp (fun f => env.H f c) (isort strLe formats)).1, e = relabel e0 := by
  unfold writtenEntries
  rw [mem_isort, List.mem_map]
  constructor
  · rintro ⟨e0, h0, rfl⟩; exact ⟨e0, h0, rfl⟩
  · rintro ⟨e0, h0, rfl⟩; exact ⟨e0, h0, rfl⟩

theorem writtenEntries_perm (env : Env) (gens : List LGen) (sp : String) (c : Bytes) (formats : List String) :
    (writtenEntries env gens sp c formats).Perm
      ((sealEntries gens sp (fun f => env.H f c) (isort strLe formats)).1.map relabel) :=
  isort_perm _ _

theorem writtenEntries_ne_nil (env : Env) (gens : List LGen) (sp : String) (c : Bytes) (formats : List String)
    (hf : formats ≠ []) : writtenEntries env gens sp c formats ≠ [] := by
  have hfm : isort strLe formats ≠ [] := by
    intro h0
    have := length_isort strLe formats
    rw [h0] at this
    exact hf (List.length_eq_zero_iff.1 this.symm)
  obtain ⟨e0, he0⟩ := List.exists_mem_of_ne_nil _
    (sealEntries_ne_nil gens sp (fun f => env.H f c) (isort strLe formats) hfm)
  exact List.ne_nil_of_mem ((mem_writtenEntries env gens sp c formats _).2 ⟨e0, he0, rfl⟩)

theorem writtenEntries_unaltered {env : Env} {sp : String} {c : Bytes} {gens : List LGen}
    (h : FirstOk (fun f => env.H f c) gens sp) (formats : List String) :
    ∀ e ∈ writtenEntries env gens sp c formats, e.digest = env.H e.fmt c ∧
      e.action = if findOriginal gens sp = none then "original" else "verified" := by
  obtain ⟨hdig, hrec, -, -⟩ := writtenEntries_spec gens sp _ _ _ (writtenEntries_perm env gens sp c formats)
  intro e he
  refine ⟨hdig e he, ?_⟩
  cases ho : findOriginal gens sp with
  | none =>
    obtain ⟨e0, he0, rfl⟩ := (mem_writtenEntries env gens sp c formats e).1 he
    have := sealEntries_original gens sp _ _ ho e0 he0
    rw [relabel_original e0 this, this]
    rfl
  | some o =>
    -- a recorded format agrees with its first digest; a new one is `verified` anyway
    simp only [reduceCtorEq, if_false]
    cases h1 : findFirstOfFormat gens sp e.fmt with
    | none => exact ((hrec o ho).2 e he h1).1
    | some e1 => exact ((hrec o ho).1 e he e1 h1).1.2 (h e.fmt e1 h1).symm

theorem writtenEntries_requested {env : Env} {sp : String} {c : Bytes} {gens : List LGen}
    (h : FirstOk (fun f => env.H f c) gens sp) (formats : List String) :
    ∀ f ∈ formats, ∃ e ∈ writtenEntries env gens sp c formats, e.fmt = f := by
  obtain ⟨-, -, hreq, hok⟩ := writtenEntries_spec gens sp _ _ _ (writtenEntries_perm env gens sp c formats)
  exact fun f hf => hreq (hok h) f ((mem_isort strLe formats f).2 hf)

/-- the entries written for a file whose content changed from `c` (all recorded digests) to `c'`: digests of `c'`;
an entry in an already recorded format is `failed` exactly when the digest of `c'` differs from the digest of `c`
in that format, `verified` exactly when it is the same; and if any entry failed, nothing in a new format is
written -/
theorem writtenEntries_altered {env : Env} {sp : String} {c : Bytes} {gens : List LGen} (h : PInv env sp c gens)
    (c' : Bytes) (formats : List String) :
    ∀ e ∈ writtenEntries env gens sp c' formats, e.digest = env.H e.fmt c' ∧
      (e.fmt ∈ existingFormats gens sp →
        (e.action = "failed" ↔ env.H e.fmt c' ≠ env.H e.fmt c) ∧
        (e.action = "verified" ↔ env.H e.fmt c' = env.H e.fmt c)) ∧
      ((∃ e' ∈ writtenEntries env gens sp c' formats, e'.action = "failed") →
        e.fmt ∈ existingFormats gens sp) := by
  obtain ⟨hdig, hrec, -, -⟩ := writtenEntries_spec gens sp _ _ _ (writtenEntries_perm env gens sp c' formats)
  intro e he
  refine ⟨hdig e he, fun hex => ?_, ?_⟩
  · obtain ⟨o, ho⟩ := Option.ne_none_iff_exists'.1 (h.orig_of_existing (List.ne_nil_of_mem hex))
    obtain ⟨e1, he1⟩ := Option.ne_none_iff_exists'.1
      (fun hnone => (findFirstOfFormat_none_iff gens sp e.fmt).1 hnone hex)
    obtain ⟨hv, hfl⟩ := (hrec o ho).1 e he e1 he1
    rw [h.firstOk e.fmt e1 he1] at hv hfl
    exact ⟨hfl, hv⟩
  · rintro ⟨e', he', hfail⟩
    obtain ⟨e0, he0, rfl⟩ := (mem_writtenEntries env gens sp c' formats e).1 he
    obtain ⟨e0', he0', rfl⟩ := (mem_writtenEntries env gens sp c' formats e').1 he'
    rw [relabel_fmt]
    exact new_format_gated gens sp _ _ ⟨e0', he0', (relabel_failed e0').1 hfail⟩ e0 he0

theorem writtenEntries_has_checked (env : Env) (gens : List LGen) (sp : String) (c : Bytes) (formats : List String)
    (hex : existingFormats gens sp ≠ []) :
    ∃ e ∈ writtenEntries env gens sp c formats, e.fmt ∈ existingFormats gens sp := by
  obtain ⟨f0, hf0, hmem⟩ := checked_entry gens sp (fun f => env.H f c) (isort strLe formats) hex
  exact ⟨relabel _, (mem_writtenEntries env gens sp c formats _).2 ⟨_, hmem, rfl⟩, by rw [relabel_fmt]; exact hf0⟩

theorem writtenEntries_all_failed {env : Env} {sp : String} {c : Bytes} {gens : List LGen} (h : PInv env sp c gens)
    (c' : Bytes) (formats : List String) (hex : existingFormats gens sp ≠ [])
    (hdiff : ∀ f ∈ existingFormats gens sp, env.H f c' ≠ env.H f c) :
    writtenEntries env gens sp c' formats ≠ [] ∧
    ∀ e ∈ writtenEntries env gens sp c' formats, e.action = "failed" ∧ e.fmt ∈ existingFormats gens sp := by
  obtain ⟨e1, he1, hf1⟩ := writtenEntries_has_checked env gens sp c' formats hex
  have hfail1 : e1.action = "failed" :=
    ((writtenEntries_altered h c' formats e1 he1).2.1 hf1).1.2 (hdiff _ hf1)
  refine ⟨List.ne_nil_of_mem he1, ?_⟩
  intro e he
  obtain ⟨-, h2, h3⟩ := writtenEntries_altered h c' formats e he
  have hex' := h3 ⟨e1, he1, hfail1⟩
  exact ⟨(h2 hex').1.2 (hdiff _ hex'), hex'⟩

end fileHistory

/-! ## the verdict on a recorded file -/

section verdict
open MhlProps.C04

/-- the path is looked up under its own name (no recorded rename leads elsewhere), an ORIGINAL entry is found for it,
and that entry is the reference entry (`findFirstOfFormat`) of its own format -/
def RecordedOriginal (gens : List LGen) (p : String) : Prop :=
  recordedName gens p = p ∧ ∃ e, findOriginal gens p = some e ∧ findFirstOfFormat gens p e.fmt = some e

theorem judgeFile_ok (env : Env) (t : Node) (rootHist : Hist) (hashing : Bool) (p : RelPath)
    (hrec : RecordedOriginal (route rootHist p).1.gens (posix (route rootHist p).2))
    (hfirst : FirstOk (fun f => env.H f (fileContent t p)) (route rootHist p).1.gens (posix (route rootHist p).2)) :
    judgeFile env t rootHist hashing p = .ok := by
  obtain ⟨hname, e, ho, hf⟩ := hrec
  rw [judgeFile_of_original rfl hname ho, hfirst e.fmt e hf]
  simp

/-- the shape `create` gives a history: the FIRST generation that has a record for the path has a non-empty record
all of whose entries are `original`; then the first of them is the original entry and the reference of its format -/
theorem recordedOriginal_of_first (gens pre post : List LGen) (g : LGen) (p : String) (r : Record)
    (hg : gens = pre ++ g :: post) (hpre : ∀ g' ∈ pre, g'.gen.find p = none) (hfind : g.gen.find p = some r)
    (hne : r.entries ≠ []) (horig : ∀ e ∈ r.entries, e.action = "original") :
    ∃ e, findOriginal gens p = some e ∧ findFirstOfFormat gens p e.fmt = some e := by
  obtain ⟨e0, es, hes⟩ : ∃ e0 es, r.entries = e0 :: es := by
    cases hr : r.entries with
    | nil => exact absurd hr hne
    | cons a as => exact ⟨a, as, rfl⟩
  have h0 : e0.action = "original" := horig e0 (by rw [hes]; simp)
  refine ⟨e0, ?_, ?_⟩
  · subst hg
    rw [findOriginal_eq_lookup, lookupEntry_unrecorded _ hpre, lookupEntry_cons _ hfind]
    simp [hes, h0]
  · subst hg
    rw [findFirstOfFormat_eq_lookup, lookupEntry_unrecorded _ hpre, lookupEntry_cons _ hfind]
    simp [hes]

theorem original_of_recorded {gens : List LGen} {p : String} {dig : String → String}
    (hrec : RecordedOriginal gens p) (hfirst : FirstOk dig gens p) :
    ∃ e, findOriginal gens p = some e ∧ e.action = "original" ∧ e.digest = dig e.fmt := by
  obtain ⟨-, e, ho, hf⟩ := hrec
  obtain ⟨_, -, _, -, hg⟩ := lookupEntry_some (findOriginal_eq_lookup _ _ ▸ ho)
  exact ⟨e, ho, by simpa using List.find?_some hg, hfirst e.fmt e hf⟩

/-! ### one generation more, seen from the look-ups of verify -/

theorem recordedName_append_noPrev (gens : List LGen) (G : LGen) (p : String)
    (hG : ∀ r ∈ G.gen.records, r.prev = none) : recordedName (gens ++ [G]) p = recordedName gens p := by
  rw [MhlProps.C17.recordedName_append, MhlProps.C17.recordedName_cons,
    MhlProps.C17.nameStep_id G _ fun r hr _ => hG r hr]
  rfl

theorem recordedName_of_unrecorded (gens : List LGen) (p : String) (h : ∀ g ∈ gens, g.gen.find p = none) :
    recordedName gens p = p := by
  apply MhlProps.C17.recordedName_id
  intro g hg r hr hp
  exact absurd hp ((Generation.find_none_iff.1 (h g hg)).1 r hr).1

theorem recordedOriginal_append (gens : List LGen) (G : LGen) (p : String)
    (hG : ∀ r ∈ G.gen.records, r.prev = none) (h : RecordedOriginal gens p) : RecordedOriginal (gens ++ [G]) p := by
  obtain ⟨h1, e, h2, h3⟩ := h
  exact ⟨by rw [recordedName_append_noPrev gens G p hG, h1], e, original_is_monotone gens _ p e h2,
    reference_is_monotone gens _ p e.fmt e h3⟩

theorem recordedOriginal_new (gens : List LGen) (G : LGen) (p : String) (r : Record)
    (hG : ∀ r ∈ G.gen.records, r.prev = none) (hun : ∀ g ∈ gens, g.gen.find p = none)
    (hfind : G.gen.find p = some r) (hne : r.entries ≠ []) (horig : ∀ e ∈ r.entries, e.action = "original") :
    RecordedOriginal (gens ++ [G]) p :=
  ⟨by rw [recordedName_append_noPrev gens G p hG, recordedName_of_unrecorded gens p hun],
    recordedOriginal_of_first (gens ++ [G]) gens [] G p r rfl hun hfind hne horig⟩

/-- One generation more over an unaltered file.  `G` has no previous paths and finds under `p` a record whose entries are
those `sealEntries` computed against `gens` for the digests `dig`.  If `p` was unaltered (`FirstOk`) and either
unrecorded or recorded with an original reference entry, it is both in `gens ++ [G]`: the invariant of `create` -/
theorem recorded_append (gens : List LGen) (G : LGen) (p : String) (dig : String → String) (req : List String)
    (r : Record) (hreq : req ≠ []) (hprev : ∀ r ∈ G.gen.records, r.prev = none) (hfind : G.gen.find p = some r)
    (hents : r.entries.Perm ((sealEntries gens p dig req).1.map relabel)) (hfirst : FirstOk dig gens p)
    (hold : (∀ g ∈ gens, g.gen.find p = none) ∨ RecordedOriginal gens p) :
    RecordedOriginal (gens ++ [G]) p ∧ FirstOk dig (gens ++ [G]) p := by
  constructor
  · rcases hold with hun | hold
    · refine recordedOriginal_new _ _ _ r hprev hun hfind (fun h0 => ?_) fun e he => ?_
      · have := hents.length_eq
        rw [h0, List.length_map] at this
        exact sealEntries_ne_nil _ _ _ _ hreq (List.length_eq_zero_iff.1 this.symm)
      · obtain ⟨e0, he0, rfl⟩ := List.mem_map.1 (hents.mem_iff.1 he)
        have h0 := sealEntries_original _ _ _ _ (findOriginal_unrecorded hun) e0 he0
        rw [relabel_original e0 h0]
        exact h0
    · exact recordedOriginal_append _ _ _ hprev hold
  · refine firstOk_append_gen _ _ _ _ hfirst fun r' hr' e he => ?_
    rw [hfind] at hr'
    cases hr'
    obtain ⟨e0, he0, rfl⟩ := List.mem_map.1 (hents.mem_iff.1 he)
    rw [relabel_digest, relabel_fmt]
    exact sealEntries_digest _ _ _ _ e0 he0

/-! ### `FirstOk` and `RecordedOriginal` are decidable -/

def firstOkB (dig : String → String) (gens : List LGen) (p : String) : Bool :=
  (existingFormats gens p).all fun fmt =>
    match findFirstOfFormat gens p fmt with
    | some e => e.digest == dig fmt
    | none => true

theorem firstOkB_iff (dig : String → String) (gens : List LGen) (p : String) :
    firstOkB dig gens p = true ↔ FirstOk dig gens p := by
  unfold firstOkB FirstOk
  rw [List.all_eq_true]
  constructor
  · intro h fmt e he
    have hmem : fmt ∈ existingFormats gens p := by
      by_contra hn
      rw [(findFirstOfFormat_none_iff gens p fmt).2 hn] at he
      cases he
    have := h fmt hmem
    rw [he] at this
    simpa using this
  · intro h fmt _
    cases he : findFirstOfFormat gens p fmt with
    | none => rfl
    | some e => simp [h fmt e he]

instance (dig : String → String) (gens : List LGen) (p : String) : Decidable (FirstOk dig gens p) :=
  decidable_of_iff _ (firstOkB_iff dig gens p)

def recordedOriginalB (gens : List LGen) (p : String) : Bool :=
  recordedName gens p == p &&
    match findOriginal gens p with
    | some e => findFirstOfFormat gens p e.fmt == some e
    | none => false

theorem recordedOriginalB_iff (gens : List LGen) (p : String) :
    recordedOriginalB gens p = true ↔ RecordedOriginal gens p := by
  unfold recordedOriginalB RecordedOriginal
  rw [Bool.and_eq_true, beq_iff_eq]
  apply and_congr_right
  intro _
  cases ho : findOriginal gens p with
  | none => simp
  | some e => simp

instance (gens : List LGen) (p : String) : Decidable (RecordedOriginal gens p) :=
  decidable_of_iff _ (recordedOriginalB_iff gens p)

end verdict

end MhlModel
