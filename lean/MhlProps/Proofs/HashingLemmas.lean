/- The read loop as a function of the reads before the first empty one (`readLoop_eq`), `chunksOf`, the key order of a
dict (`dedup`), `mapM` into `Option` (C01). -/
import MhlModel.Hashing

namespace MhlModel.Hashing

theorem foldl_update (A : Alg) (cs : List Bytes) (s : A.State) :
    cs.foldl A.update s = A.update s cs.flatten := by
  induction cs generalizing s with
  | nil => simp [A.update_nil]
  | cons c cs ih => simp [List.foldl_cons, ih, A.update_append]

theorem not_isEmpty_of_ne {cs : List Bytes} (h : ∀ c ∈ cs, c ≠ []) : ∀ c ∈ cs, (!c.isEmpty) = true := by
  intro c hc
  have := h c hc
  cases c <;> simp_all

theorem readLoop_eq (A : Alg) (reads : List Bytes) :
    A.final (readLoop A reads) = A.digest (reads.takeWhile fun c => !c.isEmpty).flatten := by
  simp [readLoop, foldl_update, Alg.digest]

theorem readLoop_schedule (A : Alg) (cs rest : List Bytes) (h : ∀ c ∈ cs, c ≠ []) :
    A.final (readLoop A (cs ++ [] :: rest)) = A.digest cs.flatten := by
  rw [readLoop_eq, List.takeWhile_append_of_pos (not_isEmpty_of_ne h)]; simp

theorem readLoop_all (A : Alg) (cs : List Bytes) (h : ∀ c ∈ cs, c ≠ []) :
    A.final (readLoop A cs) = A.digest cs.flatten := by
  have htw : cs.takeWhile (fun c => !c.isEmpty) = cs := by
    simpa using List.takeWhile_append_of_pos (l₂ := []) (not_isEmpty_of_ne h)
  rw [readLoop_eq, htw]

theorem chunksOf_flatten (size : Nat) (hs : 0 < size) (content : Bytes) :
    (chunksOf size content).flatten = content := by
  fun_induction chunksOf size content with
  | case1 content h =>
    rcases h with h | h
    · omega
    · simp [h]
  | case2 content h ih => rw [List.flatten_cons, ih]; exact List.take_append_drop size content

theorem chunksOf_spec (size : Nat) (content : Bytes) :
    ∀ c ∈ chunksOf size content, c ≠ [] ∧ c.length ≤ size := by
  fun_induction chunksOf size content with
  | case1 content h => simp
  | case2 content h ih =>
    intro c hc
    rcases List.mem_cons.1 hc with rfl | hc
    · have hpos : 0 < content.length := List.length_pos_iff.mpr fun h' => h (Or.inr h')
      refine ⟨fun h0 => ?_, by simp [List.length_take]; omega⟩
      have := congrArg List.length h0
      simp only [List.length_take, List.length_nil] at this
      omega
    · exact ih c hc

theorem chunksOf_nonempty (size : Nat) (content : Bytes) : ∀ c ∈ chunksOf size content, c ≠ [] :=
  fun c hc => (chunksOf_spec size content c hc).1

theorem chunksOf_le (size : Nat) (content : Bytes) : ∀ c ∈ chunksOf size content, c.length ≤ size :=
  fun c hc => (chunksOf_spec size content c hc).2

theorem hashFileReads_eq (h : Hasher) (cs : List Bytes) (hne : ∀ c ∈ cs, c ≠ []) :
    hashFileReads h cs = hashData h cs.flatten := by
  simp [hashFileReads, hashData, readLoop_all h.alg cs hne]

theorem mem_dedup [DecidableEq α] (x : α) (l : List α) : x ∈ dedup l ↔ x ∈ l := by
  induction l with
  | nil => simp [dedup]
  | cons y ys ih => simp only [dedup, List.mem_cons, List.mem_filter, ih]; grind

theorem nodup_dedup [DecidableEq α] (l : List α) : (dedup l).Nodup := by
  induction l with
  | nil => simp [dedup]
  | cons y ys ih =>
    simp only [dedup, List.nodup_cons, List.mem_filter]
    refine ⟨by simp, ih.filter _⟩

/-- a successful `mapM` into `Option`: a left inverse of `f` recovers the input from the result, and every input has
its image in the result -/
theorem mapM_option_spec {α β : Type} (f : α → Option β) (l : List α) (r : List β) (h : l.mapM f = some r) :
    (∀ (g : β → α), (∀ x y, f x = some y → g y = x) → r.map g = l) ∧
    (∀ x ∈ l, ∃ y, f x = some y ∧ y ∈ r) := by
  induction l generalizing r with
  | nil =>
    simp at h; subst h; simp
  | cons a as ih =>
    rw [List.mapM_cons] at h
    cases hfa : f a with
    | none => simp [hfa] at h
    | some b =>
      cases hrest : as.mapM f with
      | none => simp [hfa, hrest] at h
      | some bs =>
        simp [hfa, hrest] at h
        subst h
        obtain ⟨ih1, ih2⟩ := ih bs hrest
        refine ⟨?_, ?_⟩
        · intro g hg
          simp [hg a b hfa, ih1 g hg]
        · intro x hx
          simp only [List.mem_cons] at hx
          rcases hx with rfl | hx
          · exact ⟨b, hfa, by simp⟩
          · obtain ⟨y, hy, hm⟩ := ih2 x hx
            exact ⟨y, hy, by simp [hm]⟩

end MhlModel.Hashing
