/-
C10 — Manifests and chain files read back exactly what was written.

About `MhlModel/Xml.lean`: the writer `toXml` (hashlist_xml_parser.write_hash_list and its element builders), the event
stream `events` that `etree.iterparse` delivers, the event-driven reader `parse` (a fold of `step` over the events), the
representation shift `norm`, and the chain file writer / reader `chainToXml` / `parseChain`.

The round trip is `parse (toXml g) = norm g`, and `WfGen` is exactly the condition under which it holds
(`roundtrip_iff_wf`); the chain file likewise, entry by entry (`parseChain_roundtrip_iff`).  On ANY tree the reader
returns supported formats only, and no record named "." (`reader_returns_supported_formats`).

Which ingredient of `WfGen` is needed for which field (and what is NOT needed)
* entry `fmt` supported (`FormatsOk`)         – the reader takes only supported format tags for digests; any other
                                                 tag is ignored or is one of its own structural tags.
* record `path ≠ "."`                          – `append_hash` files such a record as the root hash.
                                                 (An EMPTY path is fine in the model: `text.getD ""` gives it back.)
* `prev ≠ some ""`, `process`, creator texts (creation date, host name, tool name, location, comment, author NAME),
  reference `path` / `c4` `≠ some ""`          – an empty text reads back as absent.  Absent (`none`) is fine everywhere.
* attributes (tool version, author role/email/phone, action, hash date, size, sequence number) – NO condition: an
  attribute with an empty value stays an attribute.
* digests and ignore patterns                  – NO condition: they are read with `getD ""`, so also "" comes back.
* file entries `shash = none`                  – a file record's structure hash is never written.
* directory entries `shash ≠ some ""`          – empty text; `shash = none` is fine (an empty element is written).
* `DupFree` for directory records / root hash  – structure hashes are re-attached to the FIRST entry of the format;
                                                 weaker than "formats pairwise distinct": a format may repeat as long
                                                 as none of its entries carries a structure hash.  File records may
                                                 repeat formats freely (the sort is stable).
* `size` of directory records                  – NO condition: it is written and read like a file size.
                                                 The root hash's size and path are dropped by `norm` itself.
* root hash `isDir = true` or already sorted   – `norm` sorts the entries of a non-directory record, the writer writes
                                                 the root hash in stored order.  No condition at all when the root hash
                                                 has no entries (nothing is written, `norm` gives `none`).
-/
import MhlProps.Proofs.XmlLemmas

namespace MhlProps.C10
open MhlModel MhlModel.Xml

/-! ## the condition `WfGen` -/

/-- an optional text that survives a file: an empty text reads back as absent -/
def TextOk (x : Option String) : Prop := x ≠ some ""

instance (x : Option String) : Decidable (TextOk x) := by unfold TextOk; infer_instance

def FormatsOk (es : List XEntry) : Prop := ∀ e ∈ es, isFormatTag e.fmt = true

instance (es : List XEntry) : Decidable (FormatsOk es) := by unfold FormatsOk; infer_instance

instance (es : List XEntry) : Decidable (DupFree es) := by unfold DupFree; infer_instance

def DirEntriesOk (es : List XEntry) : Prop :=
  FormatsOk es ∧ (∀ e ∈ es, TextOk e.shash) ∧ DupFree es

instance (es : List XEntry) : Decidable (DirEntriesOk es) := by unfold DirEntriesOk; infer_instance

def FileEntriesOk (es : List XEntry) : Prop :=
  FormatsOk es ∧ ∀ e ∈ es, e.shash = none

instance (es : List XEntry) : Decidable (FileEntriesOk es) := by unfold FileEntriesOk; infer_instance

def WfRecord (r : XRecord) : Prop :=
  r.path ≠ "." ∧ TextOk r.prev ∧ (if r.isDir then DirEntriesOk r.entries else FileEntriesOk r.entries)

instance (r : XRecord) : Decidable (WfRecord r) := by unfold WfRecord; infer_instance

def WfRoot (r : XRecord) : Prop :=
  r.entries = [] ∨
    (TextOk r.prev ∧ DirEntriesOk r.entries ∧ (r.isDir = true ∨ isort fmtLe r.entries = r.entries))

instance (r : XRecord) : Decidable (WfRoot r) := by unfold WfRoot; infer_instance

def WfCreator (c : XCreator) : Prop :=
  TextOk c.creationdate ∧ TextOk c.hostname ∧ TextOk c.toolName ∧ TextOk c.location ∧ TextOk c.comment ∧
  ∀ a ∈ c.authors, TextOk a.name

instance (c : XCreator) : Decidable (WfCreator c) := by unfold WfCreator; infer_instance

def WfRef (r : XRef) : Prop := TextOk r.path ∧ TextOk r.c4

instance (r : XRef) : Decidable (WfRef r) := by unfold WfRef; infer_instance

/-- the manifests the round trip holds for.  The ignore patterns are arbitrary. -/
def WfGen (g : XGen) : Prop :=
  WfCreator g.creator ∧ TextOk g.process ∧ (∀ r ∈ g.rootHash, WfRoot r) ∧ (∀ r ∈ g.records, WfRecord r) ∧
  ∀ r ∈ g.refs, WfRef r

instance (g : XGen) : Decidable (WfGen g) := by unfold WfGen; infer_instance

/-! ## the round trip -/

/-- what the reader returns when only the structural conditions hold (supported formats, no record named "."):
`readBack g`, i.e. every optional text through `normText` (empty ⇒ absent), structure hashes re-attached to the first
entry of their format, file entries sorted and without structure hash -/
theorem parse_toXml_shape (g : XGen) (h : Shape g) : parse (toXml g) = readBack g := by
  obtain ⟨hroot, hrecs⟩ := h
  have h0 : startStep {} "hashlist" = ⟨.none, [], false, [], {}⟩ := by simp [startStep_none]
  rw [parse_eq_run, run_events, toXml, readTree_step, h0]
  simp only [List.foldl_append, List.foldl_cons, List.foldl_nil]
  rw [run_creator, run_process g hroot, run_hashes g.records hrecs, run_references]
  simp [endStep, readBack]

theorem wf_shape {g : XGen} (h : WfGen g) : Shape g := by
  obtain ⟨_, _, hroot, hrecs, _⟩ := h
  refine ⟨?_, ?_⟩
  · intro r hr e he
    rcases hroot r (by simp [hr]) with h0 | ⟨_, hd, _⟩
    · rw [h0] at he; cases he
    · exact hd.1 e he
  · intro r hr
    obtain ⟨hp, _, he⟩ := hrecs r hr
    refine ⟨hp, ?_⟩
    split at he <;> exact he.1

theorem normAuthor_eq_iff (a : XAuthor) : normAuthor a = a ↔ TextOk a.name := by
  cases a; simp [normAuthor, normText_eq_self_iff, TextOk]

theorem normCreator_eq_iff (c : XCreator) : normCreator c = c ↔ WfCreator c := by
  cases c
  simp [normCreator, WfCreator, TextOk, normText_eq_self_iff, map_eq_self_iff, normAuthor_eq_iff, and_comm,
    and_assoc]

theorem normRef_eq_iff (r : XRef) : normRef r = r ↔ WfRef r := by
  cases r; simp [normRef, WfRef, TextOk, normText_eq_self_iff]

theorem readRec_eq_iff {r : XRecord} (hp : r.path ≠ ".") (hf : FormatsOk r.entries) :
    readRec r = nrec r ↔ WfRecord r := by
  obtain ⟨path, isDir, size, lastmod, prev, entries⟩ := r
  -- Field by field, in both directions.  `prev`: `normText_eq_self_iff`.  Entries of a file record: both sides sort
  -- them (`hle` identifies the two spellings of the order), which leaves `strip` on the members of the sorted list
  -- (`map_eq_self_iff`, `strip_eq_self_iff`, `mem_isort`).  Entries of a directory record:
  -- `readDirEntries_eq_self_iff`.  The conjuncts of `WfRecord` the equation does not give are `hp` and `hf`.
  have hle : (fun a b : XEntry => strLe a.fmt b.fmt) = fmtLe := rfl
  cases isDir
  · simp_all [readRec, readFile, nrec, WfRecord, FileEntriesOk, TextOk, normText_eq_self_iff, map_eq_self_iff,
      strip_eq_self_iff, mem_isort]
  · simp_all [readRec, readDir, nrec, WfRecord, DirEntriesOk, TextOk, normText_eq_self_iff,
      readDirEntries_eq_self_iff]

theorem readRoot_eq_iff {r : XRecord} (hf : FormatsOk r.entries) (hne : r.entries ≠ []) :
    readRoot r = nroot r ↔ WfRoot r := by
  obtain ⟨path, isDir, size, lastmod, prev, entries⟩ := r
  -- `prev`: `normText_eq_self_iff`.  Entries: `nroot` keeps those of a directory record, so the equation is
  -- `readDirEntries es = es` (`readDirEntries_eq_self_iff`); it sorts those of a file record, and
  -- `readDirEntries es = isort fmtLe es` splits into `readDirEntries es = es ∧ isort fmtLe es = es`
  -- (`readDirEntries_eq_isort_iff`).  `hne` excludes the first disjunct of `WfRoot`, `hf` gives `FormatsOk`.
  cases isDir <;>
    simp_all [readRoot, nroot, nrec, WfRoot, DirEntriesOk, TextOk, normText_eq_self_iff, readDirEntries_eq_isort_iff,
      readDirEntries_eq_self_iff, and_assoc]

theorem readRootOpt_eq_iff (o : Option XRecord) (hf : ∀ r, o = some r → FormatsOk r.entries) :
    readRootOpt o = (o.bind fun r => if r.entries.isEmpty then none else some (nroot r)) ↔ ∀ r ∈ o, WfRoot r := by
  cases o with
  | none => simp [readRootOpt]
  | some r =>
    by_cases he : r.entries = []
    · simp [readRootOpt, he, WfRoot]
    · simp [readRootOpt, he, readRoot_eq_iff (hf r rfl) he]

/-- given the structural conditions, what the reader rebuilds is `norm g` exactly for well-formed `g`: field by field,
each ingredient of `WfGen` says that one normalisation of `readBack` does nothing -/
theorem readBack_eq_norm_iff {g : XGen} (hs : Shape g) : readBack g = norm g ↔ WfGen g := by
  have hrec : g.records.map readRec = g.records.map nrec ↔ ∀ r ∈ g.records, WfRecord r := by
    rw [List.map_inj_left]
    exact forall₂_congr fun r hr => readRec_eq_iff (hs.2 r hr).1 (hs.2 r hr).2
  have hroot := readRootOpt_eq_iff g.rootHash hs.1
  rw [norm_eq]
  obtain ⟨c, p, root, ign, recs, refs⟩ := g
  simp only [readBack, WfGen, XGen.mk.injEq, true_and] at hrec hroot ⊢
  rw [normCreator_eq_iff, normText_eq_self_iff, hroot, hrec, map_eq_self_iff]
  simp only [normRef_eq_iff, TextOk]

/-- **the round trip**: the reader applied to what the writer produced gives back the object, up to `norm` -/
theorem parse_toXml (g : XGen) (h : WfGen g) : parse (toXml g) = norm g := by
  rw [parse_toXml_shape g (wf_shape h), (readBack_eq_norm_iff (wf_shape h)).2 h]

theorem norm_idempotent (g : XGen) : norm (norm g) = norm g := by
  rw [norm_eq (norm g), norm_eq g]
  simp only [setPatterns_idem, List.map_map]
  have h1 : (nrec ∘ nrec) = nrec := by funext r; exact nrec_idem r
  rw [h1]
  congr 1
  cases hr : g.rootHash with
  | none => rfl
  | some r =>
    by_cases he : r.entries = []
    · simp [he]
    · have := nroot_entries_ne r he
      simp [he, this, nroot_idem]

theorem parse_toXml_normal (g : XGen) (h : WfGen g) : norm (parse (toXml g)) = parse (toXml g) := by
  rw [parse_toXml g h, norm_idempotent]

/-- two well-formed manifests that are written as the same tree carry the same values: an independent reader of the
same infoset extracts the same object -/
theorem toXml_determines (g₁ g₂ : XGen) (h₁ : WfGen g₁) (h₂ : WfGen g₂) (h : toXml g₁ = toXml g₂) :
    norm g₁ = norm g₂ := by
  rw [← parse_toXml g₁ h₁, ← parse_toXml g₂ h₂, h]

/-! ## the chain file -/

/-- a chain entry as the tool writes it: a supported format and the three
other fields present and non-empty -/
def FullChainEntry (c : XChainEntry) : Prop :=
  (∃ f, c.fmt = some f ∧ isFormatTag f = true) ∧
  (∃ s, c.seq = some s ∧ s ≠ "") ∧ (∃ p, c.path = some p ∧ p ≠ "") ∧ (∃ d, c.digest = some d ∧ d ≠ "")

/-- the condition really needed is weaker (`WfChainEntry`): the sequence number is an attribute and may be anything,
path and digest may be absent, only not the empty text -/
theorem FullChainEntry.wf {c : XChainEntry} (h : FullChainEntry c) : WfChainEntry c := by
  obtain ⟨hf, _, ⟨p, hp, hpne⟩, ⟨d, hd, hdne⟩⟩ := h
  refine ⟨hf, ?_, ?_⟩
  · rw [hp]; intro e; exact hpne (Option.some.inj e)
  · rw [hd]; intro e; exact hdne (Option.some.inj e)

theorem parseChain_roundtrip_iff (cs : List XChainEntry) :
    parseChain (chainToXml cs) = cs ↔ ∀ c ∈ cs, WfChainEntry c := by
  simp only [parseChain_eq, map_eq_self_iff, readEntry_eq_self_iff]

theorem parseChain_chainToXml (cs : List XChainEntry) (h : ∀ c ∈ cs, FullChainEntry c) :
    parseChain (chainToXml cs) = cs :=
  (parseChain_roundtrip_iff cs).2 fun c hc => (h c hc).wf

theorem parseChain_append (cs ds : List XChainEntry) :
    parseChain (chainToXml (cs ++ ds)) = parseChain (chainToXml cs) ++ parseChain (chainToXml ds) := by
  simp [parseChain_eq]

/-- appending one entry to a chain file: the earlier entries (whatever they are) read as before and in order, and
exactly the new one is added -/
theorem chain_append (cs : List XChainEntry) (e : XChainEntry) (he : WfChainEntry e) :
    parseChain (chainToXml (cs ++ [e])) = parseChain (chainToXml cs) ++ [e] := by
  rw [parseChain_append, (parseChain_roundtrip_iff [e]).2 (by simpa using he)]

/-- an entry without a format is written as `<c4>` and so does NOT read back unchanged: the format is needed -/
example : parseChain (chainToXml [{ seq := some "1", path := some "0001_A.mhl", fmt := none, digest := some "c4x" }])
    = [{ seq := some "1", path := some "0001_A.mhl", fmt := some "c4", digest := some "c4x" }] := by decide +kernel

/-! ## sizes and authors (DESIGN.md §8, D3: no size attribute for a file of size 0; D9: an author named "-" dropped) -/

/-- every size, also 0, is written as a `size` attribute -/
theorem size_written (r : XRecord) : attr (pathElem r) "size" = r.size.map toString := by
  unfold attr pathElem
  cases r.size <;> cases r.lastmod <;> simp [Elem.attrs, optAttr, alookup]

theorem sizes_roundtrip (g : XGen) (h : WfGen g) :
    (parse (toXml g)).records.map (·.size) = g.records.map (·.size) := by
  rw [parse_toXml g h, norm_eq]
  simp only [List.map_map]
  apply List.map_congr_left
  intro r _
  simp [nrec]

/-- a record of size 0 (a file record, or a directory record) is written with a size attribute and reads back with
size 0 -/
theorem size_zero_roundtrips (r : XRecord) (h : WfRecord r) (hs : r.size = some 0) :
    attr (pathElem r) "size" = some "0" ∧
    (parse (toXml { records := [r] })).records.map (·.size) = [some 0] := by
  refine ⟨by rw [size_written, hs]; rfl, ?_⟩
  have hg : WfGen { records := [r] } := by
    refine ⟨by simp [WfCreator, TextOk], by simp [TextOk], by simp, by simpa using h, by simp⟩
  rw [sizes_roundtrip _ hg]
  simp [hs]

def exEmptyFile : XRecord :=
  { path := "empty.bin", size := some 0,
    entries := [{ fmt := "xxh64", digest := "ef46db3751d8e999", action := some "original" }] }

example : attr (pathElem exEmptyFile) "size" = some "0" ∧
    (parse (toXml { records := [exEmptyFile] })).records = [exEmptyFile] := by decide +kernel

theorem creator_roundtrips (g : XGen) (h : WfGen g) : (parse (toXml g)).creator = g.creator := by
  rw [parse_toXml g h, norm_eq]

theorem dash_author_roundtrips (a : XAuthor) (h : a.name = some "-") :
    (parse (toXml { creator := { authors := [a] } })).creator.authors = [a] := by
  have hg : WfGen { creator := { authors := [a] } } := by
    refine ⟨?_, by simp [TextOk], by simp, by simp, by simp⟩
    simp [WfCreator, TextOk, h]
  rw [creator_roundtrips _ hg]

example : (parse (toXml { creator := { authors := [{ name := some "-", role := some "DIT" }, { name := some "Ann" }] } })
    ).creator.authors = [{ name := some "-", role := some "DIT" }, { name := some "Ann" }] := by decide +kernel

/-! ## the round trip computed on examples -/

/-- two file records (three formats in unsorted order; one with an empty path, an empty digest and a repeated format),
a directory record with two formats, a root hash, two authors, location and comment, two references, an ignore list
with a repetition and an empty pattern -/
def exGen : XGen :=
  { creator := { creationdate := some "2026-01-01T00:00:00+00:00", hostname := some "host.local",
                 toolName := some "ascmhl", toolVersion := some "1.2",
                 authors := [{ name := some "-", role := some "DIT", email := some "a@b.c" },
                             { name := some "Bob", phone := some "" }],
                 location := some "Set 3", comment := some "a comment" },
    process := some "in-place",
    rootHash := some { path := "whatever", isDir := true, size := some 3, lastmod := some "x", entries :=
      [{ fmt := "xxh64", digest := "aa", shash := some "bb" },
       { fmt := "c4", digest := "c41", hashdate := some "d", shash := some "c42" }] },
    ignore := [".DS_Store", "*.tmp", "*.tmp", ""],
    records := [
      { path := "A/b.mov", size := some 0, lastmod := some "2025-12-31T00:00:00+00:00", entries :=
          [{ fmt := "xxh64", digest := "0ea03b369a463d9d", action := some "original", hashdate := some "2026-01-01" },
           { fmt := "md5", digest := "9e107d9d372bb6826bd81d3542a419d6", action := some "verified" },
           { fmt := "c4", digest := "c44aMtvPeo", action := some "new" }] },
      { path := "A", isDir := true, size := some 12, prev := none, entries :=
          [{ fmt := "xxh64", digest := "d1", hashdate := some "h", shash := some "s1" },
           { fmt := "c4", digest := "d2", shash := some "s2" }] },
      { path := "", size := some 1234567, prev := some "old/name.txt", entries :=
          [{ fmt := "sha1", digest := "", action := some "failed" }, { fmt := "md5", digest := "x" },
           { fmt := "md5", digest := "y" }] }],
    refs := [{ path := some "B/ascmhl/0001_B.mhl", c4 := some "c4abc" },
             { path := some "C/ascmhl/0001_C.mhl", c4 := none }] }

example : WfGen exGen := by decide +kernel

/-- the round trip on the example, computed — independent of the general proof -/
theorem exGen_roundtrip : parse (toXml exGen) = norm exGen := by decide +kernel

example : parse (toXml exGen) = norm exGen := exGen_roundtrip

/-- `norm` really moves this example (dates dropped, entries sorted, root path, ignore list de-duplicated) … -/
example : norm exGen ≠ exGen := by decide +kernel

/-- … and the parts that `norm` leaves alone come back literally -/
example : (parse (toXml exGen)).creator = exGen.creator ∧ (parse (toXml exGen)).process = exGen.process ∧
    (parse (toXml exGen)).refs = exGen.refs ∧
    (parse (toXml exGen)).ignore = [".DS_Store", "*.tmp", ""] ∧
    ((parse (toXml exGen)).records.map fun r => (r.path, r.size, r.prev, r.entries.map (·.fmt)))
      = [("A/b.mov", some 0, none, ["c4", "md5", "xxh64"]), ("A", some 12, none, ["xxh64", "c4"]),
         ("", some 1234567, some "old/name.txt", ["md5", "md5", "sha1"])] := by
  rw [exGen_roundtrip]
  exact ⟨rfl, rfl, rfl, by decide +kernel, by decide +kernel⟩

/-- an empty manifest: the defaults come back as the ignore list -/
example : WfGen {} ∧ parse (toXml {}) = { ignore := [".DS_Store", "ascmhl", "ascmhl/"] } := by decide +kernel

def one (r : XRecord) : XGen := { records := [r] }

/-- a directory record where a format occurs twice, without structure hashes, is still well-formed -/
example : WfGen (one { path := "D", isDir := true, entries := [{ fmt := "md5", digest := "a" }, { fmt := "md5", digest := "b" }] }) := by
  decide +kernel

def exChain : List XChainEntry :=
  [{ seq := some "1", path := some "0001_A_2026-01-01_000000Z.mhl", fmt := some "c4", digest := some "c41x" },
   { seq := some "2", path := some "0002_A_2026-01-02_000000Z.mhl", fmt := some "c4", digest := some "c42y" }]

example : (∀ c ∈ exChain, FullChainEntry c) := by
  intro c hc
  simp only [exChain, List.mem_cons, List.not_mem_nil, or_false] at hc
  rcases hc with rfl | rfl <;>
    exact ⟨⟨_, rfl, by decide +kernel⟩, ⟨_, rfl, by decide +kernel⟩, ⟨_, rfl, by decide +kernel⟩,
      ⟨_, rfl, by decide +kernel⟩⟩

example : parseChain (chainToXml exChain) = exChain := by decide +kernel

/-! ## the reader on any tree; `WfGen` is the weakest condition -/

/-- the reader on ANY tree (not only on what the writer wrote): it never returns an entry whose format is not a
supported one, nor a record named "." among the records -/
theorem reader_returns_supported_formats (e : Elem) :
    (∀ r ∈ (parse e).records, r.path ≠ "." ∧ FormatsOk r.entries) ∧ ∀ r ∈ (parse e).rootHash, FormatsOk r.entries :=
  have := inv_run (events e) {} ⟨trivial, by simp, by simp, by simp⟩
  ⟨this.records, this.root⟩

theorem mem_nrec_entries (r : XRecord) (e : XEntry) : e ∈ (nrec r).entries ↔ e ∈ r.entries := by
  unfold nrec
  cases r.isDir <;> simp [mem_isort]

/-- if the round trip holds then the formats are supported and no record is named "." — because the reader never
returns anything else -/
theorem shape_of_roundtrip {g : XGen} (h : parse (toXml g) = norm g) : Shape g := by
  obtain ⟨hrecs, hroot⟩ := reader_returns_supported_formats (toXml g)
  rw [h, norm_eq] at hrecs hroot
  simp only at hrecs hroot
  refine ⟨?_, ?_⟩
  · intro r hr e he
    have hne : r.entries ≠ [] := fun h0 => by rw [h0] at he; cases he
    have := hroot (nroot r) (by simp [hr, hne])
    exact this e ((mem_nrec_entries r e).2 he)
  · intro r hr
    obtain ⟨hp, hg⟩ := hrecs (nrec r) (List.mem_map.2 ⟨r, hr, rfl⟩)
    exact ⟨hp, fun e he => hg e ((mem_nrec_entries r e).2 he)⟩

/-- **`WfGen` is exactly the condition under which the round trip holds** -/
theorem roundtrip_iff_wf (g : XGen) : parse (toXml g) = norm g ↔ WfGen g := by
  constructor
  · intro h
    have hs := shape_of_roundtrip h
    rw [parse_toXml_shape g hs] at h
    exact (readBack_eq_norm_iff hs).1 h
  · exact parse_toXml g

/-! ## every ingredient of `WfGen` is needed

For each ingredient a smallest manifest that violates only that ingredient: it is not well-formed, so by
`roundtrip_iff_wf` the round trip fails. -/

def Fails (g : XGen) : Prop := parse (toXml g) ≠ norm g

instance (g : XGen) : Decidable (Fails g) := by unfold Fails; infer_instance

/-- an unsupported format name: the element is not read as a digest -/
example : Fails (one { path := "a", entries := [{ fmt := "sha256", digest := "d" }] }) :=
  mt (roundtrip_iff_wf _).1 (by decide +kernel)

/-- a record named ".": it is taken for the root hash -/
example : Fails (one { path := ".", entries := [{ fmt := "md5", digest := "d" }] }) :=
  mt (roundtrip_iff_wf _).1 (by decide +kernel)

/-- an empty previous path reads back as absent -/
example : Fails (one { path := "a", prev := some "" }) := mt (roundtrip_iff_wf _).1 (by decide +kernel)

/-- a structure hash on an entry of a file record is not written -/
example : Fails (one { path := "a", entries := [{ fmt := "md5", digest := "d", shash := some "s" }] }) :=
  mt (roundtrip_iff_wf _).1 (by decide +kernel)

/-- an empty structure hash on an entry of a directory record reads back as absent -/
example : Fails (one { path := "a", isDir := true, entries := [{ fmt := "md5", digest := "d", shash := some "" }] }) :=
  mt (roundtrip_iff_wf _).1 (by decide +kernel)

def exTwice : XRecord :=
  { path := "a", isDir := true,
    entries := [{ fmt := "md5", digest := "d", shash := some "s" }, { fmt := "md5", digest := "e", shash := some "t" }] }

/-- a directory record with the same format twice and structure hashes: both go to the first entry -/
example : Fails (one exTwice) ∧
    (parse (toXml (one exTwice))).records.map (·.entries.map (·.shash)) = [[some "t", none]] := by decide +kernel

def exRootFile : XRecord :=
  { path := ".", isDir := false,
    entries := [{ fmt := "xxh64", digest := "d", shash := some "s" }, { fmt := "c4", digest := "e", shash := some "t" }] }

/-- a root hash that is not a directory record and whose entries are not in format order -/
example : Fails { rootHash := some exRootFile } := mt (roundtrip_iff_wf _).1 (by decide +kernel)

/-- … whereas with the entries in format order, or as a directory record, it is fine -/
example : WfGen { rootHash := some { exRootFile with entries := exRootFile.entries.reverse } } ∧
    WfGen { rootHash := some { exRootFile with isDir := true } } := by decide +kernel

/-- empty texts in the creator information, the process type, a reference -/
example : Fails { creator := { hostname := some "" } } := mt (roundtrip_iff_wf _).1 (by decide +kernel)
example : Fails { creator := { authors := [{ name := some "" }] } } := mt (roundtrip_iff_wf _).1 (by decide +kernel)
example : Fails { process := some "" } := mt (roundtrip_iff_wf _).1 (by decide +kernel)
example : Fails { refs := [{ path := some "", c4 := some "c4x" }] } := mt (roundtrip_iff_wf _).1 (by decide +kernel)

end MhlProps.C10
