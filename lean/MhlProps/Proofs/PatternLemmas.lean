/- The pattern lists of `MHLIgnoreSpec` (ascmhl/ignore.py; `appendPatterns`, `basePatterns`, `setPatterns` of MhlModel/Tree.lean).  `appendPatterns cur batch` is a fold of `appendNew`: `cur`
followed by the first occurrences of the patterns of `batch` that `cur` lacks (`foldl_appendNew_eq`);
`setPatterns ex cli file` is one `appendPatterns` of `cli ++ file` onto the starting list (its two emptiness tests decide
nothing); the starting list is the first occurrences of a non-empty list; a list `setPatterns` made is its own starting
list.  Every other fact about the three functions is read off these.  Last, the list a history hands to the next
run: `latestIgnore` (MhlModel/History.lean) after one more generation; options that name recorded patterns only leave
the latest list as it is (`setPatterns_latest_own`). -/
import MhlModel.History
import MhlProps.Proofs.ListLemmas

namespace MhlModel

/-! ### `appendPatterns` -/

theorem appendPatterns_append (cur a b : List String) :
    appendPatterns cur (a ++ b) = appendPatterns (appendPatterns cur a) b := List.foldl_append ..

theorem mem_appendPatterns (cur batch : List String) (x : String) :
    x ∈ appendPatterns cur batch ↔ x ∈ cur ∨ x ∈ batch := mem_foldl_appendNew' batch cur x

theorem nodup_appendPatterns (cur batch : List String) : (appendPatterns cur batch).Nodup ↔ cur.Nodup :=
  foldl_appendNew_nodup batch cur

theorem appendPatterns_of_nodup (cur l : List String) (hnd : (cur ++ l).Nodup) : appendPatterns cur l = cur ++ l :=
  foldl_appendNew_of_nodup l cur hnd

theorem appendPatterns_of_subset (cur batch : List String) (h : ∀ x ∈ batch, x ∈ cur) :
    appendPatterns cur batch = cur := by
  obtain ⟨added, he, -, -, hm⟩ := foldl_appendNew_eq batch cur
  rw [appendPatterns, he, List.eq_nil_iff_forall_not_mem.2 fun x hx => ((hm x).1 hx).2 (h x ((hm x).1 hx).1)]
  exact List.append_nil _

theorem appendPatterns_of_prefix (cur l : List String) (hp : cur <+: l) (hnd : l.Nodup) : appendPatterns cur l = l := by
  obtain ⟨rest, rfl⟩ := hp
  rw [appendPatterns_append, appendPatterns_of_subset cur cur (fun _ h => h), appendPatterns_of_nodup cur rest hnd]

theorem appendPatterns_nil_ne_nil (l : List String) (hne : l ≠ []) : appendPatterns [] l ≠ [] := by
  obtain ⟨a, as, rfl⟩ := List.exists_cons_of_ne_nil hne
  exact List.ne_nil_of_mem ((mem_appendPatterns [] (a :: as) a).2 (Or.inr List.mem_cons_self))

/-! ### `basePatterns` -/

theorem basePatterns_none : basePatterns none = Gen.defaultIgnore := by decide

theorem basePatterns_some_nil : basePatterns (some []) = Gen.defaultIgnore := by decide

theorem basePatterns_some_of_ne_nil (l : List String) (hne : l ≠ []) : basePatterns (some l) = appendPatterns [] l := by
  simp [basePatterns, hne]

theorem basePatterns_some (P : List String) (hne : P ≠ []) (hnd : P.Nodup) : basePatterns (some P) = P := by
  rw [basePatterns_some_of_ne_nil P hne, appendPatterns_of_nodup [] P (by simpa using hnd), List.nil_append]

theorem basePatterns_cases (ex : Option (List String)) :
    ∃ l, l ≠ [] ∧ basePatterns ex = appendPatterns [] l ∧
      (((ex = none ∨ ex = some []) ∧ l = Gen.defaultIgnore) ∨ ex = some l) := by
  rcases ex with _ | _ | ⟨a, l⟩
  · exact ⟨_, by decide, rfl, Or.inl ⟨Or.inl rfl, rfl⟩⟩
  · exact ⟨_, by decide, rfl, Or.inl ⟨Or.inr rfl, rfl⟩⟩
  · exact ⟨a :: l, by simp, basePatterns_some_of_ne_nil _ (by simp), Or.inr rfl⟩

theorem basePatterns_nodup (ex : Option (List String)) : (basePatterns ex).Nodup := by
  obtain ⟨l, -, h, -⟩ := basePatterns_cases ex
  rw [h, nodup_appendPatterns]
  exact List.nodup_nil

theorem basePatterns_ne_nil (ex : Option (List String)) : basePatterns ex ≠ [] := by
  obtain ⟨l, hne, h, -⟩ := basePatterns_cases ex
  rw [h]
  exact appendPatterns_nil_ne_nil l hne

theorem mem_basePatterns (ex : Option (List String)) (x : String) :
    x ∈ basePatterns ex ↔
      ((ex = none ∨ ex = some []) ∧ x ∈ Gen.defaultIgnore) ∨ (∃ l, ex = some l ∧ l ≠ [] ∧ x ∈ l) := by
  obtain ⟨l, hne, h, hex⟩ := basePatterns_cases ex
  rw [h, mem_appendPatterns]
  simp only [List.not_mem_nil, false_or]
  rcases hex with ⟨h0, rfl⟩ | rfl
  · refine ⟨fun hx => Or.inl ⟨h0, hx⟩, ?_⟩
    rintro (⟨-, hx⟩ | ⟨l, rfl, hl, -⟩)
    · exact hx
    · rcases h0 with h0 | h0
      · cases h0
      · exact absurd (Option.some.inj h0) hl
  · refine ⟨fun hx => Or.inr ⟨l, rfl, hne, hx⟩, ?_⟩
    rintro (⟨h0 | h0, -⟩ | ⟨l', h', -, hx⟩)
    · cases h0
    · exact absurd (Option.some.inj h0) hne
    · cases h'; exact hx

/-! ### `setPatterns` -/

/-- NORMAL FORM: the starting list, then the command-line patterns, then the file's -/
theorem setPatterns_eq (ex : Option (List String)) (cli file : List String) :
    setPatterns ex cli file = appendPatterns (basePatterns ex) (cli ++ file) := by
  rw [appendPatterns_append]
  unfold setPatterns
  cases cli <;> cases file <;> rfl

theorem basePatterns_prefix_setPatterns (ex : Option (List String)) (cli file : List String) :
    basePatterns ex <+: setPatterns ex cli file := by
  rw [setPatterns_eq]
  exact prefix_foldl_appendNew _ _

theorem mem_setPatterns (ex : Option (List String)) (cli file : List String) (x : String) :
    x ∈ setPatterns ex cli file ↔ x ∈ basePatterns ex ∨ x ∈ cli ∨ x ∈ file := by
  rw [setPatterns_eq, mem_appendPatterns, List.mem_append]

theorem nodup_setPatterns (ex : Option (List String)) (cli file : List String) : (setPatterns ex cli file).Nodup := by
  rw [setPatterns_eq, nodup_appendPatterns]
  exact basePatterns_nodup ex

theorem setPatterns_ne_nil (ex : Option (List String)) (cli file : List String) : setPatterns ex cli file ≠ [] := by
  intro h
  have := basePatterns_prefix_setPatterns ex cli file
  rw [h, List.prefix_nil] at this
  exact basePatterns_ne_nil ex this

theorem mem_setPatterns_of_recorded (ex : Option (List String)) (cli file : List String) {p : String}
    (hp : p ∈ ex.getD []) : p ∈ setPatterns ex cli file := by
  rcases ex with _ | l
  · cases hp
  · have hp : p ∈ l := hp
    exact (mem_setPatterns _ _ _ _).2 (Or.inl ((mem_basePatterns _ _).2 (Or.inr ⟨l, rfl, List.ne_nil_of_mem hp, hp⟩)))

theorem recorded_prefix_setPatterns (ex : Option (List String)) (cli file : List String) (hnd : (ex.getD []).Nodup) :
    ex.getD [] <+: setPatterns ex cli file := by
  rcases ex with _ | l
  · exact List.nil_prefix
  · by_cases hne : l = []
    · subst hne; exact List.nil_prefix
    · have := basePatterns_prefix_setPatterns (some l) cli file
      rwa [basePatterns_some l hne hnd] at this

theorem setPatterns_of_subset (ex : Option (List String)) (cli file : List String)
    (hcli : ∀ x ∈ cli, x ∈ basePatterns ex) (hfile : ∀ x ∈ file, x ∈ basePatterns ex) :
    setPatterns ex cli file = basePatterns ex := by
  rw [setPatterns_eq]
  exact appendPatterns_of_subset _ _ fun x hx => (List.mem_append.1 hx).elim (hcli x) (hfile x)

theorem basePatterns_setPatterns (ex : Option (List String)) (cli file : List String) :
    basePatterns (some (setPatterns ex cli file)) = setPatterns ex cli file :=
  basePatterns_some _ (setPatterns_ne_nil ex cli file) (nodup_setPatterns ex cli file)

theorem setPatterns_stable (ex : Option (List String)) (a b cli file : List String)
    (hcli : ∀ x ∈ cli, x ∈ setPatterns ex a b) (hfile : ∀ x ∈ file, x ∈ setPatterns ex a b) :
    setPatterns (some (setPatterns ex a b)) cli file = setPatterns ex a b := by
  rw [setPatterns_of_subset _ _ _ (by rwa [basePatterns_setPatterns]) (by rwa [basePatterns_setPatterns]),
    basePatterns_setPatterns]

/-- the list of the run laid over the recorded list once more (`write_new_generation` in the history the run's list
was computed from) is the list of the run -/
theorem setPatterns_own (ex : Option (List String)) (cli file : List String) :
    setPatterns ex (setPatterns ex cli file) [] = setPatterns ex cli file := by
  rw [setPatterns_eq ex _ [], List.append_nil]
  exact appendPatterns_of_prefix _ _ (basePatterns_prefix_setPatterns ex cli file) (nodup_setPatterns ex cli file)

/-! ### `latestIgnore` -/

theorem latestIgnore_append (gens : List LGen) (g : LGen) : latestIgnore (gens ++ [g]) = some g.gen.ignore := by
  simp [latestIgnore]

example : setPatterns none (setPatterns none ["*.tmp", ".DS_Store"] ["x/"]) [] =
      [".DS_Store", "ascmhl", "ascmhl/", "*.tmp", "x/"] ∧
    setPatterns (some (setPatterns none ["*.tmp", ".DS_Store"] ["x/"])) [] [] =
      [".DS_Store", "ascmhl", "ascmhl/", "*.tmp", "x/"] := by decide

theorem setPatterns_latest_own {gens : List LGen} {P : List String} (hl : latestIgnore gens = some P) (hne : P ≠ [])
    (hnd : P.Nodup) (cli file : List String) (hcli : ∀ x ∈ cli, x ∈ P) (hfile : ∀ x ∈ file, x ∈ P) :
    setPatterns (latestIgnore gens) cli file = P := by
  have hb := basePatterns_some P hne hnd
  rw [hl, setPatterns_of_subset (some P) cli file (by rw [hb]; exact hcli) (by rw [hb]; exact hfile), hb]

end MhlModel
