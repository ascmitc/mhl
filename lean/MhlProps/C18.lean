/-
C18 — A flattened manifest faithfully summarises the history.

About `MhlModel.flattenRecords` (the record list that `flatten` writes, before the entries of every record are
sorted by format name): for the generations `gens` of ONE history (no nested histories, renames not modelled) it
holds one record for every file path ever recorded with a digest that did not fail, and in that record, for each
format ever recorded (without failing) for that path, exactly one entry - the earliest one that did not fail - and
there are no directory records.  `gens : List LGen` is arbitrary throughout: nothing is assumed about it.

The proofs are in `MhlProps/Proofs/FlattenLemmas.lean`: `flattenRecords gens = (items gens).foldl ins []` where
`items gens` lists the non-failed entries of the file records in order; that fold is written in closed form
(`flattenRecords_closed`), and the closed form has the properties `Inv` lists.
The section on `sortedRecords` says the same of the records as `flatten` writes them (`sortedRecords_entries`,
`sortedRecords_of_first`), which is the form the end-to-end file C18e2e uses.
-/
import MhlProps.Proofs.FlattenLemmas

namespace MhlProps.C18
open MhlModel

/-- the definition of "earliest entry that did not fail", spelled out: generations in order, records in order,
entries in order; only file records with path `p`; the entry has format `fmt` and an action other than "failed" -/
example (gens : List LGen) (p fmt : String) :
    firstNonFailed gens p fmt =
      gens.findSome? fun g => g.gen.records.findSome? fun r =>
        if r.isDir = false ∧ r.path = p then r.entries.find? (fun e => e.fmt == fmt && e.action != "failed")
        else none := rfl

/-- what `firstNonFailed … = some e` gives in words that do not mention `find?`: `e` has the format, did not fail
and is an entry of a file record with path `p` of some generation.  (That nothing before it qualifies is not part
of the statement.) -/
theorem firstNonFailed_some (gens : List LGen) (p fmt : String) (e : Entry)
    (h : firstNonFailed gens p fmt = some e) :
    e.fmt = fmt ∧ e.action ≠ "failed" ∧
      ∃ g ∈ gens, ∃ r ∈ g.gen.records, r.isDir = false ∧ r.path = p ∧ e ∈ r.entries := by
  rw [firstNonFailed_eq_firstItem] at h
  obtain ⟨hf, it, hit, rfl, rfl⟩ := firstItem_some h
  obtain ⟨g, hg, r, hr, hd, e, he, hnf, rfl⟩ := (mem_items gens it).1 hit
  exact ⟨hf, hnf, g, hg, r, hr, hd, rfl, he⟩

theorem flatten_no_dirs (gens : List LGen) : ∀ r ∈ flattenRecords gens, r.isDir = false :=
  (flattenRecords_inv gens).noDir

theorem flatten_paths_unique (gens : List LGen) : ((flattenRecords gens).map (·.path)).Nodup :=
  (flattenRecords_inv gens).pathsNodup

theorem flatten_formats_unique (gens : List LGen) :
    ∀ r ∈ flattenRecords gens, (r.entries.map (·.fmt)).Nodup :=
  (flattenRecords_inv gens).fmtsNodup

theorem flatten_entry_is_earliest_sound (gens : List LGen) :
    ∀ r ∈ flattenRecords gens, ∀ e ∈ r.entries, firstNonFailed gens r.path e.fmt = some e := by
  intro r hr e he
  rw [firstNonFailed_eq_firstItem]
  exact (flattenRecords_inv gens).sound r hr e he

theorem flatten_entry_is_earliest_complete (gens : List LGen) (p fmt : String) (e : Entry)
    (h : firstNonFailed gens p fmt = some e) :
    ∃ r ∈ flattenRecords gens, r.path = p ∧ e ∈ r.entries := by
  rw [firstNonFailed_eq_firstItem] at h
  exact (flattenRecords_inv gens).complete p fmt e h

theorem flatten_entry_is_earliest (gens : List LGen) :
    (∀ r ∈ flattenRecords gens, ∀ e ∈ r.entries, firstNonFailed gens r.path e.fmt = some e) ∧
    (∀ p fmt e, firstNonFailed gens p fmt = some e → ∃ r ∈ flattenRecords gens, r.path = p ∧ e ∈ r.entries) :=
  ⟨flatten_entry_is_earliest_sound gens, flatten_entry_is_earliest_complete gens⟩

theorem flatten_entries_exact (gens : List LGen) (r : Record) (hr : r ∈ flattenRecords gens) (e : Entry) :
    e ∈ r.entries ↔ ∃ fmt, firstNonFailed gens r.path fmt = some e := by
  constructor
  · exact fun he => ⟨e.fmt, flatten_entry_is_earliest_sound gens r hr e he⟩
  · rintro ⟨fmt, h⟩
    obtain ⟨r', hr', hp, he⟩ := flatten_entry_is_earliest_complete gens _ _ _ h
    rw [eq_of_nodup_map (flatten_paths_unique gens) hr hr' hp.symm]
    exact he

theorem flatten_no_failed (gens : List LGen) :
    ∀ r ∈ flattenRecords gens, ∀ e ∈ r.entries, e.action ≠ "failed" := by
  intro r hr e he
  exact (firstNonFailed_some gens _ _ e (flatten_entry_is_earliest_sound gens r hr e he)).2.1

theorem flatten_paths_exact (gens : List LGen) (p : String) :
    (∃ r ∈ flattenRecords gens, r.path = p) ↔
      ∃ g ∈ gens, ∃ r ∈ g.gen.records, r.isDir = false ∧ r.path = p ∧ ∃ e ∈ r.entries, e.action ≠ "failed" := by
  constructor
  · rintro ⟨r, hr, rfl⟩
    obtain ⟨e, he⟩ := List.exists_mem_of_ne_nil _ ((flattenRecords_inv gens).nonempty r hr)
    have h := firstNonFailed_some gens _ _ e (flatten_entry_is_earliest_sound gens r hr e he)
    obtain ⟨_, hf, g, hg, r', hr', hd, hp, he'⟩ := h
    exact ⟨g, hg, r', hr', hd, hp, e, he', hf⟩
  · rintro ⟨g, hg, r, hr, hd, rfl, e, he, hf⟩
    have hmem : (⟨r.path, r.size, e⟩ : Item) ∈ items gens :=
      (mem_items gens _).mpr ⟨g, hg, r, hr, hd, e, he, hf, rfl⟩
    obtain ⟨e', h⟩ := firstItem_isSome_of_mem hmem
    obtain ⟨r', hr', hp, _⟩ := (flattenRecords_inv gens).complete _ _ _ h
    exact ⟨r', hr', hp⟩

/-- the statement of `flatten_paths_exact` with membership in the list of paths -/
theorem flatten_paths_exact' (gens : List LGen) (p : String) :
    p ∈ (flattenRecords gens).map (·.path) ↔
      ∃ g ∈ gens, ∃ r ∈ g.gen.records, r.isDir = false ∧ r.path = p ∧ ∃ e ∈ r.entries, e.action ≠ "failed" := by
  rw [← flatten_paths_exact, List.mem_map]

/-! ### the sorting that `flatten` applies afterwards changes nothing of the above -/

/-- `flattenRecords` with the entries of every record sorted by format name.  That these are the records of the
generation `flatten` writes is `flatten_eq` (with `flattenGen`) in `MhlProps/Proofs/FlattenE2ELemmas.lean`; nothing
in this file uses it. -/
def sortedRecords (gens : List LGen) : List Record :=
  (flattenRecords gens).map fun r => { r with entries := isort (fun a b => strLe a.fmt b.fmt) r.entries }

theorem sortedRecords_paths (gens : List LGen) :
    (sortedRecords gens).map (·.path) = (flattenRecords gens).map (·.path) := by
  unfold sortedRecords
  rw [List.map_map]
  rfl

theorem sortedRecords_spec (gens : List LGen) (r' : Record) :
    r' ∈ sortedRecords gens ↔
      ∃ r ∈ flattenRecords gens, r'.path = r.path ∧ r'.isDir = r.isDir ∧ r'.size = r.size ∧ r'.prev = r.prev ∧
        r'.entries = isort (fun a b => strLe a.fmt b.fmt) r.entries := by
  unfold sortedRecords
  rw [List.mem_map]
  constructor
  · rintro ⟨r, hr, rfl⟩
    exact ⟨r, hr, rfl, rfl, rfl, rfl, rfl⟩
  · rintro ⟨r, hr, h1, h2, h3, h4, h5⟩
    refine ⟨r, hr, ?_⟩
    cases r'; cases r
    simp_all

theorem sortedRecords_entries_perm (gens : List LGen) (r' : Record) (h : r' ∈ sortedRecords gens) :
    ∃ r ∈ flattenRecords gens, r'.path = r.path ∧ r'.entries.Perm r.entries := by
  obtain ⟨r, hr, hp, _, _, _, he⟩ := (sortedRecords_spec gens r').mp h
  exact ⟨r, hr, hp, he ▸ isort_perm _ _⟩

theorem sortedRecords_entries (gens : List LGen) (r : Record) (hr : r ∈ sortedRecords gens) :
    r.entries.Pairwise (fun a b => strLe a.fmt b.fmt = true) ∧ (r.entries.map (·.fmt)).Nodup ∧
      ∀ e, e ∈ r.entries ↔ firstNonFailed gens r.path e.fmt = some e := by
  obtain ⟨R, hR, rfl⟩ := List.mem_map.1 hr
  have hperm := isort_perm (fun (a b : Entry) => strLe a.fmt b.fmt) R.entries
  refine ⟨isort_key_sorted (fun e : Entry => e.fmt) R.entries,
    (hperm.map (·.fmt)).nodup_iff.2 (flatten_formats_unique gens R hR), fun e => ?_⟩
  rw [hperm.mem_iff]
  exact ⟨flatten_entry_is_earliest_sound gens R hR e, fun h => (flatten_entries_exact gens R hR e).2 ⟨_, h⟩⟩

theorem sortedRecords_of_first (gens : List LGen) (p fmt : String) (e : Entry)
    (h : firstNonFailed gens p fmt = some e) : ∃ r ∈ sortedRecords gens, r.path = p := by
  obtain ⟨R, hR, hp, -⟩ := flatten_entry_is_earliest_complete gens p fmt e h
  exact ⟨_, List.mem_map.2 ⟨R, hR, rfl⟩, hp⟩

/-! ### non-vacuity: a history with two generations, a directory record, a failed entry, a repeated format and a
format that is added later -/

def exGens : List LGen :=
  [ ⟨1, { fileName := "0001.mhl",
          records := [ { path := "a.mov", size := some 5, entries := [⟨"md5", "aa", "original", none⟩] },
                       { path := "sub", isDir := true, entries := [⟨"md5", "dd", "original", none⟩] },
                       { path := "b.mov", size := some 7, entries := [⟨"xxh64", "b0", "original", none⟩] } ] }⟩,
    ⟨2, { fileName := "0002.mhl",
          records := [ { path := "a.mov", size := some 5,
                         entries := [⟨"md5", "ab", "failed", none⟩, ⟨"xxh64", "a1", "new", none⟩] },
                       { path := "b.mov", size := some 7, entries := [⟨"xxh64", "b0", "verified", none⟩] },
                       { path := "c.mov", size := some 1, entries := [⟨"md5", "cc", "failed", none⟩] } ] }⟩ ]

example : flattenRecords exGens =
    [ { path := "a.mov", size := some 5, entries := [⟨"md5", "aa", "original", none⟩, ⟨"xxh64", "a1", "new", none⟩] },
      { path := "b.mov", size := some 7, entries := [⟨"xxh64", "b0", "original", none⟩] } ] := by decide +kernel

example : firstNonFailed exGens "a.mov" "xxh64" = some ⟨"xxh64", "a1", "new", none⟩ := by decide +kernel
example : firstNonFailed exGens "a.mov" "md5" = some ⟨"md5", "aa", "original", none⟩ := by decide +kernel
/-- a path whose only digest failed has no record, and a directory has none -/
example : firstNonFailed exGens "c.mov" "md5" = none ∧ firstNonFailed exGens "sub" "md5" = none := by decide +kernel
/-- the right-hand side of `flatten_paths_exact` holds of "a.mov" (and so does the left-hand side) -/
example : ∃ g ∈ exGens, ∃ r ∈ g.gen.records, r.isDir = false ∧ r.path = "a.mov" ∧
    ∃ e ∈ r.entries, e.action ≠ "failed" := by decide +kernel
example : ∃ r ∈ flattenRecords exGens, r.path = "a.mov" := (flatten_paths_exact exGens "a.mov").mpr (by decide +kernel)

end MhlProps.C18
