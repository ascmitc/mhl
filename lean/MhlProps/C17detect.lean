/-
C17detect — functional correctness of rename detection (`create -dr`), property C17:

  "a file moved or renamed without change of content is recorded under the new path with a reference to the
   previous path, is not reported missing, and later verify / diff / create accept the tree"

0–3: the double loop `detectRenames` on a FLAT history (`rootHist.children = []`) and a session whose lists are keyed
by root (`Session.RootsNodup`, an invariant of `touch` / `put`; it is NEEDED: `Session.put` overwrites every list with
the given root, see `put_needs_distinct_roots`): the result in closed form (0), sound, with the paths found again (1),
complete, with the previous path a record ends with (2), nothing but `prev` fields changes (3).  The pieces of the
loop have names in Proofs/DetectLemmas.lean (`holderOf`, `newDigest`,
`matchesB`, `setPrevOf`, `renamePairs`).

4–5: end to end.  C03e2e's `Setting` (a tree without history, sealed by a first `create`) and ONE file moved with
`MhlModel.moveFile` (hypotheses `MoveOk`), which gives a `Moved` pair of trees (`moveFile_moved`).  What the commands
say of a moved tree is proved in Proofs/RenameLemmas.lean for ANY history without nested histories that describes the
tree before the move (`MovedUnder`); `moved_under` is the instance for the first seal, and 4–5 are read off it.

6: (DESIGN.md §8, D19) the detection iterates `sorted(not_found_paths)`; when the candidates are unambiguous the order does not
matter, otherwise the LAST matching path of the list is recorded (`order_matters`).

Outside the property's domain, which demands pairwise different contents (`duplicate_hides_deletion`, an observation):
no uniqueness of digests is needed for a single move (one missing path, one new path: one candidate pair).  It matters
when two not-found paths carry the same first digest: both are linked to the one new path, both are taken off the
missing list (a deleted duplicate is not reported), the record keeps the LAST candidate (in the sorted order of the
path strings) as previous path, and a later `verify` reports the other one missing.

`exEnv` is `C17.exEnv` in the examples of 0–3 and of 6, and `C03e2e.exEnv` in the evaluations of 4–5.
-/
import MhlProps.C03e2e
import MhlProps.Proofs.RenameLemmas

namespace MhlProps.C17detect
open MhlModel

/-! ### 0. the result of the double loop, and `newDigest` spelled out -/

/-- the statement of `detectRenames_pairs` (Proofs/DetectLemmas.lean), under the name the property is claimed by, by
components.  The result of `detectRenames` on a flat history: with `ps = renamePairs …` (the matching pairs in loop order,
matching judged on the session GIVEN to the loop — earlier hits do not influence later comparisons), the session is
`setPrevOf` run over `ps`, the found-again list is the duplicate-free list of the old paths of `ps`, and the
reported renames are exactly `ps` as (old, new) texts, in that order. -/
theorem detectRenames_exact (env : Env) (t : Node) (rootHist : Hist) (hc : rootHist.children = [])
    (s : Session) (hs : s.RootsNodup) (newPaths notFound : List RelPath) :
    (detectRenames env t rootHist s newPaths notFound).1 =
        (renamePairs env t rootHist.gens s newPaths notFound).foldl (fun s x => setPrevOf s x.1 (posix x.2)) s ∧
    (detectRenames env t rootHist s newPaths notFound).2.1 =
        (renamePairs env t rootHist.gens s newPaths notFound).foldl (fun a x => appendNew a x.2) [] ∧
    (detectRenames env t rootHist s newPaths notFound).2.2 =
        (renamePairs env t rootHist.gens s newPaths notFound).map fun x => (posix x.2, posix x.1) := by
  rw [detectRenames_pairs env t rootHist hc s hs]
  exact ⟨rfl, rfl, rfl⟩

/-! ### 1. soundness, and which paths are found again -/

/-- never a rename without equal digests.  Every reported pair (old, new) is the text of a not-found path and of a
new path; the history has a first entry `oldE` for the old path, and the digest of the new path in `oldE.fmt` (from
its record of this run if that has the format, else computed from the file) IS `oldE.digest`. -/
theorem detectRenames_sound (env : Env) (t : Node) (rootHist : Hist) (hc : rootHist.children = [])
    (s : Session) (hs : s.RootsNodup) (newPaths notFound : List RelPath) (old new : String)
    (h : (old, new) ∈ (detectRenames env t rootHist s newPaths notFound).2.2) :
    ∃ np ∈ newPaths, ∃ nf ∈ notFound, ∃ oldE, old = posix nf ∧ new = posix np ∧
      findFirstAny rootHist.gens (posix nf) = some oldE ∧
      newDigest env t s np oldE.fmt = some oldE.digest := by
  obtain ⟨np, h1, nf, h2, h3, rfl, rfl⟩ := (detectRenames_renamed_iff env t rootHist s hs newPaths notFound old new).1 h
  rw [matchesG_flat env t rootHist hc] at h3
  obtain ⟨oldE, hE, hd⟩ := (matchesB_iff _ _ _ _ _ _).1 h3
  exact ⟨np, h1, nf, h2, oldE, by rw [route_flat rootHist hc], rfl, hE, hd⟩

/-- the same with the digest spelled out -/
theorem detectRenames_sound' (env : Env) (t : Node) (rootHist : Hist) (hc : rootHist.children = [])
    (s : Session) (hs : s.RootsNodup) (newPaths notFound : List RelPath) (old new : String)
    (h : (old, new) ∈ (detectRenames env t rootHist s newPaths notFound).2.2) :
    ∃ np ∈ newPaths, ∃ nf ∈ notFound, ∃ oldE l r, old = posix nf ∧ new = posix np ∧
      findFirstAny rootHist.gens (posix nf) = some oldE ∧ holderOf s np = some (l, r) ∧
      ((∃ e, r.entries.find? (fun e => e.fmt == oldE.fmt) = some e ∧ e.digest = oldE.digest) ∨
       (r.entries.find? (fun e => e.fmt == oldE.fmt) = none ∧
          ∃ nm c, t.at? np = some (.file nm c) ∧ env.H oldE.fmt c = oldE.digest)) := by
  obtain ⟨np, h1, nf, h2, oldE, h3, h4, h5, h6⟩ := detectRenames_sound env t rootHist hc s hs newPaths notFound old new h
  obtain ⟨l, r, h7, h8⟩ := (newDigest_eq_some_iff _ _ _ _ _ _).1 h6
  exact ⟨np, h1, nf, h2, oldE, l, r, h3, h4, h5, h7, h8⟩

theorem detectRenames_found_iff (env : Env) (t : Node) (rootHist : Hist) (hc : rootHist.children = [])
    (s : Session) (hs : s.RootsNodup) (newPaths notFound : List RelPath) (nf : RelPath) :
    nf ∈ (detectRenames env t rootHist s newPaths notFound).2.1 ↔
      nf ∈ notFound ∧ ∃ np ∈ newPaths, matchesB env t rootHist.gens s np nf = true := by
  rw [detectRenames_found_iffG env t rootHist s hs]
  simp only [matchesG_flat env t rootHist hc]

/-! ### 2. completeness, and the previous path a record ends with -/

/-- a new path and a not-found path whose first recorded entry has the digest of the new path in its format ARE
reported as a rename, and the not-found path is taken off the missing list — for EVERY such pair (several old paths
may be linked to one new path and vice versa). -/
theorem detectRenames_complete (env : Env) (t : Node) (rootHist : Hist) (hc : rootHist.children = [])
    (s : Session) (hs : s.RootsNodup) (newPaths notFound : List RelPath) (np nf : RelPath) (oldE : Entry)
    (hnp : np ∈ newPaths) (hnf : nf ∈ notFound) (hE : findFirstAny rootHist.gens (posix nf) = some oldE)
    (hd : newDigest env t s np oldE.fmt = some oldE.digest) :
    (posix nf, posix np) ∈ (detectRenames env t rootHist s newPaths notFound).2.2 ∧
    nf ∈ (detectRenames env t rootHist s newPaths notFound).2.1 := by
  have hm : matchesG env t rootHist s np nf = true := by
    rw [matchesG_flat env t rootHist hc]
    exact (matchesB_iff _ _ _ _ _ _).2 ⟨oldE, hE, hd⟩
  exact ⟨(detectRenames_renamed_iff env t rootHist s hs newPaths notFound _ _).2
      ⟨np, hnp, nf, hnf, hm, by rw [route_flat rootHist hc], rfl⟩,
    (detectRenames_found_iffG env t rootHist s hs newPaths notFound nf).2 ⟨hnf, np, hnp, hm⟩⟩

/-- what the loop leaves in the `prev` field of the record of a new path `np` (an ordinary record: the rest of the
path below the list root is not "."; on a flat history the root record is never touched).  With `ps` the matching
pairs in loop order, it is the old path of the LAST pair of `ps` whose new path has the same holder key (list root,
record path) as `np`; the record's own previous path if there is no such pair. -/
theorem detectRenames_prev (env : Env) (t : Node) (rootHist : Hist) (hc : rootHist.children = [])
    (s : Session) (hs : s.RootsNodup) (newPaths notFound : List RelPath) (np : RelPath) (l : NewList) (r : Record)
    (hh : holderOf s np = some (l, r)) (hk : posix (np.drop l.root.length) ≠ ".") :
    ∃ l', holderOf (detectRenames env t rootHist s newPaths notFound).1 np =
        some (l', { r with prev := (renamePairs env t rootHist.gens s newPaths notFound).foldl (fun acc x =>
          if holderKey s x.1 = holderKey s np then some (posix x.2) else acc) r.prev }) ∧
      l'.root = l.root := by
  rw [(detectRenames_exact env t rootHist hc s hs newPaths notFound).1]
  exact holderOf_foldl_setPrev _ s hs np l r hh hk

/-- if `np` is the only new path WITH A MATCH that has its holder key (true when the session has the single list of
the root history and the new paths are made of well-formed names, `holderKey_inj_single`), the record of `np` ends up
with the LAST not-found path (in `notFound` order) that matches `np` as previous path: the last one wins, although all
matching ones are taken off the missing list (`detectRenames_complete`). -/
theorem detectRenames_prev_unique (env : Env) (t : Node) (rootHist : Hist) (hc : rootHist.children = [])
    (s : Session) (hs : s.RootsNodup) (newPaths notFound : List RelPath) (np : RelPath) (l : NewList) (r : Record)
    (hh : holderOf s np = some (l, r)) (hk : posix (np.drop l.root.length) ≠ ".") (hnp : np ∈ newPaths)
    (nfLast : RelPath)
    (hlast : (notFound.filter (matchesB env t rootHist.gens s np)).getLast? = some nfLast)
    (huniq : ∀ np' ∈ newPaths, (∃ nf ∈ notFound, matchesB env t rootHist.gens s np' nf = true) →
      holderKey s np' = holderKey s np → np' = np) :
    ∃ l', holderOf (detectRenames env t rootHist s newPaths notFound).1 np =
        some (l', { r with prev := some (posix nfLast) }) ∧ l'.root = l.root := by
  obtain ⟨l', h1, h2⟩ := detectRenames_prev env t rootHist hc s hs newPaths notFound np l r hh hk
  refine ⟨l', ?_, h2⟩
  rw [h1]
  unfold renamePairs
  rw [foldl_prev_renamePairs (holderKey s) (matchesB env t rootHist.gens s) newPaths notFound np nfLast hlast huniq]
  simp [hnp]

theorem detectRenames_prev_single (env : Env) (t : Node) (rootHist : Hist) (hc : rootHist.children = [])
    (s : Session) (hs : s.RootsNodup) (newPaths notFound : List RelPath) (np nf : RelPath) (l : NewList) (r : Record)
    (hh : holderOf s np = some (l, r)) (hk : posix (np.drop l.root.length) ≠ ".") (hnp : np ∈ newPaths)
    (hone : notFound.filter (matchesB env t rootHist.gens s np) = [nf])
    (huniq : ∀ np' ∈ newPaths, (∃ nf ∈ notFound, matchesB env t rootHist.gens s np' nf = true) →
      holderKey s np' = holderKey s np → np' = np) :
    ∃ l', holderOf (detectRenames env t rootHist s newPaths notFound).1 np =
        some (l', { r with prev := some (posix nf) }) ∧ l'.root = l.root :=
  detectRenames_prev_unique env t rootHist hc s hs newPaths notFound np l r hh hk hnp nf (by rw [hone]; rfl) huniq

theorem detectRenames_prev_untouched (env : Env) (t : Node) (rootHist : Hist) (hc : rootHist.children = [])
    (s : Session) (hs : s.RootsNodup) (newPaths notFound : List RelPath) (np : RelPath) (l : NewList) (r : Record)
    (hh : holderOf s np = some (l, r)) (hk : posix (np.drop l.root.length) ≠ ".")
    (hno : ∀ x ∈ renamePairs env t rootHist.gens s newPaths notFound, holderKey s x.1 ≠ holderKey s np) :
    ∃ l', holderOf (detectRenames env t rootHist s newPaths notFound).1 np = some (l', r) ∧ l'.root = l.root := by
  obtain ⟨l', h1, h2⟩ := detectRenames_prev env t rootHist hc s hs newPaths notFound np l r hh hk
  refine ⟨l', ?_, h2⟩
  rw [h1]
  have : ∀ (ps : List (RelPath × RelPath)) (i : Option String), (∀ x ∈ ps, holderKey s x.1 ≠ holderKey s np) →
      ps.foldl (fun acc x => if holderKey s x.1 = holderKey s np then some (posix x.2) else acc) i = i := by
    intro ps
    induction ps with
    | nil => intro i _; rfl
    | cons p ps ih =>
      intro i h
      rw [List.foldl_cons, if_neg (h p (by simp))]
      exact ih i (fun x hx => h x (by simp [hx]))
  rw [this _ _ hno]

/-! ### 3. nothing but `prev` changes -/

/-- the session after the loop differs from the one before in `prev` fields of records only: erasing those gives
the same session -/
theorem detectRenames_preserves_records (env : Env) (t : Node) (rootHist : Hist) (hc : rootHist.children = [])
    (s : Session) (hs : s.RootsNodup) (newPaths notFound : List RelPath) :
    let s' := (detectRenames env t rootHist s newPaths notFound).1
    eraseSess s' = eraseSess s ∧
    s'.patterns = s.patterns ∧
    s'.lists.length = s.lists.length ∧
    s'.lists.map (·.root) = s.lists.map (·.root) ∧
    s'.lists.map (·.rootRec) = s.lists.map (·.rootRec) ∧
    s'.lists.map (fun l => l.records.map fun r => (r.path, r.isDir, r.size, r.entries)) =
      s.lists.map (fun l => l.records.map fun r => (r.path, r.isDir, r.size, r.entries)) ∧
    s'.RootsNodup := by
  intro s'
  have he : eraseSess s' = eraseSess s := by
    show eraseSess (detectRenames env t rootHist s newPaths notFound).1 = _
    rw [(detectRenames_exact env t rootHist hc s hs newPaths notFound).1]
    exact eraseSess_foldl_setPrevOf _ s hs
  have h1 : ∀ x : Session, (eraseSess x).patterns = x.patterns := fun _ => rfl
  have h2 : ∀ x : Session, (eraseSess x).lists.map (·.root) = x.lists.map (·.root) := eraseSess_roots
  have h3 : ∀ x : Session, (eraseSess x).lists.map (·.rootRec) = x.lists.map (·.rootRec) := by
    intro x; simp [eraseSess, eraseList, List.map_map, Function.comp_def]
  have h4 : ∀ x : Session,
      (eraseSess x).lists.map (fun l => l.records.map fun r => (r.path, r.isDir, r.size, r.entries)) =
      x.lists.map (fun l => l.records.map fun r => (r.path, r.isDir, r.size, r.entries)) := by
    intro x; simp [eraseSess, eraseList, eraseRec, List.map_map, Function.comp_def]
  have hroots : s'.lists.map (·.root) = s.lists.map (·.root) := by rw [← h2, he, h2]
  refine ⟨he, by rw [← h1, he, h1], ?_, hroots, by rw [← h3, he, h3], by rw [← h4, he, h4],
    rootsNodup_of_erase he hs⟩
  have := congrArg List.length hroots
  simpa using this

/-! ### non-vacuity of 0–3 -/

section examples
open MhlProps.C17

/-- two old names with the same first digest, one new file with that digest, one new file with another digest -/
def g1' : LGen := ⟨1, { fileName := "0001.mhl", records :=
  [{ path := "a.txt", entries := [C17.e] }, { path := "a2.txt", entries := [C17.e] },
   { path := "z.txt", entries := [{ fmt := "md5", digest := "77", action := "original" }] }] }⟩
def exHist2 : Hist := .mk [] [g1'] [] true []
def exTree2 : Node := .dir "root" [.file "b.txt" [1], .file "c.txt" [2]] none
/-- the record of c.txt carries no md5 digest: it is computed from the file -/
def exSession2 : Session := { lists := [{ root := [], records :=
  [{ path := "b.txt", entries := [C17.e] }, { path := "c.txt", entries := [{ fmt := "sha1", digest := "ff" }] }] }] }

theorem exSession2_ok : exSession2.RootsNodup := by unfold Session.RootsNodup; decide

/-- without the uniqueness of the digest BOTH old names are linked to the new file: both are taken off the missing
list, both pairs are reported, and the record of b.txt keeps the LAST one as previous path -/
example : (detectRenames exEnv exTree2 exHist2 exSession2 [["b.txt"], ["c.txt"]] [["a.txt"], ["z.txt"], ["a2.txt"]]).2 =
    ([["a.txt"], ["a2.txt"]], [("a.txt", "b.txt"), ("a2.txt", "b.txt")]) := by decide +kernel

example : ((detectRenames exEnv exTree2 exHist2 exSession2 [["b.txt"], ["c.txt"]]
      [["a.txt"], ["z.txt"], ["a2.txt"]]).1.lists.map fun l => l.records.map fun r => (r.path, r.prev)) =
    [[("b.txt", some "a2.txt"), ("c.txt", none)]] := by decide +kernel

/-- the hypotheses of `detectRenames_prev_unique` hold there with `nfLast = a2.txt` -/
example : exHist2.children = [] ∧
    (∃ l, holderOf exSession2 ["b.txt"] = some (l, { path := "b.txt", entries := [C17.e] }) ∧
      posix ((["b.txt"] : RelPath).drop l.root.length) ≠ ".") ∧
    ([["a.txt"], ["z.txt"], ["a2.txt"]].filter (matchesB exEnv exTree2 exHist2.gens exSession2 ["b.txt"])).getLast? =
      some ["a2.txt"] ∧
    (∀ np' ∈ [["b.txt"], ["c.txt"]],
      (∃ nf ∈ [["a.txt"], ["z.txt"], ["a2.txt"]], matchesB exEnv exTree2 exHist2.gens exSession2 np' nf = true) →
      holderKey exSession2 np' = holderKey exSession2 ["b.txt"] → np' = ["b.txt"]) := by
  refine ⟨rfl, ⟨_, rfl, by decide⟩, by decide +kernel⟩

/-- … and those of `detectRenames_sound` / `detectRenames_complete` on the pair (a.txt, b.txt) -/
example : (("a.txt", "b.txt") ∈ (detectRenames exEnv exTree2 exHist2 exSession2 [["b.txt"], ["c.txt"]]
      [["a.txt"], ["z.txt"], ["a2.txt"]]).2.2) ∧
    findFirstAny exHist2.gens (posix ["a.txt"]) = some C17.e ∧
    newDigest exEnv exTree2 exSession2 ["b.txt"] C17.e.fmt = some C17.e.digest := by
  decide +kernel

/-- a digest computed from the file (the record of c.txt has no md5 entry): z.txt ↦ c.txt when the content fits -/
example : (detectRenames { exEnv with H := fun _ c => if c = [2] then "77" else "ff" } exTree2 exHist2 exSession2
      [["c.txt"]] [["z.txt"]]).2 = ([["z.txt"]], [("z.txt", "c.txt")]) := by decide +kernel

/-- `Session.put` overwrites EVERY list with the root of the given one: on a session with two lists of the same
root the loop does change more than `prev` fields, so `RootsNodup` cannot be dropped from 3. -/
theorem put_needs_distinct_roots :
    let s : Session := { lists := [{ root := [], records := [{ path := "x" }] },
                                   { root := [], records := [{ path := "b.txt", entries := [C17.e] }] }] }
    ((detectRenames exEnv C17.exTree C17.exHist s [["b.txt"]] [["a.txt"]]).1.lists.map fun l =>
      l.records.map (·.path)) = [["b.txt"], ["b.txt"]] := by decide +kernel

end examples

/-! ### 4. end to end: seal, move one file, `create -dr`, verify / diff -/

section e2e
open MhlProps.C03e2e MhlProps.C02rec MhlProps.C04

variable {env : Env} {rn : String} {cs cs2 : List Node} {o : CreateOpts} {a b : RelPath} {c : Bytes}

/-- the sealed tree of C03e2e's setting after the move: the children `cs2`, the `ascmhl` folder with generation 1 -/
def movedTree (rn : String) (cs2 : List Node) (w : Written) : Node := .dir rn cs2 (some (firstStore w))

section moved
variable (hS : Setting env rn cs o) (w : Written) (hw : (createFolder env (.dir rn cs none) o).written = [w])
  (hM : Moved (hit0 env o) rn cs cs2 a b c)
include hS hw hM

theorem movedTree_loads : loadHistory (movedTree rn cs2 w) = .ok (sealedHist w) :=
  firstStore_loads hS w hw cs2 hM.flat

/-- the first seal of the setting is a history under which one file was moved (`MovedUnder`): a sealed generation
records what the tree shows plainly, and knows nothing of a path the tree does not show -/
theorem moved_under :
    MovedUnder env (sealedHist w) (pats o) (fun _ => firstFormat o.formats) rn cs cs2 a b c := by
  have hrec := sealed_records hS w hw
  have hsg := hrec.sealedGen
  refine ⟨sealed_describes hS w hw, hM, fun p => ⟨hsg.expected hS.namesOk 1 _ _ p, fun ⟨d, hd⟩ =>
    hsg.expected_of_visible hS.namesOk 1 _ _ p d hd⟩, fun p d hp => ?_, fun p _ => hsg.recordedName_eq 1 _,
    fun g hg => ?_⟩
  · cases h : isNewPath (sealedHist w) p with
    | false => rfl
    | true => exact absurd ((hsg.paths (posix p)).2 ⟨(p, d), hp, rfl⟩) ((isNewPath_single 1 _ true p).1 h)
  · obtain rfl := List.mem_singleton.1 hg
    obtain ⟨hne, hbok⟩ := visible_names_ok _ _ hM.namesOk _ hM.dstVisible
    exact hrec.find_none (fun x hx => (visible_names_ok _ _ hS.namesOk x hx).2) hne hbok hM.dstFresh

section dr
variable (o₂ : CreateOpts) (hf₂ : o₂.formats ≠ []) (hdr₂ : o₂.detectRenaming = true)
  (hcli : ∀ x ∈ o₂.ignoreCli, x ∈ setPatterns none o.ignoreCli o.ignoreFile)
  (hfile : ∀ x ∈ o₂.ignoreFile, x ∈ setPatterns none o.ignoreCli o.ignoreFile)
include hf₂ hdr₂ hcli hfile

/-- END TO END for ONE moved file.  Start from C03e2e's setting (a tree without history sealed by a first `create`,
generation `w`), let the children become `cs2` where the visible file `a` (content `c`) has been moved to the fresh,
not ignored path `b` (`Moved`).  Then `create -dr` (any non-empty format list, with or without directory hashes)

* ends with exit code 0, reports no missing file, no mismatch, and exactly the rename `(a, b)`;
* writes generation 2, whose record for `b` carries `previousPath = a`, the size, and ONE `original` ENTRY PER
  REQUESTED FORMAT with the digest of the content (the new path has no history, so `append_file_hash` takes the
  digests as originals — the link to the first generation is the previous path alone); no other record carries a
  previous path;
* and on the tree with that generation written, `verify` and `diff` end with exit code 0 and empty reports
  (the file at `b` is looked up under `a`, `recordedName`, and `a` is not among the `expectedPaths`).

No hypothesis on other files having a different digest is needed: with one path missing and one path new there is
one candidate pair (see `duplicate_hides_deletion` for what happens with two). -/
theorem rename_e2e_moved :
    (createFolder env (movedTree rn cs2 w) o₂).err = none ∧
    (createFolder env (movedTree rn cs2 w) o₂).exitCode = 0 ∧
    (createFolder env (movedTree rn cs2 w) o₂).report.missing = [] ∧
    (createFolder env (movedTree rn cs2 w) o₂).report.mismatch = [] ∧
    (createFolder env (movedTree rn cs2 w) o₂).report.renamed = [(posix a, posix b)] ∧
    (∃ w₂, (createFolder env (movedTree rn cs2 w) o₂).written = [w₂] ∧ w₂.histRoot = [] ∧ w₂.number = 2 ∧
      (∃ r ∈ w₂.gen.records, r.path = posix b ∧ r.prev = some (posix a) ∧ r.isDir = false ∧
        r.size = some c.length ∧
        (∀ e ∈ r.entries, e.action = "original" ∧ e.digest = env.H e.fmt c) ∧
        (∀ f ∈ o₂.formats, ∃ e ∈ r.entries, e.fmt = f)) ∧
      (∀ r ∈ w₂.gen.records, r.path ≠ posix b → r.prev = none)) ∧
    (let t3 := applyWritten (movedTree rn cs2 w) (createFolder env (movedTree rn cs2 w) o₂).written
     (verify env t3 {}).err = none ∧ (verify env t3 {}).exitCode = 0 ∧
     (verify env t3 {}).report.mismatch = [] ∧ (verify env t3 {}).report.new = [] ∧
     (verify env t3 {}).report.missing = [] ∧
     (diff env t3 {}).err = none ∧ (diff env t3 {}).exitCode = 0 ∧
     (diff env t3 {}).report.new = [] ∧ (diff env t3 {}).report.missing = []) := by
  obtain ⟨w₂, h1, h2, h3, h4, h5, hroot2, hnum2, hprev, hrec, happ, H', hl', -, hD⟩ :=
    (moved_under hS w hw hM).create_dr _ (movedTree_loads hS w hw hM) o₂ hf₂ hdr₂ hcli hfile rfl hS.rootName hS.stamp
  obtain ⟨a1, a2, a3, a4, a5⟩ := hD.verify_ok _ hl' true
  obtain ⟨b1, b2, -, b4, b5⟩ := hD.verify_ok _ hl' false
  replace h1 : (createFolder env (movedTree rn cs2 w) o₂).err = none := h1
  replace h2 : (createFolder env (movedTree rn cs2 w) o₂).written = [w₂] := h2
  replace happ : applyWritten (movedTree rn cs2 w) [w₂] = _ := happ
  refine ⟨h1, ?_, h4, h3, h5, ⟨w₂, h2, hroot2, hnum2, hrec, hprev⟩, ?_⟩
  · unfold Outcome.exitCode; rw [h1]
  · rw [h2, happ]
    exact ⟨a1, a2, a3, a4, a5, b1, b2, b4, b5⟩

/-- "… and later create accepts the tree": a further folder-mode `create` (any format list, no `-dr` needed) on the
tree with the generation of the `create -dr` run ends with exit code 0 and writes generation 3: every file — the moved
one included — is verified against the digests recorded for its CURRENT path. -/
theorem reseal_after_rename (o₃ : CreateOpts) (hdr₃ : o₃.detectRenaming = false)
    (hcli₃ : ∀ x ∈ o₃.ignoreCli, x ∈ setPatterns none o.ignoreCli o.ignoreFile)
    (hfile₃ : ∀ x ∈ o₃.ignoreFile, x ∈ setPatterns none o.ignoreCli o.ignoreFile) :
    let t3 := applyWritten (movedTree rn cs2 w) (createFolder env (movedTree rn cs2 w) o₂).written
    (createFolder env t3 o₃).err = none ∧ (createFolder env t3 o₃).exitCode = 0 ∧
    (createFolder env t3 o₃).report.mismatch = [] ∧ (createFolder env t3 o₃).report.missing = [] ∧
    ∃ w₃, (createFolder env t3 o₃).written = [w₃] ∧ w₃.histRoot = [] ∧ w₃.number = 3 := by
  obtain ⟨w₂, -, h2, -, -, -, -, hnum2, -, -, happ, H', hl', hg', hD⟩ :=
    (moved_under hS w hw hM).create_dr _ (movedTree_loads hS w hw hM) o₂ hf₂ hdr₂ hcli hfile rfl hS.rootName hS.stamp
  obtain ⟨w₃, e1, e2, e3, e4, -, hw₃⟩ := hD.reseal _ hl' o₃ hdr₃ hcli₃ hfile₃
  obtain ⟨hnum, hroot, -⟩ := MhlProps.C06.writeOne_number _ _ _ _ _ _ _ _ hw₃
  replace h2 : (createFolder env (movedTree rn cs2 w) o₂).written = [w₂] := h2
  replace happ : applyWritten (movedTree rn cs2 w) [w₂] = _ := happ
  rw [h2, happ]
  refine ⟨e1, ?_, e3, e4, w₃, e2, hroot.trans hD.root, ?_⟩
  · unfold Outcome.exitCode; rw [e1]
  · rw [hnum, hg', hnum2]; rfl

end dr

/-! ### 5. the same move without `-dr` -/

/-- without `-dr` the same move makes folder-mode `create` end with `CompletenessCheckFailedException` (exit code 10)
naming `a` (the generation is written all the same, the new path in it as a new file with `original` digests and NO
previous path) -/
theorem move_without_dr_create (o₂ : CreateOpts) (hdr₂ : o₂.detectRenaming = false)
    (hcli : ∀ x ∈ o₂.ignoreCli, x ∈ setPatterns none o.ignoreCli o.ignoreFile)
    (hfile : ∀ x ∈ o₂.ignoreFile, x ∈ setPatterns none o.ignoreCli o.ignoreFile) :
    (createFolder env (movedTree rn cs2 w) o₂).err = some errMissingFiles ∧
    (createFolder env (movedTree rn cs2 w) o₂).exitCode = 10 ∧
    (createFolder env (movedTree rn cs2 w) o₂).report.missing = [posix a] ∧
    (createFolder env (movedTree rn cs2 w) o₂).report.mismatch = [] ∧
    (createFolder env (movedTree rn cs2 w) o₂).report.renamed = [] ∧
    ∃ w₂, (createFolder env (movedTree rn cs2 w) o₂).written = [w₂] :=
  (moved_under hS w hw hM).create _ (movedTree_loads hS w hw hM) o₂ hdr₂ hcli hfile

/-- on the moved tree (generation 1 only) `verify` reports `b` as new and `a` as missing, no mismatch, and ends with
`NewFilesFoundException` (exit code 21: new files rank above missing ones); `diff` reports the same two and ends with
exit code 10 (missing files rank above new ones there) -/
theorem move_without_dr_verify (hashing : Bool) :
    (verifyOrDiff env (movedTree rn cs2 w) {} hashing none).report.new = [posix b] ∧
    (verifyOrDiff env (movedTree rn cs2 w) {} hashing none).report.missing = [posix a] ∧
    (verifyOrDiff env (movedTree rn cs2 w) {} hashing none).report.mismatch = [] ∧
    (verifyOrDiff env (movedTree rn cs2 w) {} hashing none).exitCode = if hashing then 21 else 10 := by
  obtain ⟨-, h2, h3, h4, h5⟩ := (moved_under hS w hw hM).verify _ (movedTree_loads hS w hw hM) hashing
  exact ⟨h4, h5, h3, h2⟩

end moved

/-! ### 4 and 5 with the move made by the model's tree operations -/

/-- the freshly sealed tree of the setting with the file `pa/na` moved to `pb/nb` (`MhlModel.moveFile`: the node is
removed from the folder `pa`, a file node `nb` with the same content is added to the folder `pb`) -/
def movedSealed (env : Env) (rn : String) (cs : List Node) (o : CreateOpts) (pa : RelPath) (na : String)
    (pb : RelPath) (nb : String) : Node :=
  moveFile (sealedTree env rn cs o) pa na pb nb (fileContent (.dir rn cs none) (pa ++ [na]))

/-- the hypotheses on the move: the source is a visible file; the destination folder is the root or a visible
folder; the new name is well-formed ('/'-free, not "."); nothing is at the destination yet; the destination is not
ignored -/
structure MoveOk (env : Env) (rn : String) (cs : List Node) (o : CreateOpts) (pa : RelPath) (na : String)
    (pb : RelPath) (nb : String) : Prop where
  src : (pa ++ [na], false) ∈ visiblePaths (hit0 env o) (.dir rn cs none)
  dstFolder : pb = [] ∨ (pb, true) ∈ visiblePaths (hit0 env o) (.dir rn cs none)
  name : NameOk nb
  fresh : (Node.dir rn cs none).at? (pb ++ [nb]) = none
  notIgnored : hit0 env o (pb ++ [nb]) = false

theorem movedSealed_eq (hS : Setting env rn cs o) (w : Written)
    (hw : (createFolder env (.dir rn cs none) o).written = [w]) (pa : RelPath) (na : String) (pb : RelPath)
    (nb : String) :
    movedSealed env rn cs o pa na pb nb =
      movedTree rn (movedKids cs pa na pb nb (fileContent (.dir rn cs none) (pa ++ [na]))) w := by
  unfold movedSealed movedTree
  rw [sealedTree_eq hS w hw, moveFile_dir]

theorem moveOk_moved (hS : Setting env rn cs o) {pa : RelPath} {na : String} {pb : RelPath} {nb : String}
    (hmv : MoveOk env rn cs o pa na pb nb) :
    Moved (hit0 env o) rn cs (movedKids cs pa na pb nb (fileContent (.dir rn cs none) (pa ++ [na])))
      (pa ++ [na]) (pb ++ [nb]) (fileContent (.dir rn cs none) (pa ++ [na])) :=
  moveFile_moved (hit0 env o) rn cs pa na pb nb hS.flat hS.distinct hS.namesOk hmv.src hmv.dstFolder hmv.name
    hmv.fresh hmv.notIgnored

/-- seal a tree, move ONE file with the model's tree operations (same folder or another visible folder, new name
fresh and not ignored), run `create -dr`, write the generation back, run `verify` and `diff`.  See
`rename_e2e_moved` for the reading of the conclusion. -/
theorem rename_e2e (hS : Setting env rn cs o) (pa : RelPath) (na : String) (pb : RelPath) (nb : String)
    (hmv : MoveOk env rn cs o pa na pb nb)
    (o₂ : CreateOpts) (hf₂ : o₂.formats ≠ []) (hdr₂ : o₂.detectRenaming = true)
    (hcli : ∀ x ∈ o₂.ignoreCli, x ∈ setPatterns none o.ignoreCli o.ignoreFile)
    (hfile : ∀ x ∈ o₂.ignoreFile, x ∈ setPatterns none o.ignoreCli o.ignoreFile) :
    (createFolder env (movedSealed env rn cs o pa na pb nb) o₂).err = none ∧
    (createFolder env (movedSealed env rn cs o pa na pb nb) o₂).exitCode = 0 ∧
    (createFolder env (movedSealed env rn cs o pa na pb nb) o₂).report.missing = [] ∧
    (createFolder env (movedSealed env rn cs o pa na pb nb) o₂).report.mismatch = [] ∧
    (createFolder env (movedSealed env rn cs o pa na pb nb) o₂).report.renamed =
      [(posix (pa ++ [na]), posix (pb ++ [nb]))] ∧
    (∃ w₂, (createFolder env (movedSealed env rn cs o pa na pb nb) o₂).written = [w₂] ∧ w₂.histRoot = [] ∧
      w₂.number = 2 ∧
      (∃ r ∈ w₂.gen.records, r.path = posix (pb ++ [nb]) ∧ r.prev = some (posix (pa ++ [na])) ∧ r.isDir = false ∧
        r.size = some (fileContent (.dir rn cs none) (pa ++ [na])).length ∧
        (∀ e ∈ r.entries, e.action = "original" ∧
          e.digest = env.H e.fmt (fileContent (.dir rn cs none) (pa ++ [na]))) ∧
        (∀ f ∈ o₂.formats, ∃ e ∈ r.entries, e.fmt = f)) ∧
      (∀ r ∈ w₂.gen.records, r.path ≠ posix (pb ++ [nb]) → r.prev = none)) ∧
    (let t3 := applyWritten (movedSealed env rn cs o pa na pb nb)
        (createFolder env (movedSealed env rn cs o pa na pb nb) o₂).written
     (verify env t3 {}).err = none ∧ (verify env t3 {}).exitCode = 0 ∧
     (verify env t3 {}).report.mismatch = [] ∧ (verify env t3 {}).report.new = [] ∧
     (verify env t3 {}).report.missing = [] ∧
     (diff env t3 {}).err = none ∧ (diff env t3 {}).exitCode = 0 ∧
     (diff env t3 {}).report.new = [] ∧ (diff env t3 {}).report.missing = []) := by
  obtain ⟨w, -, hw, -⟩ := first_seal_core hS
  rw [movedSealed_eq hS w hw]
  exact rename_e2e_moved hS w hw (moveOk_moved hS hmv) o₂ hf₂ hdr₂ hcli hfile

/-- a further `create` on the tree with generation 2 written back ends with exit code 0 and writes generation 3 -/
theorem rename_e2e_reseal (hS : Setting env rn cs o) (pa : RelPath) (na : String) (pb : RelPath) (nb : String)
    (hmv : MoveOk env rn cs o pa na pb nb)
    (o₂ : CreateOpts) (hf₂ : o₂.formats ≠ []) (hdr₂ : o₂.detectRenaming = true)
    (hcli : ∀ x ∈ o₂.ignoreCli, x ∈ setPatterns none o.ignoreCli o.ignoreFile)
    (hfile : ∀ x ∈ o₂.ignoreFile, x ∈ setPatterns none o.ignoreCli o.ignoreFile)
    (o₃ : CreateOpts) (hf₃ : o₃.formats ≠ []) (hdr₃ : o₃.detectRenaming = false)
    (hcli₃ : ∀ x ∈ o₃.ignoreCli, x ∈ setPatterns none o.ignoreCli o.ignoreFile)
    (hfile₃ : ∀ x ∈ o₃.ignoreFile, x ∈ setPatterns none o.ignoreCli o.ignoreFile) :
    let t3 := applyWritten (movedSealed env rn cs o pa na pb nb)
        (createFolder env (movedSealed env rn cs o pa na pb nb) o₂).written
    (createFolder env t3 o₃).err = none ∧ (createFolder env t3 o₃).exitCode = 0 ∧
    (createFolder env t3 o₃).report.mismatch = [] ∧ (createFolder env t3 o₃).report.missing = [] ∧
    ∃ w₃, (createFolder env t3 o₃).written = [w₃] ∧ w₃.histRoot = [] ∧ w₃.number = 3 := by
  obtain ⟨w, -, hw, -⟩ := first_seal_core hS
  rw [movedSealed_eq hS w hw]
  exact reseal_after_rename hS w hw (moveOk_moved hS hmv) o₂ hf₂ hdr₂ hcli hfile o₃ hdr₃ hcli₃ hfile₃

/-- the same move WITHOUT `-dr`: folder-mode `create` ends with `CompletenessCheckFailedException` (exit code 10)
naming the old path; `verify` on the moved tree reports the new path as new and the old one as missing (exit code
21), and so does `diff` (exit code 10) -/
theorem move_without_dr (hS : Setting env rn cs o) (pa : RelPath) (na : String) (pb : RelPath) (nb : String)
    (hmv : MoveOk env rn cs o pa na pb nb)
    (o₂ : CreateOpts) (hf₂ : o₂.formats ≠ []) (hdr₂ : o₂.detectRenaming = false)
    (hcli : ∀ x ∈ o₂.ignoreCli, x ∈ setPatterns none o.ignoreCli o.ignoreFile)
    (hfile : ∀ x ∈ o₂.ignoreFile, x ∈ setPatterns none o.ignoreCli o.ignoreFile) :
    (createFolder env (movedSealed env rn cs o pa na pb nb) o₂).err = some errMissingFiles ∧
    (createFolder env (movedSealed env rn cs o pa na pb nb) o₂).exitCode = 10 ∧
    (createFolder env (movedSealed env rn cs o pa na pb nb) o₂).report.missing = [posix (pa ++ [na])] ∧
    (createFolder env (movedSealed env rn cs o pa na pb nb) o₂).report.renamed = [] ∧
    (verify env (movedSealed env rn cs o pa na pb nb) {}).report.new = [posix (pb ++ [nb])] ∧
    (verify env (movedSealed env rn cs o pa na pb nb) {}).report.missing = [posix (pa ++ [na])] ∧
    (verify env (movedSealed env rn cs o pa na pb nb) {}).report.mismatch = [] ∧
    (verify env (movedSealed env rn cs o pa na pb nb) {}).exitCode = 21 ∧
    (diff env (movedSealed env rn cs o pa na pb nb) {}).report.new = [posix (pb ++ [nb])] ∧
    (diff env (movedSealed env rn cs o pa na pb nb) {}).report.missing = [posix (pa ++ [na])] ∧
    (diff env (movedSealed env rn cs o pa na pb nb) {}).exitCode = 10 := by
  obtain ⟨w, -, hw, -⟩ := first_seal_core hS
  rw [movedSealed_eq hS w hw]
  have hM := moveOk_moved hS hmv
  obtain ⟨c1, c2, c3, -, c5, -⟩ := move_without_dr_create hS w hw hM o₂ hdr₂ hcli hfile
  obtain ⟨v1, v2, v3, v4⟩ := move_without_dr_verify hS w hw hM true
  obtain ⟨d1, d2, -, d4⟩ := move_without_dr_verify hS w hw hM false
  exact ⟨c1, c2, c3, c5, v1, v2, v3, v4, d1, d2, d4⟩

end e2e


/-! ### non-vacuity of 4 and 5, and an independent evaluation of the whole pipeline

The tree of C03e2e (`b.txt`, `a.txt`, `sub/x`, two ignored files; formats xxh64 + md5; toy digest = format name and
content length), sealed, then `a.txt` moved to `sub/a2.txt`.  `splitPath` (`String.splitOn`) does not reduce in the
kernel; the evaluations rewrite it to the evaluable `splitPathL` (`splitPath_eq_splitPathL`) and then run
`decide +kernel` through `loadHistory`, the traversal, sealing, `detectRenames`, `commit`, `applyWritten`,
`verifyOrDiff`. -/

section pipeline
open MhlProps.C03e2e

theorem exMoveOk : MoveOk exEnv "root" exKids exOpts [] "a.txt" ["sub"] "a2.txt" where
  src := by decide +kernel
  dstFolder := Or.inr (by decide +kernel)
  name := by decide
  fresh := by decide +kernel
  notIgnored := by decide +kernel

def exMoved : Node := movedSealed exEnv "root" exKids exOpts [] "a.txt" ["sub"] "a2.txt"

def exDr : CreateOpts := { exOpts with detectRenaming := true }

/-- 4. through the theorem -/
example : (createFolder exEnv exMoved exDr).exitCode = 0 ∧ (createFolder exEnv exMoved exDr).report.missing = [] ∧
    (createFolder exEnv exMoved exDr).report.renamed = [("a.txt", "sub/a2.txt")] := by
  obtain ⟨-, h2, h3, -, h5, -⟩ := rename_e2e exSetting [] "a.txt" ["sub"] "a2.txt" exMoveOk exDr (by decide) rfl
    (MhlProps.C12.setPatterns_contains_new _ _ _).1 (MhlProps.C12.setPatterns_contains_new _ _ _).2
  -- with `exMoved` unfolded the goals are the conclusions of the theorem literally; otherwise `exact` evaluates
  unfold exMoved
  exact ⟨h2, h3, h5⟩

def exRenamed : Node := applyWritten exMoved (createFolder exEnv exMoved exDr).written

/-- the sealed example tree with `sub/x` renamed to `sub/y` and `b.txt`, which has the same digest, deleted -/
def exDup : Node :=
  Node.updateAt (removeChild "b.txt") (movedSealed exEnv "root" exKids exOpts ["sub"] "x" ["sub"] "y") []

/-- The five evaluations below in one statement: they share the sealed tree, `exMoved`, the `create -dr` run on it
and `exRenamed`, and the kernel evaluates a closed term once per declaration only. -/
theorem ex_pipeline :
    ((createFolder exEnv exMoved exDr).err = none ∧
    (createFolder exEnv exMoved exDr).report.missing = [] ∧
    (createFolder exEnv exMoved exDr).report.mismatch = [] ∧
    (createFolder exEnv exMoved exDr).report.renamed = [("a.txt", "sub/a2.txt")] ∧
    ((createFolder exEnv exMoved exDr).written.map fun w => (w.histRoot, w.number)) = [([], 2)] ∧
    ((createFolder exEnv exMoved exDr).written.map fun w => w.gen.records.map fun r => (r.path, r.prev)) =
      [[("sub/a2.txt", some "a.txt"), ("sub/x", none), ("sub", none), ("b.txt", none)]] ∧
    ((createFolder exEnv exMoved exDr).written.map fun w =>
      w.gen.records.map fun r => r.entries.map fun e => (e.digest, e.action)) =
      [[[("md5:2", "original"), ("xxh64:2", "original")], [("md5:1", "verified"), ("xxh64:1", "verified")],
        [("md5:0", ""), ("xxh64:0", "")], [("md5:1", "verified"), ("xxh64:1", "verified")]]]) ∧
    ((verify exEnv exRenamed {}).exitCode = 0 ∧ (verify exEnv exRenamed {}).report.mismatch = [] ∧
    (verify exEnv exRenamed {}).report.new = [] ∧ (verify exEnv exRenamed {}).report.missing = [] ∧
    (diff exEnv exRenamed {}).exitCode = 0 ∧ (diff exEnv exRenamed {}).report.new = [] ∧
    (diff exEnv exRenamed {}).report.missing = []) ∧
    ((createFolder exEnv exRenamed exOpts).exitCode = 0 ∧
    (createFolder exEnv exRenamed exOpts).report.missing = [] ∧
    ((createFolder exEnv exRenamed exOpts).written.map fun w => w.number) = [3]) ∧
    ((createFolder exEnv exMoved exOpts).err = some (.exit 10) ∧
    (createFolder exEnv exMoved exOpts).report.missing = ["a.txt"] ∧
    (createFolder exEnv exMoved exOpts).report.renamed = [] ∧
    (verify exEnv exMoved {}).exitCode = 21 ∧ (verify exEnv exMoved {}).report.new = ["sub/a2.txt"] ∧
    (verify exEnv exMoved {}).report.missing = ["a.txt"] ∧ (verify exEnv exMoved {}).report.mismatch = [] ∧
    (diff exEnv exMoved {}).exitCode = 10) ∧
    ((createFolder exEnv exDup exDr).err = none ∧ (createFolder exEnv exDup exDr).report.missing = [] ∧
    (createFolder exEnv exDup exDr).report.renamed = [("b.txt", "sub/y"), ("sub/x", "sub/y")] ∧
    ((createFolder exEnv exDup exDr).written.map fun w => w.gen.records.map fun r => (r.path, r.prev)) =
      [[("sub/y", some "sub/x"), ("sub", none), ("a.txt", none)]] ∧
    (verify exEnv (applyWritten exDup (createFolder exEnv exDup exDr).written) {}).exitCode = 10 ∧
    (verify exEnv (applyWritten exDup (createFolder exEnv exDup exDr).written) {}).report.missing = ["b.txt"] ∧
    (createFolder exEnv exDup exOpts).report.missing = ["sub/x", "b.txt"]) := by
  unfold exRenamed diff verify verifyOrDiff createFolder expectedPaths expectedOfGens
  rw [splitPath_eq_splitPathL]
  decide +kernel

/-- the tree operations did what they should -/
example : exMoved.children.map (fun n => (n.name, n.isDir, n.children.map (·.name))) =
    [("b.txt", false, []), ("sub", true, ["x", "a2.txt"]), ("skip.tmp", false, []), (".DS_Store", false, [])] ∧
    fileContent exMoved ["sub", "a2.txt"] = [1, 2] := by decide +kernel

/-- 4. evaluated: the `create -dr` run … -/
theorem ex_run : (createFolder exEnv exMoved exDr).err = none ∧
    (createFolder exEnv exMoved exDr).report.missing = [] ∧
    (createFolder exEnv exMoved exDr).report.mismatch = [] ∧
    (createFolder exEnv exMoved exDr).report.renamed = [("a.txt", "sub/a2.txt")] ∧
    ((createFolder exEnv exMoved exDr).written.map fun w => (w.histRoot, w.number)) = [([], 2)] ∧
    ((createFolder exEnv exMoved exDr).written.map fun w => w.gen.records.map fun r => (r.path, r.prev)) =
      [[("sub/a2.txt", some "a.txt"), ("sub/x", none), ("sub", none), ("b.txt", none)]] ∧
    ((createFolder exEnv exMoved exDr).written.map fun w =>
      w.gen.records.map fun r => r.entries.map fun e => (e.digest, e.action)) =
      [[[("md5:2", "original"), ("xxh64:2", "original")], [("md5:1", "verified"), ("xxh64:1", "verified")],
        [("md5:0", ""), ("xxh64:0", "")], [("md5:1", "verified"), ("xxh64:1", "verified")]]] :=
  ex_pipeline.1

/-- … then `verify` and `diff`: exit code 0, nothing reported -/
theorem ex_verify : (verify exEnv exRenamed {}).exitCode = 0 ∧ (verify exEnv exRenamed {}).report.mismatch = [] ∧
    (verify exEnv exRenamed {}).report.new = [] ∧ (verify exEnv exRenamed {}).report.missing = [] ∧
    (diff exEnv exRenamed {}).exitCode = 0 ∧ (diff exEnv exRenamed {}).report.new = [] ∧
    (diff exEnv exRenamed {}).report.missing = [] :=
  ex_pipeline.2.1

/-- … and a further `create` (no `-dr`) accepts the tree: exit code 0, generation 3 -/
theorem ex_third : (createFolder exEnv exRenamed exOpts).exitCode = 0 ∧
    (createFolder exEnv exRenamed exOpts).report.missing = [] ∧
    ((createFolder exEnv exRenamed exOpts).written.map fun w => w.number) = [3] :=
  ex_pipeline.2.2.1

/-- 5. without `-dr`, through the theorem and evaluated -/
example : (createFolder exEnv exMoved exOpts).exitCode = 10 ∧
    (createFolder exEnv exMoved exOpts).report.missing = ["a.txt"] ∧
    (verify exEnv exMoved {}).report.new = ["sub/a2.txt"] ∧ (verify exEnv exMoved {}).report.missing = ["a.txt"] := by
  obtain ⟨-, c2, c3, -, v1, v2, -⟩ := move_without_dr exSetting [] "a.txt" ["sub"] "a2.txt" exMoveOk exOpts
    (by decide) rfl (MhlProps.C12.setPatterns_contains_new _ _ _).1 (MhlProps.C12.setPatterns_contains_new _ _ _).2
  unfold exMoved
  exact ⟨c2, c3, v1, v2⟩

theorem ex_without_dr : (createFolder exEnv exMoved exOpts).err = some (.exit 10) ∧
    (createFolder exEnv exMoved exOpts).report.missing = ["a.txt"] ∧
    (createFolder exEnv exMoved exOpts).report.renamed = [] ∧
    (verify exEnv exMoved {}).exitCode = 21 ∧ (verify exEnv exMoved {}).report.new = ["sub/a2.txt"] ∧
    (verify exEnv exMoved {}).report.missing = ["a.txt"] ∧ (verify exEnv exMoved {}).report.mismatch = [] ∧
    (diff exEnv exMoved {}).exitCode = 10 :=
  ex_pipeline.2.2.2.1

/-- a rename within the same folder (the root), through the theorem -/
example : (createFolder exEnv (movedSealed exEnv "root" exKids exOpts [] "a.txt" [] "z.txt") exDr).report.renamed =
    [("a.txt", "z.txt")] :=
  (rename_e2e exSetting [] "a.txt" [] "z.txt"
    ⟨by decide +kernel, Or.inl rfl, by decide, by decide +kernel, by decide +kernel⟩ exDr (by decide) rfl
    (MhlProps.C12.setPatterns_contains_new _ _ _).1 (MhlProps.C12.setPatterns_contains_new _ _ _).2).2.2.2.2.1

/-- Without uniqueness of the digest two candidates are both linked, and a deletion is hidden.  `sub/x` and `b.txt`
have the same digest (the toy digest sees the length; with a real digest: two copies of one file).  `sub/x` is
renamed to `sub/y` and `b.txt` is deleted (`exDup`).  `create -dr` links BOTH old names to `sub/y`: exit code 0, nothing
reported missing (the deletion of `b.txt` goes unnoticed), two renames reported, and the record of `sub/y` keeps the
LAST candidate in the sorted order of the path strings as previous path.  The tree is then NOT accepted later:
`verify` ends with exit code 10.

The not-found list is `[sub/x, b.txt]` (order of the recorded generation); the detection visits it as
`sorted(not_found_paths)` = `[b.txt, sub/x]` (DESIGN.md §8, D19).  So the renames are reported in sorted order, the
last candidate is `sub/x` (here, by the luck of the names, the right one), and the later `verify` drops `sub/x` from
the expected paths and misses `b.txt`.  Visited in the recorded order the last candidate would be `b.txt`: `sub/y`
would get the previous path `b.txt` and the later `verify` would miss `sub/x`. -/
theorem duplicate_hides_deletion :
    (createFolder exEnv exDup exDr).err = none ∧ (createFolder exEnv exDup exDr).report.missing = [] ∧
    (createFolder exEnv exDup exDr).report.renamed = [("b.txt", "sub/y"), ("sub/x", "sub/y")] ∧
    ((createFolder exEnv exDup exDr).written.map fun w => w.gen.records.map fun r => (r.path, r.prev)) =
      [[("sub/y", some "sub/x"), ("sub", none), ("a.txt", none)]] ∧
    (verify exEnv (applyWritten exDup (createFolder exEnv exDup exDr).written) {}).exitCode = 10 ∧
    (verify exEnv (applyWritten exDup (createFolder exEnv exDup exDr).written) {}).report.missing = ["b.txt"] ∧
    -- without `-dr` both are reported
    (createFolder exEnv exDup exOpts).report.missing = ["sub/x", "b.txt"] :=
  ex_pipeline.2.2.2.2

end pipeline

/-! ### 6. the order of the not-found paths (DESIGN.md §8, D19)

`create -dr` iterates `sorted(not_found_paths)` (`createFolder` hands `isort pathLe notFound` to `detectRenames`), not
the set of not-found paths in whatever order it has.  Under the hypothesis of the property (the candidates
are unambiguous: for every new path AT MOST ONE not-found path matches) the order does not matter; without it the
order decides which candidate is recorded as previous path (`order_matters`).  Nested histories are allowed here
(`matchesG` routes the not-found path to the history that owns it; on a flat history it is `matchesB`,
`matchesG_flat`); the session has to be keyed by root, as everywhere in this file. -/

section order
open MhlProps.C02rec MhlProps.C04

/-- If for every new path at most one of the not-found paths matches (the test of the loop, `matchesG_iff`: the first
entry recorded for the old path has the digest of the new record's entry in that format, or of `env.H fmt content`),
then for any two orders `nf₁`, `nf₂` of the not-found paths the detection gives the same session, the same paths found
again and the same renames — the whole triple is EQUAL. -/
theorem detectRenames_order_independent (env : Env) (t : Node) (rootHist : Hist) (s : Session) (hs : s.RootsNodup)
    (newPaths nf₁ nf₂ : List RelPath) (hp : nf₁.Perm nf₂)
    (hu : ∀ np ∈ newPaths, ∀ a ∈ nf₁, ∀ b ∈ nf₁, matchesG env t rootHist s np a = true →
      matchesG env t rootHist s np b = true → a = b) :
    detectRenames env t rootHist s newPaths nf₁ = detectRenames env t rootHist s newPaths nf₂ :=
  detectRenames_congr_filter env t rootHist s hs newPaths nf₁ nf₂ fun np hnp =>
    filter_eq_of_perm_unique _ hp (hu np hnp)

/-- the same for two duplicate-free lists with the same elements: same session, same SET of old paths found again,
same renames -/
theorem detectRenames_order_independent' (env : Env) (t : Node) (rootHist : Hist) (s : Session) (hs : s.RootsNodup)
    (newPaths nf₁ nf₂ : List RelPath) (hn₁ : nf₁.Nodup) (hn₂ : nf₂.Nodup) (hmem : ∀ x, x ∈ nf₁ ↔ x ∈ nf₂)
    (hu : ∀ np ∈ newPaths, ∀ a ∈ nf₁, ∀ b ∈ nf₁, matchesG env t rootHist s np a = true →
      matchesG env t rootHist s np b = true → a = b) :
    (detectRenames env t rootHist s newPaths nf₁).1 = (detectRenames env t rootHist s newPaths nf₂).1 ∧
    (∀ x, x ∈ (detectRenames env t rootHist s newPaths nf₁).2.1 ↔
      x ∈ (detectRenames env t rootHist s newPaths nf₂).2.1) ∧
    (detectRenames env t rootHist s newPaths nf₁).2.2 = (detectRenames env t rootHist s newPaths nf₂).2.2 := by
  rw [detectRenames_order_independent env t rootHist s hs newPaths nf₁ nf₂
    ((List.perm_ext_iff_of_nodup hn₁ hn₂).2 hmem) hu]
  exact ⟨rfl, fun _ => Iff.rfl, rfl⟩

/-- on a flat history, with the test `matchesB` of 0–3 -/
theorem detectRenames_order_independent_flat (env : Env) (t : Node) (rootHist : Hist) (hc : rootHist.children = [])
    (s : Session) (hs : s.RootsNodup) (newPaths nf₁ nf₂ : List RelPath) (hp : nf₁.Perm nf₂)
    (hu : ∀ np ∈ newPaths, ∀ a ∈ nf₁, ∀ b ∈ nf₁, matchesB env t rootHist.gens s np a = true →
      matchesB env t rootHist.gens s np b = true → a = b) :
    detectRenames env t rootHist s newPaths nf₁ = detectRenames env t rootHist s newPaths nf₂ :=
  detectRenames_order_independent env t rootHist s hs newPaths nf₁ nf₂ hp fun np hnp a ha b hb h1 h2 =>
    hu np hnp a ha b hb (matchesG_flat env t rootHist hc s np a ▸ h1) (matchesG_flat env t rootHist hc s np b ▸ h2)

theorem detectRenames_sorted (env : Env) (t : Node) (rootHist : Hist) (s : Session) (hs : s.RootsNodup)
    (le : RelPath → RelPath → Bool) (newPaths notFound : List RelPath)
    (hu : ∀ np ∈ newPaths, ∀ a ∈ notFound, ∀ b ∈ notFound, matchesG env t rootHist s np a = true →
      matchesG env t rootHist s np b = true → a = b) :
    detectRenames env t rootHist s newPaths (isort le notFound) = detectRenames env t rootHist s newPaths notFound :=
  (detectRenames_order_independent env t rootHist s hs newPaths notFound (isort le notFound)
    (isort_perm le notFound).symm hu).symm

/-- folder-mode `create -dr` as a whole: when the candidates are unambiguous, the outcome is the one computed with
the not-found paths visited in ANY order `nf'` -/
theorem createFolder_dr_order_independent (env : Env) (t : Node) (o : CreateOpts) (rootHist : Hist)
    (hl : loadHistory t = .ok rootHist) (hdr : o.detectRenaming = true)
    (hs : (cState env t rootHist o).session.RootsNodup)
    (nf' : List RelPath) (hp : nf'.Perm (cNotFound env t rootHist o))
    (hu : ∀ np ∈ (cState env t rootHist o).newPaths, ∀ a ∈ nf', ∀ b ∈ nf',
      matchesG env t rootHist (cState env t rootHist o).session np a = true →
      matchesG env t rootHist (cState env t rootHist o).session np b = true → a = b) :
    createFolder env t o =
      match commit rootHist (detectRenames env t rootHist (cState env t rootHist o).session
          (cState env t rootHist o).newPaths nf').1 env.rootName env.stamp "in-place" with
      | .error e => { err := some e }
      | .ok written =>
        let fo := (detectRenames env t rootHist (cState env t rootHist o).session
          (cState env t rootHist o).newPaths nf').2.1
        let missing := missingAfter (cHit env rootHist o) ((cNotFound env t rootHist o).filter fun p => !fo.contains p)
        { err := createExit (cState env t rootHist o).failed missing (cMissingHist t rootHist),
          report := { mismatch := (cState env t rootHist o).mismatch,
                      missing := missing.map posix,
                      renamed := (detectRenames env t rootHist (cState env t rootHist o).session
                        (cState env t rootHist o).newPaths nf').2.2 },
          written := written } := by
  have hdet := detectRenames_order_independent env t rootHist _ hs (cState env t rootHist o).newPaths nf'
    (cNotFoundSorted env t rootHist o) (hp.trans (isort_perm _ _).symm) hu
  rw [hdet, createFolder_eq_gen env t o rootHist hl, cRen_dr hdr rfl]
  rfl

end order

/-! #### the witness: without the hypothesis the order matters

`a.txt` and `a2.txt` carry the same first digest, the new file `b.txt` has it too (the example of 0–3).  The record
of `b.txt` gets the LAST matching element of the list as previous path: `a2.txt` for the list `[a.txt, z.txt, a2.txt]`,
`a.txt` for the list `[a2.txt, z.txt, a.txt]`; the renames are reported in list order.  The order of a Python set is
arbitrary (it can change from run to run); `sorted` makes it `[a.txt, a2.txt, z.txt]`. -/

section witness
open MhlProps.C17

theorem order_matters :
    ((detectRenames exEnv exTree2 exHist2 exSession2 [["b.txt"]] [["a.txt"], ["z.txt"], ["a2.txt"]]).1.lists.map
      fun l => l.records.map fun r => (r.path, r.prev)) = [[("b.txt", some "a2.txt"), ("c.txt", none)]] ∧
    ((detectRenames exEnv exTree2 exHist2 exSession2 [["b.txt"]] [["a2.txt"], ["z.txt"], ["a.txt"]]).1.lists.map
      fun l => l.records.map fun r => (r.path, r.prev)) = [[("b.txt", some "a.txt"), ("c.txt", none)]] ∧
    (detectRenames exEnv exTree2 exHist2 exSession2 [["b.txt"]] [["a.txt"], ["z.txt"], ["a2.txt"]]).2.2 =
      [("a.txt", "b.txt"), ("a2.txt", "b.txt")] ∧
    (detectRenames exEnv exTree2 exHist2 exSession2 [["b.txt"]] [["a2.txt"], ["z.txt"], ["a.txt"]]).2.2 =
      [("a2.txt", "b.txt"), ("a.txt", "b.txt")] ∧
    -- the two lists are orders of the same set, and the hypothesis of `detectRenames_order_independent` fails
    ([["a.txt"], ["z.txt"], ["a2.txt"]] : List RelPath).Perm [["a2.txt"], ["z.txt"], ["a.txt"]] ∧
    matchesG exEnv exTree2 exHist2 exSession2 ["b.txt"] ["a.txt"] = true ∧
    matchesG exEnv exTree2 exHist2 exSession2 ["b.txt"] ["a2.txt"] = true := by
  decide +kernel

theorem order_matters_ne :
    (detectRenames exEnv exTree2 exHist2 exSession2 [["b.txt"]] [["a.txt"], ["z.txt"], ["a2.txt"]]).1.lists.map
      (fun l => l.records.map fun r => r.prev) ≠
    (detectRenames exEnv exTree2 exHist2 exSession2 [["b.txt"]] [["a2.txt"], ["z.txt"], ["a.txt"]]).1.lists.map
      (fun l => l.records.map fun r => r.prev) := by decide +kernel

/-- the order `createFolder` uses (D19): both lists are visited as `[a.txt, a2.txt, z.txt]`, so `a2.txt` is recorded -/
example : isort pathLe [["a2.txt"], ["z.txt"], ["a.txt"]] = [["a.txt"], ["a2.txt"], ["z.txt"]] ∧
    isort pathLe [["a.txt"], ["z.txt"], ["a2.txt"]] = [["a.txt"], ["a2.txt"], ["z.txt"]] ∧
    ((detectRenames exEnv exTree2 exHist2 exSession2 [["b.txt"]]
      (isort pathLe [["a2.txt"], ["z.txt"], ["a.txt"]])).1.lists.map
      fun l => l.records.map fun r => (r.path, r.prev)) = [[("b.txt", some "a2.txt"), ("c.txt", none)]] := by
  decide +kernel

/-- non-vacuity of `detectRenames_order_independent`: with `a2.txt` out of the way the hypothesis holds -/
example : (∀ np ∈ ([["b.txt"], ["c.txt"]] : List RelPath), ∀ a ∈ ([["a.txt"], ["z.txt"]] : List RelPath),
      ∀ b ∈ ([["a.txt"], ["z.txt"]] : List RelPath), matchesG exEnv exTree2 exHist2 exSession2 np a = true →
      matchesG exEnv exTree2 exHist2 exSession2 np b = true → a = b) ∧
    detectRenames exEnv exTree2 exHist2 exSession2 [["b.txt"], ["c.txt"]] [["a.txt"], ["z.txt"]] =
      detectRenames exEnv exTree2 exHist2 exSession2 [["b.txt"], ["c.txt"]] [["z.txt"], ["a.txt"]] := by
  have h : ∀ np ∈ ([["b.txt"], ["c.txt"]] : List RelPath), ∀ a ∈ ([["a.txt"], ["z.txt"]] : List RelPath),
      ∀ b ∈ ([["a.txt"], ["z.txt"]] : List RelPath), matchesG exEnv exTree2 exHist2 exSession2 np a = true →
      matchesG exEnv exTree2 exHist2 exSession2 np b = true → a = b := by decide +kernel
  exact ⟨h, detectRenames_order_independent _ _ _ _ exSession2_ok _ _ _ (by decide) h⟩

end witness

end MhlProps.C17detect

#print axioms MhlProps.C17detect.detectRenames_exact
#print axioms MhlProps.C17detect.detectRenames_sound
#print axioms MhlProps.C17detect.detectRenames_sound'
#print axioms MhlProps.C17detect.detectRenames_found_iff
#print axioms MhlProps.C17detect.detectRenames_complete
#print axioms MhlProps.C17detect.detectRenames_prev
#print axioms MhlProps.C17detect.detectRenames_prev_unique
#print axioms MhlProps.C17detect.detectRenames_prev_single
#print axioms MhlProps.C17detect.detectRenames_prev_untouched
#print axioms MhlProps.C17detect.detectRenames_preserves_records
#print axioms MhlProps.C17detect.put_needs_distinct_roots
#print axioms MhlProps.C17detect.detectRenames_order_independent
#print axioms MhlProps.C17detect.detectRenames_order_independent'
#print axioms MhlProps.C17detect.detectRenames_order_independent_flat
#print axioms MhlProps.C17detect.detectRenames_sorted
#print axioms MhlProps.C17detect.createFolder_dr_order_independent
#print axioms MhlProps.C17detect.order_matters
#print axioms MhlProps.C17detect.order_matters_ne
#print axioms MhlProps.C17detect.rename_e2e_moved
#print axioms MhlProps.C17detect.reseal_after_rename
#print axioms MhlProps.C17detect.move_without_dr_create
#print axioms MhlProps.C17detect.move_without_dr_verify
#print axioms MhlProps.C17detect.rename_e2e
#print axioms MhlProps.C17detect.rename_e2e_reseal
#print axioms MhlProps.C17detect.move_without_dr
#print axioms MhlModel.moveFile_moved
#print axioms MhlModel.detectRenames_pairs
#print axioms MhlModel.createFolder_dr_single
#print axioms MhlProps.C17detect.exMoveOk
#print axioms MhlProps.C17detect.ex_run
#print axioms MhlProps.C17detect.ex_verify
#print axioms MhlProps.C17detect.ex_third
#print axioms MhlProps.C17detect.ex_without_dr
#print axioms MhlProps.C17detect.duplicate_hides_deletion
