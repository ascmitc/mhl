/-
Trees (MhlModel/Tree.lean): the set of all paths (`Node.paths`) against the model's lookup `Node.at?`; the traversal
`traverse` / `visiblePaths` (visible = in the tree and no component ignored, no duplicates, post-order: C02, C12);
sibling names pairwise distinct, names that can be path components; the child of a folder by name (`findChild_*`,
`Node.at?_child`).
-/
import MhlProps.Proofs.ListLemmas

namespace MhlModel

/-! ## structural induction on trees -/

/-- induction over the nested inductive `Node`: the hypothesis for a directory is the statement for all its
children -/
theorem Node.induct {P : Node → Prop} (file : ∀ n c, P (.file n c))
    (dir : ∀ n cs h, (∀ c ∈ cs, P c) → P (.dir n cs h)) (t : Node) : P t :=
  Node.rec (motive_1 := P) (motive_2 := fun cs => ∀ c ∈ cs, P c)
    file (fun n cs h ih => dir n cs h ih) (by simp)
    (fun c cs hc hcs => by
      intro x hx
      rcases List.mem_cons.1 hx with rfl | hx
      · exact hc
      · exact hcs x hx) t

/-! ## the paths of a tree, the names of its descendants, distinct sibling names -/

mutual
/-- every proper descendant of the node whose own path is `here`, as (path, is_dir); in stored order, a directory
before its content -/
def Node.paths (here : RelPath) : Node → List (RelPath × Bool)
  | .file _ _ => []
  | .dir _ cs _ => Node.pathsKids here cs
def Node.pathsKids (here : RelPath) : List Node → List (RelPath × Bool)
  | [] => []
  | c :: cs => (here ++ [c.name], c.isDir) :: (Node.paths (here ++ [c.name]) c ++ Node.pathsKids here cs)
end

mutual
/-- the names of all proper descendants (what the components of a path in the tree are taken from) -/
def Node.descNames : Node → List String
  | .file _ _ => []
  | .dir _ cs _ => Node.descNamesKids cs
def Node.descNamesKids : List Node → List String
  | [] => []
  | c :: cs => c.name :: (Node.descNames c ++ Node.descNamesKids cs)
end

mutual
/-- sibling names are pairwise distinct in every directory of the tree (what a file system guarantees) -/
def Node.NamesDistinct : Node → Prop
  | .file _ _ => True
  | .dir _ cs _ => (cs.map Node.name).Nodup ∧ Node.NamesDistinctKids cs
def Node.NamesDistinctKids : List Node → Prop
  | [] => True
  | c :: cs => Node.NamesDistinct c ∧ Node.NamesDistinctKids cs
end

theorem Node.pathsKids_eq (here : RelPath) (cs : List Node) :
    Node.pathsKids here cs =
      cs.flatMap fun c => (here ++ [c.name], c.isDir) :: Node.paths (here ++ [c.name]) c := by
  induction cs with
  | nil => simp [Node.pathsKids]
  | cons c cs ih => simp [Node.pathsKids, ih]

theorem Node.descNamesKids_eq (cs : List Node) :
    Node.descNamesKids cs = cs.flatMap fun c => c.name :: Node.descNames c := by
  induction cs with
  | nil => simp [Node.descNamesKids]
  | cons c cs ih => simp [Node.descNamesKids, ih]

theorem Node.namesDistinctKids_iff (cs : List Node) :
    Node.NamesDistinctKids cs ↔ ∀ c ∈ cs, Node.NamesDistinct c := by
  induction cs with
  | nil => simp [Node.NamesDistinctKids]
  | cons c cs ih => simp [Node.NamesDistinctKids, ih]

theorem Node.namesDistinct_dir (n : String) (cs : List Node) (h : Option HistStore) :
    Node.NamesDistinct (.dir n cs h) ↔ (cs.map Node.name).Nodup ∧ ∀ c ∈ cs, Node.NamesDistinct c := by
  rw [Node.NamesDistinct, Node.namesDistinctKids_iff]

@[simp] theorem Node.paths_file (here : RelPath) (n : String) (b : Bytes) :
    Node.paths here (.file n b) = [] := by rw [Node.paths]

theorem Node.mem_paths_dir (here : RelPath) (n : String) (cs : List Node) (h : Option HistStore)
    (x : RelPath × Bool) :
    x ∈ Node.paths here (.dir n cs h) ↔
      ∃ c ∈ cs, x = (here ++ [c.name], c.isDir) ∨ x ∈ Node.paths (here ++ [c.name]) c := by
  rw [Node.paths, Node.pathsKids_eq]
  simp [List.mem_flatMap]

theorem Node.mem_descNames_dir (n : String) (cs : List Node) (h : Option HistStore) (s : String) :
    s ∈ Node.descNames (.dir n cs h) ↔ ∃ c ∈ cs, s = c.name ∨ s ∈ Node.descNames c := by
  rw [Node.descNames, Node.descNamesKids_eq]
  simp [List.mem_flatMap]

theorem Node.paths_shape (t : Node) : ∀ (here : RelPath) (p : RelPath) (d : Bool),
    (p, d) ∈ Node.paths here t → ∃ q, p = here ++ q ∧ q ≠ [] ∧ ∀ s ∈ q, s ∈ Node.descNames t := by
  induction t using Node.induct with
  | file n c => intro here p d h; simp at h
  | dir n cs h ih =>
    intro here p d hp
    rw [Node.mem_paths_dir] at hp
    obtain ⟨c, hc, hp | hp⟩ := hp
    · refine ⟨[c.name], ?_, by simp, ?_⟩
      · simpa using congrArg Prod.fst hp
      · intro s hs
        rw [Node.mem_descNames_dir]
        exact ⟨c, hc, Or.inl (by simpa using hs)⟩
    · obtain ⟨q, rfl, -, hq⟩ := ih c hc _ _ _ hp
      refine ⟨c.name :: q, by simp, by simp, ?_⟩
      intro s hs
      rw [Node.mem_descNames_dir]
      rcases List.mem_cons.1 hs with rfl | hs
      · exact ⟨c, hc, Or.inl rfl⟩
      · exact ⟨c, hc, Or.inr (hq s hs)⟩

theorem Node.paths_prefix {t : Node} {here p : RelPath} {d : Bool} (h : (p, d) ∈ Node.paths here t) :
    here.length < p.length ∧ p.take here.length = here := by
  obtain ⟨q, rfl, hq, -⟩ := Node.paths_shape t here p d h
  refine ⟨?_, by simp⟩
  have : 0 < q.length := List.length_pos_iff.2 hq
  simp; omega

/-! ## `Node.paths` and the model's lookup `Node.at?` -/

theorem findChild_some {cs : List Node} {n : String} {c : Node} (h : findChild cs n = some c) :
    c ∈ cs ∧ c.name = n := by
  unfold findChild at h
  exact ⟨List.mem_of_find?_eq_some h, by simpa using List.find?_some h⟩

theorem findChild_none_iff (cs : List Node) (m : String) :
    findChild cs m = none ↔ ∀ c ∈ cs, c.name ≠ m := by
  simp [findChild]

theorem findChild_append (l₁ l₂ : List Node) (m : String) :
    findChild (l₁ ++ l₂) m = (findChild l₁ m).or (findChild l₂ m) := by
  simp [findChild, List.find?_append]

theorem findChild_cons (c : Node) (cs : List Node) (m : String) :
    findChild (c :: cs) m = if c.name == m then some c else findChild cs m := by
  simp [findChild, List.find?_cons]
  split <;> simp_all

theorem findChild_of_mem {cs : List Node} (hnd : (cs.map Node.name).Nodup) {c : Node} (hc : c ∈ cs) :
    findChild cs c.name = some c :=
  find?_of_nodup_map hnd hc (by simp) fun _ _ hx => by simpa using hx

theorem Node.at?_dir_cons (n : String) (cs : List Node) (h : Option HistStore) (m : String) (rest : RelPath) :
    (Node.dir n cs h).at? (m :: rest) = (findChild cs m).bind (·.at? rest) := by
  rw [Node.at?]; cases findChild cs m <;> rfl

theorem Node.at?_nil (t : Node) : t.at? [] = some t := by cases t <;> rfl

theorem Node.at?_append (t : Node) (p q : RelPath) : t.at? (p ++ q) = (t.at? p).bind (·.at? q) := by
  induction p generalizing t with
  | nil => simp [Node.at?]
  | cons a rest ih =>
    cases t with
    | file n c => simp [Node.at?]
    | dir n cs h =>
      simp only [List.cons_append, Node.at?_dir_cons]
      cases findChild cs a with
      | none => rfl
      | some c => simpa using ih c

theorem Node.mem_paths_of_at (t : Node) : ∀ (here q : RelPath) (c' : Node), q ≠ [] → t.at? q = some c' →
    (here ++ q, c'.isDir) ∈ Node.paths here t := by
  induction t using Node.induct with
  | file n b =>
    intro here q c' hq hat
    cases q with
    | nil => exact absurd rfl hq
    | cons m rest => simp [Node.at?] at hat
  | dir n cs h ih =>
    intro here q c' hq hat
    rw [Node.mem_paths_dir]
    cases q with
    | nil => exact absurd rfl hq
    | cons m rest =>
      rw [Node.at?_dir_cons] at hat
      cases hf : findChild cs m with
      | none => simp [hf] at hat
      | some c =>
        obtain ⟨hc, rfl⟩ := findChild_some hf
        simp only [hf, Option.bind_some] at hat
        refine ⟨c, hc, ?_⟩
        cases rest with
        | nil =>
          simp [Node.at?] at hat; subst hat; exact Or.inl rfl
        | cons m' rest' =>
          right
          have := ih c hc (here ++ [c.name]) (m' :: rest') c' (by simp) hat
          simpa using this

/-- `Node.paths` against the model's lookup.  With distinct sibling names `findChild cs c.name = some c`, so membership
below the child `c` is the look-up going on in `c`; the direction from right to left is `mem_paths_of_at` and needs
no distinctness. -/
theorem Node.mem_paths_iff_at (t : Node) : ∀ (here q : RelPath) (d : Bool), t.NamesDistinct →
    ((here ++ q, d) ∈ Node.paths here t ↔ q ≠ [] ∧ ∃ c, t.at? q = some c ∧ c.isDir = d) := by
  induction t using Node.induct with
  | file n b =>
    intro here q d _
    cases q with
    | nil => simp
    | cons m rest => simp [Node.at?]
  | dir n cs h ih =>
    intro here q d hd
    rw [Node.namesDistinct_dir] at hd
    rw [Node.mem_paths_dir]
    constructor
    · rintro ⟨c, hc, hx | hx⟩
      · obtain ⟨h1, rfl⟩ := Prod.mk.inj hx
        have : q = [c.name] := List.append_cancel_left h1
        subst this
        exact ⟨by simp, c, by simp [findChild_of_mem hd.1 hc, Node.at?], rfl⟩
      · obtain ⟨q', hq', -, -⟩ := Node.paths_shape c _ _ _ hx
        have : q = c.name :: q' := by
          rw [List.append_assoc] at hq'; exact List.append_cancel_left hq'
        subst this
        have hx' : ((here ++ [c.name]) ++ q', d) ∈ Node.paths (here ++ [c.name]) c := by simpa using hx
        obtain ⟨-, c', h1, h2⟩ := (ih c hc _ q' d (hd.2 c hc)).1 hx'
        exact ⟨by simp, c', by simp [Node.at?_dir_cons, findChild_of_mem hd.1 hc, h1], h2⟩
    · rintro ⟨hq, c', hat, rfl⟩
      exact (Node.mem_paths_dir ..).1 (Node.mem_paths_of_at (.dir n cs h) here q c' hq hat)

/-- induction along a path that leads somewhere: the look-up ends at once, or goes on in the child of that name -/
theorem Node.at?_induct {P : Node → RelPath → Node → Prop} (nil : ∀ t, P t [] t)
    (cons : ∀ n cs h c rest x, c ∈ cs → c.at? rest = some x → P c rest x → P (.dir n cs h) (c.name :: rest) x) :
    ∀ {t : Node} {p : RelPath} {x : Node}, t.at? p = some x → P t p x := by
  intro t p
  induction p generalizing t with
  | nil =>
    intro x hx
    rw [Node.at?_nil] at hx
    cases hx
    exact nil t
  | cons m rest ih =>
    intro x hx
    cases t with
    | file n c => simp [Node.at?] at hx
    | dir n cs h =>
      rw [Node.at?_dir_cons] at hx
      cases hf : findChild cs m with
      | none => simp [hf] at hx
      | some c =>
        obtain ⟨hc, rfl⟩ := findChild_some hf
        rw [hf] at hx
        exact cons n cs h c rest x hc hx (ih hx)

theorem Node.at?_names (t : Node) (q : RelPath) (c : Node) (hq : t.at? q = some c) : ∀ s ∈ q, s ∈ t.descNames :=
  Node.at?_induct (P := fun t q _ => ∀ s ∈ q, s ∈ t.descNames) (fun _ _ hs => nomatch hs)
    (fun n cs h c rest _ hc _ ih s hs => by
      rw [Node.mem_descNames_dir]
      rcases List.mem_cons.1 hs with rfl | hs
      · exact ⟨c, hc, .inl rfl⟩
      · exact ⟨c, hc, .inr (ih s hs)⟩) hq

theorem Node.NamesDistinct.at? (t : Node) (p : RelPath) (x : Node) (hd : t.NamesDistinct) (hx : t.at? p = some x) :
    x.NamesDistinct :=
  Node.at?_induct (P := fun t _ x => t.NamesDistinct → x.NamesDistinct) (fun _ h => h)
    (fun n cs h c _ _ hc _ ih hd => ih (((Node.namesDistinct_dir n cs h).1 hd).2 c hc)) hx hd

/-! ## the traversal -/

/-- the per-child result of `traverseKids` -/
def kidOf (hit : RelPath → Bool) (here : RelPath) (c : Node) : Kid :=
  ⟨c.name, c.isDir, traverse hit (here ++ [c.name]) c⟩

theorem traverseKids_eq (hit : RelPath → Bool) (here : RelPath) (cs : List Node) :
    traverseKids hit here cs = cs.map (kidOf hit here) := by
  induction cs with
  | nil => simp [traverseKids]
  | cons c cs ih => simp [traverseKids, ih, kidOf]

/-- the visible children of the directory at `here`, sorted by name -/
def visKids (hit : RelPath → Bool) (here : RelPath) (cs : List Node) : List Kid :=
  (isort (fun a b => strLe a.name b.name) (cs.map (kidOf hit here))).filter
    fun k => !hit (here ++ [k.name])

theorem traverse_dir (hit : RelPath → Bool) (here : RelPath) (n : String) (cs : List Node)
    (h : Option HistStore) :
    traverse hit here (.dir n cs h) =
      (visKids hit here cs).flatMap (·.visits) ++
        [⟨here, (visKids hit here cs).map fun k => (k.name, k.isDir)⟩] := by
  rw [traverse, traverseKids_eq]; rfl

theorem mem_visKids (hit : RelPath → Bool) (here : RelPath) (cs : List Node) (k : Kid) :
    k ∈ visKids hit here cs ↔ ∃ c ∈ cs, hit (here ++ [c.name]) = false ∧ k = kidOf hit here c := by
  simp only [visKids, List.mem_filter, mem_isort, List.mem_map]
  constructor
  · rintro ⟨⟨c, hc, rfl⟩, hk⟩
    exact ⟨c, hc, by simpa [kidOf] using hk, rfl⟩
  · rintro ⟨c, hc, hh, rfl⟩
    exact ⟨⟨c, hc, rfl⟩, by simpa [kidOf] using hh⟩

/-- the (path, is_dir) pairs yielded by a list of visits -/
def visitPaths (vs : List Visit) : List (RelPath × Bool) :=
  vs.flatMap fun v => v.children.map fun c => (v.folder ++ [c.1], c.2)

/-- `visiblePaths` for a traversal that starts at the path `here` -/
def visFrom (hit : RelPath → Bool) (here : RelPath) (t : Node) : List (RelPath × Bool) :=
  visitPaths (traverse hit here t)

theorem visiblePaths_eq (hit : RelPath → Bool) (t : Node) : visiblePaths hit t = visFrom hit [] t := rfl

theorem mem_visible_of_visit {hit : RelPath → Bool} {t : Node} {v : Visit} {ch : String × Bool}
    (hv : v ∈ traverse hit [] t) (hch : ch ∈ v.children) : (v.folder ++ [ch.1], ch.2) ∈ visiblePaths hit t := by
  unfold visiblePaths
  exact List.mem_flatMap.2 ⟨v, hv, List.mem_map.2 ⟨ch, hch, rfl⟩⟩

@[simp] theorem visFrom_file (hit : RelPath → Bool) (here : RelPath) (n : String) (b : Bytes) :
    visFrom hit here (.file n b) = [] := by simp [visFrom, visitPaths, traverse]

theorem visFrom_dir (hit : RelPath → Bool) (here : RelPath) (n : String) (cs : List Node)
    (h : Option HistStore) :
    visFrom hit here (.dir n cs h) =
      (visKids hit here cs).flatMap (fun k => visitPaths k.visits) ++
        (visKids hit here cs).map (fun k => (here ++ [k.name], k.isDir)) := by
  simp [visFrom, visitPaths, traverse_dir, List.flatMap_assoc, Function.comp_def]

theorem mem_visFrom_dir (hit : RelPath → Bool) (here : RelPath) (n : String) (cs : List Node)
    (h : Option HistStore) (x : RelPath × Bool) :
    x ∈ visFrom hit here (.dir n cs h) ↔
      ∃ c ∈ cs, hit (here ++ [c.name]) = false ∧
        (x = (here ++ [c.name], c.isDir) ∨ x ∈ visFrom hit (here ++ [c.name]) c) := by
  rw [visFrom_dir]
  simp only [List.mem_append, List.mem_flatMap, List.mem_map, mem_visKids]
  constructor
  · rintro (⟨k, ⟨c, hc, hh, rfl⟩, hx⟩ | ⟨k, ⟨c, hc, hh, rfl⟩, rfl⟩)
    · exact ⟨c, hc, hh, Or.inr hx⟩
    · exact ⟨c, hc, hh, Or.inl rfl⟩
  · rintro ⟨c, hc, hh, rfl | hx⟩
    · exact Or.inr ⟨_, ⟨c, hc, hh, rfl⟩, rfl⟩
    · exact Or.inl ⟨_, ⟨c, hc, hh, rfl⟩, hx⟩

/-! ## visible = in the tree and no component ignored -/

theorem mem_visFrom_iff (hit : RelPath → Bool) (t : Node) : ∀ (here p : RelPath) (d : Bool),
    (p, d) ∈ visFrom hit here t ↔
      (p, d) ∈ Node.paths here t ∧ ∀ k, here.length < k → k ≤ p.length → hit (p.take k) = false := by
  induction t using Node.induct with
  | file n c => intro here p d; simp
  | dir n cs h ih =>
    intro here p d
    rw [mem_visFrom_dir, Node.mem_paths_dir]
    simp only [← exists_and_right, and_assoc]
    refine exists_congr fun c => and_congr_right fun hc => ?_
    rw [ih c hc]
    simp only [List.length_append, List.length_singleton]
    -- `p` is `here ++ [c.name]` or longer: its prefixes of length above `here.length` are `here ++ [c.name]` and
    -- those of length above `here.length + 1`
    have key : (p, d) = (here ++ [c.name], c.isDir) ∨ (p, d) ∈ Node.paths (here ++ [c.name]) c →
        ((∀ k, here.length < k → k ≤ p.length → hit (p.take k) = false) ↔
          hit (here ++ [c.name]) = false ∧ ∀ k, here.length + 1 < k → k ≤ p.length → hit (p.take k) = false) := by
      intro hx
      have hp : here.length < p.length ∧ p.take (here.length + 1) = here ++ [c.name] := by
        rcases hx with hx | hx
        · rw [(Prod.mk.inj hx).1]
          exact ⟨by simp, List.take_of_length_le (by simp)⟩
        · have := Node.paths_prefix hx
          rw [List.length_append, List.length_singleton] at this
          exact ⟨Nat.lt_of_succ_lt this.1, this.2⟩
      rw [forall_take_succ (P := fun q => hit q = false) hp.1, hp.2]
    constructor
    · rintro ⟨hh, hx | ⟨hx, hk⟩⟩
      · refine ⟨.inl hx, (key (.inl hx)).2 ⟨hh, fun k h1 h2 => ?_⟩⟩
        rw [(Prod.mk.inj hx).1, List.length_append, List.length_singleton] at h2
        exact absurd (Nat.lt_of_lt_of_le h1 h2) (Nat.lt_irrefl _)
      · exact ⟨.inr hx, (key (.inr hx)).2 ⟨hh, hk⟩⟩
    · rintro ⟨hx, hk⟩
      obtain ⟨hh, hk'⟩ := (key hx).1 hk
      exact ⟨hh, hx.imp id fun hx => ⟨hx, hk'⟩⟩

/-! ## no duplicates -/

theorem visKids_names_pairwise (hit : RelPath → Bool) (here : RelPath) (cs : List Node)
    (hnd : (cs.map Node.name).Nodup) : (visKids hit here cs).Pairwise (fun a b => a.name ≠ b.name) := by
  unfold visKids
  apply List.Pairwise.filter
  rw [pairwise_isort (fun h => Ne.symm h), List.pairwise_map]
  rw [List.Nodup, List.pairwise_map] at hnd
  exact hnd

theorem visitPaths_kid_prefix {hit : RelPath → Bool} {here : RelPath} {cs : List Node} {k : Kid}
    (hk : k ∈ visKids hit here cs) {x : RelPath × Bool} (hx : x ∈ visitPaths k.visits) :
    here.length + 1 < x.1.length ∧ x.1.take (here.length + 1) = here ++ [k.name] := by
  obtain ⟨c, hc, -, rfl⟩ := (mem_visKids _ _ _ _).1 hk
  obtain ⟨p, d⟩ := x
  have := Node.paths_prefix ((mem_visFrom_iff hit c _ p d).1 hx).1
  simpa [kidOf] using this

/-- Paths below different visible children differ in the component after `here` (`visitPaths_kid_prefix`); the path of
a child itself has one component more than `here`, everything below it more than that. -/
theorem nodup_visFrom (hit : RelPath → Bool) (t : Node) :
    ∀ here : RelPath, t.NamesDistinct → (visFrom hit here t).Nodup := by
  induction t using Node.induct with
  | file n c => intro here _; simp
  | dir n cs h ih =>
    intro here hd
    rw [Node.namesDistinct_dir] at hd
    have hnames := visKids_names_pairwise hit here cs hd.1
    rw [visFrom_dir, List.nodup_append]
    refine ⟨?_, ?_, ?_⟩
    · rw [List.Nodup, List.pairwise_flatMap]
      constructor
      · intro k hk
        obtain ⟨c, hc, -, rfl⟩ := (mem_visKids _ _ _ _).1 hk
        exact ih c hc _ (hd.2 c hc)
      · refine hnames.imp_of_mem ?_
        intro a b ha hb hab x hx y hy hxy
        have h1 := (visitPaths_kid_prefix ha hx).2
        have h2 := (visitPaths_kid_prefix hb hy).2
        rw [hxy, h2] at h1
        exact hab (by simpa using h1.symm)
    · rw [List.Nodup, List.pairwise_map]
      refine hnames.imp ?_
      intro a b hab heq
      exact hab (by simpa using congrArg Prod.fst heq)
    · intro a ha b hb hab
      obtain ⟨k, hk, hx⟩ := List.mem_flatMap.1 ha
      obtain ⟨k', -, rfl⟩ := List.mem_map.1 hb
      have := (visitPaths_kid_prefix hk hx).1
      rw [hab] at this
      simp at this

/-! ## post-order -/

theorem traverse_folder_shape (hit : RelPath → Bool) (t : Node) :
    ∀ (here : RelPath) (v : Visit), v ∈ traverse hit here t → ∃ q, v.folder = here ++ q := by
  induction t using Node.induct with
  | file n c => intro here v hv; simp [traverse] at hv
  | dir n cs h ih =>
    intro here v hv
    rw [traverse_dir, List.mem_append, List.mem_flatMap] at hv
    rcases hv with ⟨k, hk, hv⟩ | hv
    · obtain ⟨c, hc, -, rfl⟩ := (mem_visKids _ _ _ _).1 hk
      obtain ⟨q, hq⟩ := ih c hc _ v hv
      exact ⟨c.name :: q, by simp [hq]⟩
    · exact ⟨[], by simp at hv; simp [hv]⟩

theorem kid_visit_shape {hit : RelPath → Bool} {here : RelPath} {cs : List Node} {k : Kid}
    (hk : k ∈ visKids hit here cs) {v : Visit} (hv : v ∈ k.visits) :
    ∃ q, v.folder = here ++ k.name :: q := by
  obtain ⟨c, hc, -, rfl⟩ := (mem_visKids _ _ _ _).1 hk
  obtain ⟨q, hq⟩ := traverse_folder_shape hit c _ v hv
  exact ⟨q, by simp [hq, kidOf]⟩

/-- Post-order (C02 `traverse_postorder`).  Visits of different children lie under different names, so neither folder is
a prefix of the other; the visit of the directory itself is last and its folder is shorter than that of every visit
of a child. -/
theorem traverse_pairwise (hit : RelPath → Bool) (t : Node) :
    ∀ here : RelPath, t.NamesDistinct →
      (traverse hit here t).Pairwise (fun v w => ¬ v.folder <+: w.folder) := by
  induction t using Node.induct with
  | file n c => intro here _; simp [traverse]
  | dir n cs h ih =>
    intro here hd
    rw [Node.namesDistinct_dir] at hd
    have hnames := visKids_names_pairwise hit here cs hd.1
    rw [traverse_dir, List.pairwise_append]
    refine ⟨?_, by simp, ?_⟩
    · rw [List.pairwise_flatMap]
      constructor
      · intro k hk
        obtain ⟨c, hc, -, rfl⟩ := (mem_visKids _ _ _ _).1 hk
        exact ih c hc _ (hd.2 c hc)
      · refine hnames.imp_of_mem ?_
        intro a b ha hb hab v hv w hw hpre
        obtain ⟨q, hq⟩ := kid_visit_shape ha hv
        obtain ⟨q', hq'⟩ := kid_visit_shape hb hw
        obtain ⟨r, hr⟩ := hpre
        rw [hq, hq', List.append_assoc, List.append_cancel_left_eq] at hr
        exact hab (by simpa using (List.cons.inj hr).1)
    · intro v hv w hw hpre
      obtain ⟨k, hk, hv⟩ := List.mem_flatMap.1 hv
      obtain ⟨q, hq⟩ := kid_visit_shape hk hv
      have := hpre.length_le
      simp at hw
      rw [hq, hw] at this
      simp at this
      omega

/-! ## names: Boolean tests for distinct sibling names, names that can be path components -/

mutual
/-- sibling names pairwise distinct in every folder, as a Boolean (for concrete trees) -/
def namesDistinctB : Node → Bool
  | .file _ _ => true
  | .dir _ cs _ => decide (cs.map Node.name).Nodup && namesDistinctKidsB cs
def namesDistinctKidsB : List Node → Bool
  | [] => true
  | c :: cs => namesDistinctB c && namesDistinctKidsB cs
end

mutual
theorem namesDistinctB_sound : (t : Node) → namesDistinctB t = true → t.NamesDistinct
  | .file _ _, _ => by simp [Node.NamesDistinct]
  | .dir _ cs _, h => by
    rw [namesDistinctB, Bool.and_eq_true, decide_eq_true_eq] at h
    rw [Node.NamesDistinct]
    exact ⟨h.1, namesDistinctKidsB_sound cs h.2⟩
theorem namesDistinctKidsB_sound : (cs : List Node) → namesDistinctKidsB cs = true → Node.NamesDistinctKids cs
  | [], _ => by simp [Node.NamesDistinctKids]
  | c :: cs, h => by
    rw [namesDistinctKidsB, Bool.and_eq_true] at h
    rw [Node.NamesDistinctKids]
    exact ⟨namesDistinctB_sound c h.1, namesDistinctKidsB_sound cs h.2⟩
end

mutual
/-- the test `namesDistinctB` written out a second time (`namesDistinctB_u_eq`); C03nested, C04nested and C09nested
evaluate this one -/
def namesDistinctB_u : Node → Bool
  | .file _ _ => true
  | .dir _ cs _ => decide ((cs.map Node.name).Nodup) && namesDistinctKidsB_u cs
def namesDistinctKidsB_u : List Node → Bool
  | [] => true
  | c :: cs => namesDistinctB_u c && namesDistinctKidsB_u cs
end

mutual
theorem namesDistinctB_u_eq : (t : Node) → namesDistinctB_u t = namesDistinctB t
  | .file _ _ => rfl
  | .dir _ cs _ => by rw [namesDistinctB_u, namesDistinctB, namesDistinctKidsB_u_eq cs]
theorem namesDistinctKidsB_u_eq : (cs : List Node) → namesDistinctKidsB_u cs = namesDistinctKidsB cs
  | [] => rfl
  | c :: cs => by rw [namesDistinctKidsB_u, namesDistinctKidsB, namesDistinctB_u_eq c, namesDistinctKidsB_u_eq cs]
end

theorem namesDistinctB_spec : (t : Node) → namesDistinctB_u t = true → t.NamesDistinct :=
  fun t h => namesDistinctB_sound t (namesDistinctB_u_eq t ▸ h)

theorem namesDistinctKidsB_spec : (cs : List Node) → namesDistinctKidsB_u cs = true → Node.NamesDistinctKids cs :=
  fun cs h => namesDistinctKidsB_sound cs (namesDistinctKidsB_u_eq cs ▸ h)

/-- a name that can be a path component without ambiguity in the POSIX text: no '/' inside, and not "." (the text of
the empty path).  Non-emptiness is not asked for: `posix` (MhlModel/Tree.lean) is injective on paths of such names
without it (CreateLemmas `posix_inj`). -/
def NameOk (s : String) : Prop := '/' ∉ s.toList ∧ s ≠ "."

instance : DecidablePred NameOk := fun s => inferInstanceAs (Decidable ('/' ∉ s.toList ∧ s ≠ "."))

/-- every name in the tree is `NameOk` (the root's own name is not a path component and is not looked at) -/
def Node.NamesOk (t : Node) : Prop := ∀ s ∈ t.descNames, NameOk s

instance (t : Node) : Decidable t.NamesOk := inferInstanceAs (Decidable (∀ s ∈ t.descNames, NameOk s))

theorem traverse_root_hist (hit : RelPath → Bool) (here : RelPath) (n : String) (cs : List Node)
    (h h' : Option HistStore) : traverse hit here (.dir n cs h) = traverse hit here (.dir n cs h') := by
  rw [traverse_dir, traverse_dir]

theorem Node.at?_child {t : Node} {here : RelPath} {n : String} {cs : List Node} {h : Option HistStore}
    (hat : t.at? here = some (.dir n cs h)) (hnd : (cs.map Node.name).Nodup) {c : Node} (hc : c ∈ cs) :
    t.at? (here ++ [c.name]) = some c := by
  rw [Node.at?_append, hat]
  simp [findChild_of_mem hnd hc, Node.at?]

end MhlModel
