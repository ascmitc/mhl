/-
Lemmas for C13 (independence of the OS listing order): `Node.PermEq` preserves names / kinds / histories /
distinctness of sibling names, induction over `PermEq` on trees with distinct sibling names
(`Node.PermEq.induct_distinct`), `findChild` under re-listing, the relation `OptPermEq` on optional nodes, and the
children of a visit as a sorted map over the listing (`visKids_perm_eq`).
-/
import MhlProps.C07
import MhlProps.Proofs.TraverseLemmas

namespace MhlModel

theorem Node.PermEq.isDir_eq {a b : Node} (h : Node.PermEq a b) : a.isDir = b.isDir := by
  induction h with
  | refl => rfl
  | trans _ _ ih₁ ih₂ => exact ih₁.trans ih₂
  | perm => rfl
  | congr => rfl

theorem Node.PermEq.hist_eq {a b : Node} (h : Node.PermEq a b) : a.hist = b.hist := by
  induction h with
  | refl => rfl
  | trans _ _ ih₁ ih₂ => exact ih₁.trans ih₂
  | perm => rfl
  | congr => rfl

/-- the statement of `Node.PermEq.symm` (MhlProps/C07.lean) -/
theorem PermEq.symm' {a b : Node} (h : Node.PermEq a b) : Node.PermEq b a :=
  h.symm

theorem Node.PermEq.eq_of_file {a b : Node} (h : Node.PermEq a b) : a.isDir = false → a = b := by
  induction h with
  | refl => intro _; rfl
  | trans h₁ _ ih₁ ih₂ =>
    intro hf
    have := ih₁ hf
    subst this
    exact ih₂ hf
  | perm => intro hf; simp [Node.isDir] at hf
  | congr => intro hf; simp [Node.isDir] at hf

theorem Node.PermEq.dir_inv {n : String} {cs : List Node} {h : Option HistStore} {b : Node}
    (hab : Node.PermEq (.dir n cs h) b) : ∃ cs', b = .dir n cs' h := by
  have h1 := hab.name_eq
  have h2 := hab.isDir_eq
  have h3 := hab.hist_eq
  cases b with
  | file _ _ => simp [Node.isDir] at h2
  | dir n' cs' h' =>
    simp only [Node.name, Node.hist] at h1 h3
    subst h1; subst h3
    exact ⟨cs', rfl⟩

theorem Node.PermEq.namesDistinct {a b : Node} (h : Node.PermEq a b) : a.NamesDistinct → b.NamesDistinct := by
  induction h with
  | refl => exact id
  | trans _ _ ih₁ ih₂ => exact fun hd => ih₂ (ih₁ hd)
  | perm n h hp =>
    intro hd
    rw [Node.namesDistinct_dir] at hd ⊢
    exact ⟨(hp.map Node.name).nodup_iff.1 hd.1, fun c hc => hd.2 c (hp.mem_iff.2 hc)⟩
  | @congr n pre post h a b hab ih =>
    intro hd
    rw [Node.namesDistinct_dir] at hd ⊢
    refine ⟨?_, ?_⟩
    · simpa [hab.name_eq] using hd.1
    · intro c hc
      simp only [List.mem_append, List.mem_cons] at hc
      rcases hc with hc | rfl | hc
      · exact hd.2 c (by simp [hc])
      · exact ih (hd.2 a (by simp))
      · exact hd.2 c (by simp [hc])

/-- Induction over `PermEq a b` for a tree `a` with distinct sibling names: a reflexive and transitive relation that
holds between a directory and any re-listing of it, and between two directories that differ in one child for which it
holds, holds between `a` and `b`.  The two directory cases may use that the names in the listing are distinct. -/
theorem Node.PermEq.induct_distinct {R : Node → Node → Prop} (refl : ∀ t, R t t)
    (trans : ∀ {a b c}, R a b → R b c → R a c)
    (perm : ∀ (n : String) {cs₁ cs₂ : List Node} (h : Option HistStore), cs₁.Perm cs₂ →
      (cs₁.map Node.name).Nodup → R (.dir n cs₁ h) (.dir n cs₂ h))
    (congr : ∀ (n : String) (pre post : List Node) (h : Option HistStore) {a b : Node}, Node.PermEq a b →
      ((pre ++ a :: post).map Node.name).Nodup → R a b →
      R (.dir n (pre ++ a :: post) h) (.dir n (pre ++ b :: post) h))
    {a b : Node} (hab : Node.PermEq a b) : a.NamesDistinct → R a b := by
  induction hab with
  | refl t => exact fun _ => refl t
  | trans h₁ _ ih₁ ih₂ => exact fun hd => trans (ih₁ hd) (ih₂ (h₁.namesDistinct hd))
  | perm n h hp => exact fun hd => perm n h hp ((Node.namesDistinct_dir ..).1 hd).1
  | congr n pre post h hab ih =>
    intro hd
    rw [Node.namesDistinct_dir] at hd
    exact congr n pre post h hab hd.1 (ih (hd.2 _ (by simp)))

theorem findChild_perm {cs₁ cs₂ : List Node} (hp : cs₁.Perm cs₂) (hnd : (cs₁.map Node.name).Nodup)
    (m : String) : findChild cs₁ m = findChild cs₂ m := by
  cases h : findChild cs₁ m with
  | none =>
    rw [findChild_none_iff] at h
    exact ((findChild_none_iff cs₂ m).2 fun c hc => h c (hp.mem_iff.2 hc)).symm
  | some c =>
    obtain ⟨hc, rfl⟩ := findChild_some h
    exact (findChild_of_mem ((hp.map Node.name).nodup_iff.1 hnd) (hp.mem_iff.1 hc)).symm

/-- two optional nodes are both absent, or both present and related -/
def OptPermEq : Option Node → Option Node → Prop
  | none, none => True
  | some x, some y => Node.PermEq x y
  | _, _ => False

theorem OptPermEq.refl (x : Option Node) : OptPermEq x x := by
  cases x with
  | none => trivial
  | some x => exact Node.PermEq.refl x

theorem OptPermEq.trans {x y z : Option Node} (h₁ : OptPermEq x y) (h₂ : OptPermEq y z) : OptPermEq x z := by
  cases x <;> cases y <;> cases z <;> simp_all [OptPermEq]
  exact Node.PermEq.trans h₁ h₂

theorem OptPermEq.cases {x y : Option Node} (h : OptPermEq x y) :
    x = y ∨ ∃ n cs cs' hh, x = some (.dir n cs hh) ∧ y = some (.dir n cs' hh) ∧
      Node.PermEq (.dir n cs hh) (.dir n cs' hh) := by
  cases x <;> cases y
  · exact .inl rfl
  · exact h.elim
  · exact h.elim
  · next x y =>
    have h : Node.PermEq x y := h
    cases x with
    | file n c => exact .inl (congrArg some (h.eq_of_file rfl))
    | dir n cs hh =>
      obtain ⟨cs', rfl⟩ := h.dir_inv
      exact .inr ⟨n, cs, cs', hh, rfl, rfl, h⟩

theorem kidOf_name (hit : RelPath → Bool) (here : RelPath) (c : Node) : (kidOf hit here c).name = c.name := rfl

theorem visKids_perm_eq (hit : RelPath → Bool) (here : RelPath) {cs₁ cs₂ : List Node} (hp : cs₁.Perm cs₂)
    (hnd : (cs₁.map Node.name).Nodup) : visKids hit here cs₁ = visKids hit here cs₂ := by
  unfold visKids
  rw [isort_key_eq_of_perm Kid.name (hp.map (kidOf hit here))]
  simpa [Function.comp_def, kidOf_name] using hnd

end MhlModel
