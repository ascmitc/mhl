/-
C01 — File digests are the standard algorithms over the exact file bytes.

The property theorems; general helper lemmas live in MhlProps/Proofs/{CodecLemmas,HashingLemmas}, only the finite table
behind the hex round trip (`hex_byte`: all 256 bytes) is here.  Everything is about the model in
MhlModel/{Codec,Hashing}.lean whose numeric parameters are regenerated from the source (Gen/Consts.lean).
The digest primitives are a parameter: any `Alg`, a streaming hasher whose fields `update_append` and `update_nil` are
the streaming law (`P : Prims` is a family of them by library name); that hashlib.md5 *is* MD5 is the trusted base,
not a theorem.
-/
import MhlProps.Proofs.CodecLemmas
import MhlProps.Proofs.HashingLemmas

namespace MhlProps.C01
open MhlModel MhlModel.Codec MhlModel.Hashing

/-! ### the format table of the source is the specified one -/

/-- md5→MD5/hex, sha1→SHA-1/hex, xxh32→XXH32/hex, xxh64→XXH64/hex, xxh3→XXH3-64/hex, xxh128→XXH3-128/hex,
c4→SHA-512/C4 -/
def specTable : List (String × String × String) :=
  [("md5", "hashlib.md5", "hex"), ("sha1", "hashlib.sha1", "hex"), ("xxh32", "xxhash.xxh32", "hex"),
   ("xxh64", "xxhash.xxh64", "hex"), ("xxh3", "xxhash.xxh3_64", "hex"), ("xxh128", "xxhash.xxh3_128", "hex"),
   ("c4", "hashlib.sha512", "c4")]

theorem table_is_spec : Gen.hashTable = specTable := by decide +kernel

theorem cli_formats_in_table : ∀ f ∈ Gen.supportedFormats, (Gen.hashTable.find? (fun t => t.1 == f)).isSome := by
  decide +kernel

theorem reference_format_is_c4 : Gen.referenceFormat = "c4" ∧ Gen.defaultFormat ∈ Gen.supportedFormats := by decide +kernel

/-- the C4 parameters of encoder and decoder agree with each other and with the definition of a C4 ID -/
theorem c4_parameters :
    Gen.c4EncBase = 58 ∧ Gen.c4DecBase = 58 ∧ c4Alphabet.length = 58 ∧ c4Alphabet.Nodup ∧
    Gen.c4EncLength = 90 ∧ Gen.c4DecLength = 90 ∧ Gen.c4Prefix = "c4" ∧ Gen.c4PrefixLen = 2 ∧
    Gen.c4DecStart = 2 ∧ Gen.c4DecBytes = 64 ∧ Gen.c4DecByteorder = "big" ∧ Gen.c4EncZero = "1" ∧
    c4Alphabet.head? = some c4ZeroChar := by
  exact ⟨rfl, rfl, alphabet_length, alphabet_nodup, rfl, rfl, rfl, rfl, rfl, rfl, rfl, rfl, alphabet_head⟩

theorem chunk_sizes_positive : 0 < Gen.chunkSingle ∧ 0 < Gen.chunkAggregate := by decide

/-! ### the C4 text form -/

theorem c4_length (d : Bytes) (h : d.length = 64) : (c4OfBytes d).length = 90 := by
  have := ofBytesBE_lt d; rw [h, pow_256_64] at this
  exact c4EncodeNat_length _ this

theorem c4_prefix (d : Bytes) : (c4OfBytes d).take 2 = ['c', '4'] := by
  rw [c4OfBytes, c4EncodeNat_eq]; rfl

/-- decoding the text form gives back the 64 digest bytes, for all of them (leading zero digits included) -/
theorem c4_roundtrip (d : Bytes) (h : d.length = 64) : c4ToBytes (c4OfBytes d) = some d := by
  have hlt := ofBytesBE_lt d; rw [h, pow_256_64] at hlt
  unfold c4ToBytes c4OfBytes
  rw [c4DecodeNat_encode _ hlt]
  have : ofBytesBE d < 256 ^ Gen.c4DecBytes := by
    have : Gen.c4DecBytes = 64 := rfl
    rw [this, pow_256_64]; exact hlt
  simp only [this, if_true]
  have h64 : Gen.c4DecBytes = d.length := by rw [h]; rfl
  rw [h64, toBytesBE_ofBytesBE]

/-- hence the text form is injective on digests: two files with different SHA-512 never share a C4 ID -/
theorem c4_injective (d₁ d₂ : Bytes) (h₁ : d₁.length = 64) (h₂ : d₂.length = 64)
    (h : c4OfBytes d₁ = c4OfBytes d₂) : d₁ = d₂ := by
  have e₁ := c4_roundtrip d₁ h₁
  have e₂ := c4_roundtrip d₂ h₂
  rw [h] at e₁
  exact Option.some.inj (e₁.symm.trans e₂)

theorem c4_alphabet (d : Bytes) : ∀ c ∈ (c4OfBytes d).drop 2, c ∈ c4Alphabet := by
  intro c hc
  rw [c4OfBytes, c4EncodeNat_eq] at hc
  obtain ⟨x, hx, rfl⟩ := List.mem_map.mp hc
  exact getD_mem_alphabet x (rjust_digits_lt 58 88 _ (by omega) x hx)

/-- the numeral has fewer than 88 digits, so that `c4EncodeNat` pads it on the left with '1', exactly for values below
58^87 -/
theorem c4_padding_iff (n : Nat) : (digits 58 n).length < 88 ↔ n < 58 ^ 87 := by
  simpa [digits, Nat.lt_succ_iff] using digitsRev_length_le_iff 58 (by omega) n 87

/-! ### the hex text form -/

theorem hex_byte : ∀ x : Nat, x < 256 →
    unhex [hexDigit (x / 16), hexDigit (x % 16)] = some [UInt8.ofNat x] := by
  decide +kernel

theorem hex_roundtrip (b : Bytes) : unhex (hexOfBytes b) = some b := by
  induction b with
  | nil => simp [hexOfBytes, unhex]
  | cons x xs ih =>
    -- `hex_byte` reads the two digits of the head byte back; the `cases` expose the `hexVal`s that `unhex` matches on
    have hx := hex_byte x.toNat x.toNat_lt
    simp only [hexOfBytes, List.flatMap_cons, List.cons_append, List.nil_append] at *
    unfold unhex
    simp only [unhex] at hx
    revert hx
    cases hexVal (hexDigit (x.toNat / 16)) <;> cases hexVal (hexDigit (x.toNat % 16)) <;> simp [ih]

theorem hex_length (b : Bytes) : (hexOfBytes b).length = 2 * b.length := by
  induction b with
  | nil => simp [hexOfBytes]
  | cons x xs ih => simp only [hexOfBytes, List.flatMap_cons] at *; simp [ih]; omega

theorem hex_lowercase (b : Bytes) : ∀ c ∈ hexOfBytes b, c ∈ hexChars := by
  intro c hc
  simp only [hexOfBytes, List.mem_flatMap] at hc
  obtain ⟨x, _, hc⟩ := hc
  have h1 : ∀ n, n < 16 → hexDigit n ∈ hexChars := by decide +kernel
  have hx := x.toNat_lt
  simp only [List.mem_cons, List.not_mem_nil, or_false] at hc
  rcases hc with rfl | rfl
  · exact h1 _ (by omega)
  · exact h1 _ (Nat.mod_lt _ (by omega))

/-! ### the single-format read loop -/

/-- For every streaming hasher, every content and EVERY read schedule (any chunk sizes, short reads included) of
non-empty reads that concatenate to the content and end with EOF: the loop yields the one-shot digest. -/
theorem readLoop_eq_oneShot (A : Alg) (content : Bytes) (cs rest : List Bytes)
    (hne : ∀ c ∈ cs, c ≠ []) (hcat : cs.flatten = content) :
    A.final (readLoop A (cs ++ [] :: rest)) = A.digest content := by
  rw [← hcat]; exact readLoop_schedule A cs rest hne

theorem hashFile_chunk_independent (h : Hasher) (content : Bytes) (size : Nat) (hs : 0 < size) :
    hashFileReads h (chunksOf size content) = hashData h content := by
  rw [hashFileReads_eq h _ (chunksOf_nonempty _ _), chunksOf_flatten _ hs]

/-- `Hasher.hash_file` (1 MiB chunks as in the source) equals `Hasher.hash_data`, for every length -/
theorem hashFile_eq_hashData (h : Hasher) (content : Bytes) : hashFile h content = hashData h content :=
  hashFile_chunk_independent h content _ chunk_sizes_positive.1

/-- streaming use: the digest observed after any number of `update` calls is the one-shot digest of the bytes fed
so far (observing a digest is a function of the state, it does not change it) -/
theorem streaming_prefix_digest (A : Alg) (cs : List Bytes) (k : Nat) :
    A.final ((cs.take k).foldl A.update A.init) = A.digest (cs.take k).flatten := by
  simp [foldl_update, Alg.digest]

/-! ### the read-once multi-format loop -/

/-- every requested format (duplicates collapse as in a dict) gets exactly the single-format result -/
theorem aggregate_eq_single (P : Prims) (fmts : List String) (content : Bytes)
    (r : List (String × String)) (hr : aggregateHashFile P fmts content = some r) :
    r.map (·.1) = dedup fmts ∧
    ∀ f ∈ fmts, ∃ h, hasherFor P f = some h ∧ (f, hashData h content) ∈ r := by
  unfold aggregateHashFile aggregateHashReads at hr
  have hchunks : ∀ h : Hasher, hashFileReads h (chunksOf Gen.chunkAggregate content) = hashData h content :=
    fun h => hashFile_chunk_independent h content _ chunk_sizes_positive.2
  simp only [hchunks] at hr
  have key := mapM_option_spec (fun f => (hasherFor P f).map fun h => (f, hashData h content)) (dedup fmts) r hr
  refine ⟨?_, ?_⟩
  · apply key.1 (·.1)
    intro x y hxy
    cases hh : hasherFor P x <;> simp [hh] at hxy
    rw [← hxy]
  · intro f hf
    obtain ⟨y, hy, hmem⟩ := key.2 f ((mem_dedup f fmts).mpr hf)
    cases hh : hasherFor P f <;> simp [hh] at hy
    exact ⟨_, rfl, by rw [hy]; exact hmem⟩

/-! ### hash of a list of hashes (used by directory hashes, C07) -/

/-- `hash_of_hash_list` as written (fresh hasher, one `update` per decoded digest, nothing for the empty list)
is the one-shot digest of the concatenation -/
theorem hashOfHashList_eq_spec (h : Hasher) (l : List String) : hashOfHashList h l = hashOfHashListSpec h l := by
  unfold hashOfHashList hashOfHashListSpec
  split
  · next he =>
    have : l = [] := by simpa using he
    subst this
    simp [isort, hashData, Alg.digest, h.alg.update_nil]
  · simp only [hashData, Alg.digest, foldl_update]

/-- a streaming hasher exists: the identity "hash" (state = bytes fed so far) -/
def idAlg : Alg := ⟨Bytes, [], (· ++ ·), id, by simp, by simp⟩

example : (idAlg.final (readLoop idAlg ([[1, 2], [3]] ++ [] :: [[9]]))) = idAlg.digest [1, 2, 3] := by
  exact readLoop_eq_oneShot idAlg [1, 2, 3] [[1, 2], [3]] [[9]] (by decide) rfl

example : c4ToBytes (c4OfBytes (List.replicate 64 0)) = some (List.replicate 64 0) :=
  c4_roundtrip _ (by simp)

end MhlProps.C01
