/-
The tree of loaded histories and routing on it.

The lists `Hist.all` / `walkPost`; with pairwise different roots every history has ONE parent (`parentRoot` is exact);
a well-formed tree of histories (`Hist.WF`) has pairwise different roots.  What `loadHistory` builds (`HistOK`) is read
off the loader's closed form: the histories found below a folder are in walk order (`WalkLt`), every history found is
`buildHist` over what is found below its own folder, so the loaded tree is well formed and rooted at folders.  Routing
(`ownerOf`, `relOf`): the owner is the deepest history above the path.  `ownerHist` (for `info -sf`, C19) on a
well-formed tree of histories; there "rooted at or below" is "is a transitive child" (`mem_all_of_prefix`).  A history
without children rooted at the command root is `HistOK` for any tree (`histOK_flat`).
-/
import MhlProps.Proofs.CreateLemmas
import MhlProps.C08
import MhlProps.Proofs.LoadLemmas
import Mathlib.Data.List.Perm.Basic
import Mathlib.Data.List.Nodup

namespace MhlModel

/-! ### the members of a tree of histories (`Hist.all`, `walkPost`) -/

theorem Hist.induct {P : Hist → Prop}
    (mk : ∀ r g c e cs, (∀ x ∈ cs, P x) → P (.mk r g c e cs)) (h : Hist) : P h :=
  Hist.rec (motive_1 := P) (motive_2 := fun cs => ∀ x ∈ cs, P x)
    (fun r g c e cs ih => mk r g c e cs ih) (by simp)
    (fun c cs hc hcs => by
      intro x hx
      rcases List.mem_cons.1 hx with rfl | hx
      · exact hc
      · exact hcs x hx) h

theorem walkPostList_eq (cs : List Hist) : walkPostList cs = cs.flatMap walkPost := by
  induction cs with
  | nil => simp [walkPostList]
  | cons c cs ih => simp [walkPostList, ih]

theorem allDescendants_eq (h : Hist) : allDescendants h = h.children.flatMap Hist.all := by
  cases h with
  | mk r g c e cs => rw [allDescendants, descList_eq]; rfl

theorem walkPost_eq (h : Hist) : walkPost h = h.children.flatMap walkPost ++ [h] := by
  cases h with
  | mk r g c e cs => rw [walkPost, walkPostList_eq]; rfl

theorem Hist.all_eq (h : Hist) : h.all = h :: h.children.flatMap Hist.all := by
  rw [Hist.all, allDescendants_eq]

theorem Hist.self_mem_all (h : Hist) : h ∈ h.all := by simp [Hist.all]

theorem Hist.all_map (F : Hist → Hist) (hF : ∀ h, (F h).children = h.children.map F) (h : Hist) :
    (F h).all = h.all.map F := by
  induction h using Hist.induct with
  | mk r g c e cs ih =>
    rw [Hist.all_eq, Hist.all_eq, hF, List.map_cons, List.flatMap_map, List.map_flatMap]
    exact congrArg _ (flatMap_congr_mem fun k hk => ih k hk)

theorem allDescendants_map (F : Hist → Hist) (hF : ∀ h, (F h).children = h.children.map F) (h : Hist) :
    allDescendants (F h) = (allDescendants h).map F :=
  (List.cons.inj (Hist.all_map F hF h)).2

theorem descList_map (F : Hist → Hist) (hF : ∀ h, (F h).children = h.children.map F) (cs : List Hist) :
    descList (cs.map F) = (descList cs).map F := by
  rw [descList_eq, descList_eq, List.flatMap_map, List.map_flatMap]
  exact flatMap_congr_mem fun k _ => Hist.all_map F hF k

theorem child_mem_allDescendants {h c : Hist} (hc : c ∈ h.children) : c ∈ allDescendants h := by
  rw [allDescendants_eq, List.mem_flatMap]
  exact ⟨c, hc, c.self_mem_all⟩

theorem allDescendants_trans (g : Hist) : ∀ x ∈ g.all, ∀ y ∈ allDescendants x, y ∈ allDescendants g := by
  induction g using Hist.induct with
  | mk r gg c e cs ih =>
    intro x hx y hy
    rw [Hist.all_eq] at hx
    rcases List.mem_cons.1 hx with rfl | hx
    · exact hy
    · obtain ⟨k, hk, hxk⟩ := List.mem_flatMap.1 hx
      have := ih k hk x hxk y hy
      rw [allDescendants_eq, List.mem_flatMap]
      exact ⟨k, hk, List.mem_cons_of_mem _ this⟩

theorem all_trans (g : Hist) {x y : Hist} (hx : x ∈ g.all) (hy : y ∈ x.all) : y ∈ g.all := by
  rcases List.mem_cons.1 hy with rfl | hy
  · exact hx
  · exact List.mem_cons_of_mem _ (allDescendants_trans g x hx y hy)

theorem child_of_mem_all {g x c : Hist} (hx : x ∈ g.all) (hc : c ∈ x.children) : c ∈ allDescendants g :=
  allDescendants_trans g x hx c (child_mem_allDescendants hc)

theorem allDescendants_has_parent (g : Hist) : ∀ y ∈ allDescendants g, ∃ x ∈ g.all, y ∈ x.children := by
  induction g using Hist.induct with
  | mk r gg c e cs ih =>
    intro y hy
    rw [allDescendants_eq, List.mem_flatMap] at hy
    obtain ⟨k, hk, hyk⟩ := hy
    rcases List.mem_cons.1 hyk with rfl | hyk
    · exact ⟨_, Hist.self_mem_all _, hk⟩
    · obtain ⟨x, hx, hyx⟩ := ih k hk y hyk
      refine ⟨x, ?_, hyx⟩
      exact all_trans _ (List.mem_cons_of_mem _ (child_mem_allDescendants (h := .mk r gg c e cs) hk)) hx

theorem walkPost_perm (h : Hist) : (walkPost h).Perm h.all := by
  induction h using Hist.induct with
  | mk r g c e cs ih =>
    rw [walkPost_eq, Hist.all_eq]
    refine List.perm_append_singleton _ _ |>.trans (List.Perm.cons _ ?_)
    exact List.Perm.flatMap_left _ ih

theorem walkPostList_perm : (cs : List Hist) → (walkPostList cs).Perm (descList cs) := by
  intro cs
  rw [walkPostList_eq, descList_eq]
  exact List.Perm.flatMap_left _ fun c _ => walkPost_perm c

theorem mem_walkPost (h x : Hist) : x ∈ walkPost h ↔ x ∈ h.all := (walkPost_perm h).mem_iff

theorem walkPost_child_sublist (g : Hist) : ∀ h ∈ g.all, ∀ c ∈ h.children, [c, h].Sublist (walkPost g) := by
  induction g using Hist.induct with
  | mk r gg ch e cs ih =>
    intro h hh c hc
    rw [walkPost_eq]
    rw [Hist.all_eq] at hh
    rcases List.mem_cons.1 hh with rfl | hh
    · have hcm : c ∈ (Hist.mk r gg ch e cs).children.flatMap walkPost :=
        List.mem_flatMap.2 ⟨c, hc, (mem_walkPost c c).2 c.self_mem_all⟩
      exact (List.singleton_sublist.2 hcm).append (List.Sublist.refl [_])
    · obtain ⟨k, hk, hhk⟩ := List.mem_flatMap.1 hh
      exact ((ih k hk h hhk c hc).trans ((infix_flatMap_of_mem (f := walkPost) hk).sublist)).trans
        (List.sublist_append_left _ _)

/-! ### pairwise different roots: every history has one parent -/

/-- the root folders of a list of histories -/
abbrev rootsOf (l : List Hist) : List RelPath := l.map (·.root)

theorem nodup_block {cs : List Hist} {k : Hist} (hk : k ∈ cs) (hnd : (rootsOf (cs.flatMap Hist.all)).Nodup) :
    (rootsOf k.all).Nodup := by
  have h1 : k.all <:+: cs.flatMap Hist.all := infix_flatMap_of_mem (f := Hist.all) hk
  exact hnd.sublist (h1.sublist.map _)

/-- the block of a child `k` is `k.all` inside `cs.flatMap Hist.all`; distinct roots over the concatenation make the
blocks of different children disjoint in their roots -/
theorem same_block {cs : List Hist} (hnd : (rootsOf (cs.flatMap Hist.all)).Nodup) {k k' u v : Hist}
    (hk : k ∈ cs) (hk' : k' ∈ cs) (hu : u ∈ k.all) (hv : v ∈ k'.all) (huv : u.root = v.root) : k' = k := by
  obtain ⟨a, b, rfl⟩ := List.append_of_mem hk
  simp only [List.flatMap_append, List.flatMap_cons, rootsOf, List.map_append] at hnd
  rw [List.nodup_append] at hnd
  obtain ⟨-, hnd2, hdis1⟩ := hnd
  rw [List.nodup_append] at hnd2
  obtain ⟨-, -, hdis2⟩ := hnd2
  have hur : u.root ∈ List.map (·.root) k.all := List.mem_map_of_mem hu
  rcases List.mem_append.1 hk' with h | h
  · exfalso
    have hvr : v.root ∈ List.map (·.root) (a.flatMap Hist.all) :=
      List.mem_map_of_mem (List.mem_flatMap.2 ⟨k', h, hv⟩)
    exact hdis1 _ hvr _ (List.mem_append_left _ hur) huv.symm
  · rcases List.mem_cons.1 h with h | h
    · exact h
    · exfalso
      have hvr : v.root ∈ List.map (·.root) (b.flatMap Hist.all) :=
        List.mem_map_of_mem (List.mem_flatMap.2 ⟨k', h, hv⟩)
      exact hdis2 _ hur _ hvr huv

theorem unique_parent (g : Hist) : (rootsOf g.all).Nodup →
    ∀ x ∈ g.all, ∀ y ∈ g.all, ∀ c1 ∈ x.children, ∀ c2 ∈ y.children, c1.root = c2.root → x.root = y.root := by
  induction g using Hist.induct with
  | mk r gg ch e cs ih =>
    intro hnd x hx y hy c1 hc1 c2 hc2 heq
    rw [Hist.all_eq] at hnd hx hy
    have hnd' : (rootsOf (cs.flatMap Hist.all)).Nodup := by
      simp only [rootsOf, List.map_cons, List.nodup_cons] at hnd
      exact hnd.2
    -- a direct child of the top and a strict descendant of a child never share a root
    have key : ∀ c ∈ cs, ∀ k ∈ cs, ∀ z ∈ k.all, ∀ c' ∈ z.children, c.root = c'.root → False := by
      intro c hc k hk z hz c' hc' he
      have hc'k : c' ∈ allDescendants k := child_of_mem_all hz hc'
      have hkc : k = c := same_block hnd' hc hk c.self_mem_all (List.mem_cons_of_mem _ hc'k) he
      subst hkc
      have := nodup_block hc hnd'
      simp only [rootsOf, Hist.all, List.map_cons, List.nodup_cons] at this
      exact this.1 (he ▸ List.mem_map_of_mem hc'k)
    rcases List.mem_cons.1 hx with rfl | hx
    · rcases List.mem_cons.1 hy with rfl | hy
      · rfl
      · obtain ⟨k, hk, hyk⟩ := List.mem_flatMap.1 hy
        exact (key c1 hc1 k hk y hyk c2 hc2 heq).elim
    · obtain ⟨k1, hk1, hxk⟩ := List.mem_flatMap.1 hx
      rcases List.mem_cons.1 hy with rfl | hy
      · exact (key c2 hc2 k1 hk1 x hxk c1 hc1 heq.symm).elim
      · obtain ⟨k2, hk2, hyk⟩ := List.mem_flatMap.1 hy
        have h12 : k2 = k1 := same_block hnd' hk1 hk2
          (List.mem_cons_of_mem _ (child_of_mem_all hxk hc1)) (List.mem_cons_of_mem _ (child_of_mem_all hyk hc2)) heq
        subst h12
        exact ih k2 hk2 (nodup_block hk2 hnd') x hxk y hyk c1 hc1 c2 hc2 heq

theorem parentRoot_some {g : Hist} {d pr : RelPath} (h : parentRoot g d = some pr) :
    ∃ x ∈ g.all, x.root = pr ∧ ∃ c ∈ x.children, c.root = d := by
  unfold parentRoot at h
  cases hf : (g :: allDescendants g).find? (fun x => x.children.any fun c => c.root == d) with
  | none => simp [hf] at h
  | some x =>
    simp only [hf, Option.map_some, Option.some.injEq] at h
    have hp := List.find?_some hf
    obtain ⟨c, hc, hcd⟩ := List.any_eq_true.1 hp
    exact ⟨x, List.mem_of_find?_eq_some hf, h, c, hc, by simpa using hcd⟩

theorem parentRoot_none {g : Hist} {d : RelPath} (h : parentRoot g d = none) :
    ∀ x ∈ g.all, ∀ c ∈ x.children, c.root ≠ d := by
  unfold parentRoot at h
  simp only [Option.map_eq_none_iff, List.find?_eq_none] at h
  intro x hx c hc hcd
  exact h x hx (List.any_eq_true.2 ⟨c, hc, by simpa using hcd⟩)

theorem parentRoot_child {g : Hist} (hnd : (rootsOf g.all).Nodup) {x c : Hist} (hx : x ∈ g.all)
    (hc : c ∈ x.children) : parentRoot g c.root = some x.root := by
  cases hp : parentRoot g c.root with
  | none => exact absurd rfl (parentRoot_none hp x hx c hc)
  | some pr =>
    obtain ⟨y, hy, hyr, c', hc', hcc⟩ := parentRoot_some hp
    rw [← hyr, unique_parent g hnd y hy x hx c' hc' c hc hcc]

theorem mem_all_root_inj {g : Hist} (hnd : (rootsOf g.all).Nodup) {x y : Hist} (hx : x ∈ g.all) (hy : y ∈ g.all)
    (h : x.root = y.root) : x = y :=
  List.inj_on_of_nodup_map hnd hx hy h

theorem parentRoot_iff {g : Hist} (hnd : (rootsOf g.all).Nodup) {x : Hist} (hx : x ∈ g.all) (d : RelPath) :
    parentRoot g d = some x.root ↔ ∃ c ∈ x.children, c.root = d := by
  constructor
  · intro h
    obtain ⟨y, hy, hyr, c, hc, hcd⟩ := parentRoot_some h
    rw [mem_all_root_inj hnd hy hx hyr] at hc
    exact ⟨c, hc, hcd⟩
  · rintro ⟨c, hc, rfl⟩
    exact parentRoot_child hnd hx hc

theorem walkPost_roots_nodup {g : Hist} (hnd : (rootsOf g.all).Nodup) : (rootsOf (walkPost g)).Nodup :=
  ((walkPost_perm g).map _).nodup_iff.2 hnd

/-- `[c, h]` is a sublist of the duplicate-free list `l1 ++ h :: l2`, so `c` lies left of `h` -/
theorem walkPost_child_before {g : Hist} (hnd : (rootsOf g.all).Nodup) {l1 l2 : List Hist} {h : Hist}
    (hw : walkPost g = l1 ++ h :: l2) {c : Hist} (hc : c ∈ h.children) : c ∈ l1 := by
  have hh : h ∈ g.all := (mem_walkPost g h).1 (by rw [hw]; simp)
  have hsub := walkPost_child_sublist g h hh c hc
  have hndw : (walkPost g).Nodup := (walkPost_roots_nodup hnd).of_map _
  rw [hw] at hsub hndw
  obtain ⟨a, b, hab, ha, hb⟩ := List.sublist_append_iff.1 hsub
  cases a with
  | nil =>
    exfalso
    rw [List.nil_append] at hab
    subst hab
    have h2 := (List.nodup_append.1 hndw).2.1
    rw [List.nodup_cons] at h2
    cases hb with
    | cons _ h3 => exact h2.1 (h3.subset (by simp))
    | cons_cons _ h3 => exact h2.1 (h3.subset (by simp))
  | cons x a =>
    rw [List.cons_append, List.cons.injEq] at hab
    exact hab.1 ▸ ha.subset List.mem_cons_self

/-! ### the walk order of paths (`WalkLt`) -/

/-- `a` comes before `b` in a top-down walk that enters sub-folders in the order of their names: the two paths part
at some folder, `a` into the sub-folder with the smaller name -/
def WalkLt (a b : RelPath) : Prop :=
  ∃ pre x y ra rb, a = pre ++ x :: ra ∧ b = pre ++ y :: rb ∧ x ≠ y ∧ strLe x y = true

theorem WalkLt.append {a b : RelPath} (h : WalkLt a b) (s s' : RelPath) : WalkLt (a ++ s) (b ++ s') := by
  obtain ⟨pre, x, y, ra, rb, rfl, rfl, hne, hle⟩ := h
  exact ⟨pre, x, y, ra ++ s, rb ++ s', by simp, by simp, hne, hle⟩

theorem WalkLt.not_prefix {a b : RelPath} (h : WalkLt a b) : ¬ a <+: b ∧ ¬ b <+: a := by
  obtain ⟨pre, x, y, ra, rb, rfl, rfl, hne, -⟩ := h
  constructor
  · rintro ⟨r, hr⟩
    rw [List.append_assoc, List.append_cancel_left_eq, List.cons_append, List.cons.injEq] at hr
    exact hne hr.1
  · rintro ⟨r, hr⟩
    rw [List.append_assoc, List.append_cancel_left_eq, List.cons_append, List.cons.injEq] at hr
    exact hne hr.1.symm

theorem mem_descList_self {hs : List Hist} {x : Hist} (h : x ∈ hs) : x ∈ descList hs := by
  rw [descList_eq, List.mem_flatMap]; exact ⟨x, h, x.self_mem_all⟩

theorem all_root_prefix (k : Hist) : (∀ y ∈ k.all, ∀ c ∈ y.children, y.root <+: c.root) →
    ∀ x ∈ k.all, k.root <+: x.root := by
  induction k using Hist.induct with
  | mk r gg ch e cs ih =>
    intro hc x hx
    rw [Hist.all_eq] at hx
    rcases List.mem_cons.1 hx with rfl | hx
    · exact List.prefix_refl _
    · obtain ⟨c, hcm, hxc⟩ := List.mem_flatMap.1 hx
      have h1 : (Hist.mk r gg ch e cs).root <+: c.root := hc _ (Hist.self_mem_all _) c hcm
      have hsub : ∀ y ∈ c.all, y ∈ (Hist.mk r gg ch e cs).all := fun y hy =>
        all_trans _ (List.mem_cons_of_mem _ (child_mem_allDescendants (h := .mk r gg ch e cs) hcm)) hy
      exact h1.trans (ih c hcm (fun y hy => hc y (hsub y hy)) x hxc)

/-! ### well-formed trees of histories -/

/-- all histories of a loaded tree of histories: the history itself, then every transitive child (pre-order, children
in discovery order) — the same list as `Hist.all` -/
def allHists (h : Hist) : List Hist := h :: allDescendants h

theorem allHists_eq_all (h : Hist) : allHists h = h.all := rfl

theorem allHists_eq (h : Hist) : allHists h = h :: h.children.flatMap allHists := Hist.all_eq h

theorem self_mem_allHists (h : Hist) : h ∈ allHists h := h.self_mem_all

theorem mem_allHists_of_child {h c x : Hist} (hc : c ∈ h.children) (hx : x ∈ allHists c) : x ∈ allHists h :=
  all_trans h (List.mem_cons_of_mem _ (child_mem_allDescendants hc)) hx

/-- sibling roots: neither is a prefix of the other -/
def RootsApart (a b : Hist) : Prop := ¬ a.root <+: b.root ∧ ¬ b.root <+: a.root

/-- well-formedness of a tree of histories, hereditarily (for the history and every transitive child): the root of
every child properly extends the root of its parent, and the roots of two different siblings are not prefixes of one
another -/
def Hist.WF (h : Hist) : Prop :=
  ∀ x ∈ allHists h,
    (∀ c ∈ x.children, x.root <+: c.root ∧ c.root ≠ x.root) ∧ x.children.Pairwise RootsApart

theorem Hist.wf_iff (h : Hist) :
    h.WF ↔ (∀ c ∈ h.children, h.root <+: c.root ∧ c.root ≠ h.root) ∧ h.children.Pairwise RootsApart ∧
      ∀ c ∈ h.children, c.WF := by
  unfold Hist.WF
  constructor
  · intro hw
    refine ⟨(hw h (self_mem_allHists h)).1, (hw h (self_mem_allHists h)).2, ?_⟩
    intro c hc x hx
    exact hw x (mem_allHists_of_child hc hx)
  · rintro ⟨h1, h2, h3⟩ x hx
    rw [allHists_eq] at hx
    rcases List.mem_cons.1 hx with rfl | hx
    · exact ⟨h1, h2⟩
    · obtain ⟨c, hc, hxc⟩ := List.mem_flatMap.1 hx
      exact h3 c hc x hxc

theorem Hist.WF.child {h c : Hist} (hw : h.WF) (hc : c ∈ h.children) : c.WF :=
  ((Hist.wf_iff h).1 hw).2.2 c hc

theorem Hist.WF.of_mem {g h : Hist} (hw : g.WF) (hh : h ∈ g.all) : h.WF :=
  fun x hx => hw x (all_trans g hh hx)

theorem Hist.WF.root_prefix {h : Hist} (hw : h.WF) : ∀ x ∈ allHists h, h.root <+: x.root := by
  intro x hx
  rw [allHists_eq_all] at hx
  refine all_root_prefix h ?_ x hx
  intro y hy c hc
  exact ((hw y hy).1 c hc).1

theorem pairwise_rootsApart_eq {cs : List Hist} (hp : cs.Pairwise RootsApart) {a b : Hist} (ha : a ∈ cs)
    (hb : b ∈ cs) (hab : a.root <+: b.root ∨ b.root <+: a.root) : a = b := by
  induction cs with
  | nil => cases ha
  | cons x xs ih =>
    rw [List.pairwise_cons] at hp
    rcases List.mem_cons.1 ha with hax | hax <;> rcases List.mem_cons.1 hb with hbx | hbx
    · rw [hax, hbx]
    · have := hp.1 b hbx
      rw [← hax] at this
      rcases hab with h | h
      · exact absurd h this.1
      · exact absurd h this.2
    · have := hp.1 a hax
      rw [← hbx] at this
      rcases hab with h | h
      · exact absurd h this.2
      · exact absurd h this.1
    · exact ih hp.2 hax hbx

/-- in a well-formed tree of histories the roots are pairwise different: a history lies properly below its parent,
and the sub-trees of two siblings lie below roots neither of which is a prefix of the other -/
theorem Hist.WF.nodup {h : Hist} : h.WF → (rootsOf h.all).Nodup := by
  induction h using Hist.induct with
  | mk r g c e cs ih =>
    intro hw
    obtain ⟨h1, h2, h3⟩ := (Hist.wf_iff _).1 hw
    have hbelow : ∀ k ∈ cs, ∀ y ∈ k.all, k.root <+: y.root := fun k hk => (h3 k hk).root_prefix
    rw [Hist.all_eq, rootsOf, List.map_cons, List.nodup_cons]
    constructor
    · intro hm
      obtain ⟨y, hy, hyr⟩ := List.mem_map.1 hm
      obtain ⟨k, hk, hyk⟩ := List.mem_flatMap.1 hy
      have hkr : k.root <+: (Hist.mk r g c e cs).root := hyr ▸ hbelow k hk y hyk
      exact (h1 k hk).2 (hkr.eq_of_length_le (h1 k hk).1.length_le)
    · refine List.pairwise_map.2 (List.pairwise_flatMap.2 ⟨fun k hk => List.pairwise_map.1 (ih k hk (h3 k hk)), ?_⟩)
      refine h2.imp_of_mem fun {k₁ k₂} hk₁ hk₂ hap x hx y hy he => ?_
      rcases List.prefix_or_prefix_of_prefix (hbelow k₁ hk₁ x hx) (he ▸ hbelow k₂ hk₂ y hy) with h | h
      · exact hap.1 h
      · exact hap.2 h

/-! ### what `loadHistory` builds -/

theorem nestedHists_roots_walkLt (t : Node) : t.NamesDistinct → ∀ P : RelPath, (rootsOf (nestedHists P t)).Pairwise WalkLt := by
  induction t using Node.induct with
  | file n c => intro _ P; simp [nestedHists, rootsOf]
  | dir n cs st ih =>
    intro hd P
    rw [Node.namesDistinct_dir] at hd
    rw [nestedHists_sortNodes, rootsOf, List.pairwise_map, List.pairwise_flatMap]
    constructor
    · intro c hc
      cases hh : c.hist with
      | none =>
        rw [histsAt_none hh]
        exact List.pairwise_map.1 (ih c (mem_sortNodes.1 hc) (hd.2 c (mem_sortNodes.1 hc)) _)
      | some s => rw [histsAt_some hh]; exact List.pairwise_singleton _ _
    · refine (sortNodes_sorted hd.1).imp fun {c₁ c₂} ⟨hne, hle⟩ x hx y hy => ?_
      obtain ⟨q₁, h₁⟩ := histsAt_root_prefix _ c₁ x (mem_descList_self hx)
      obtain ⟨q₂, h₂⟩ := histsAt_root_prefix _ c₂ y (mem_descList_self hy)
      exact ⟨P, c₁.name, c₂.name, q₁, q₂, by rw [← h₁]; simp, by rw [← h₂]; simp, hne, hle⟩

/-- every history found is `buildHist` over the nested histories found below its own folder, so its child histories
are rooted strictly below it and in walk order -/
theorem nestedHists_shape (t : Node) : t.NamesDistinct → ∀ P : RelPath, ∀ x ∈ descList (nestedHists P t),
    (∀ k ∈ x.children, x.root <+: k.root ∧ x.root.length < k.root.length) ∧
      (rootsOf x.children).Pairwise WalkLt := by
  induction t using Node.induct with
  | file n c => intro _ P x hx; simp [nestedHists, descList] at hx
  | dir n cs st ih =>
    intro hd P x hx
    rw [Node.namesDistinct_dir] at hd
    rw [nestedHists_sortNodes, descList_flatMap, List.mem_flatMap] at hx
    obtain ⟨c, hc, hx⟩ := hx
    have hdc := hd.2 c (mem_sortNodes.1 hc)
    cases hh : c.hist with
    | none => rw [histsAt_none hh] at hx; exact ih c (mem_sortNodes.1 hc) hdc _ x hx
    | some s =>
      rw [histsAt_some hh, descList_singleton, buildHist_desc] at hx
      rcases List.mem_cons.1 hx with rfl | hx
      · rw [buildHist_children, buildHist_root]
        exact ⟨fun k hk => nestedHists_root_below _ c k (mem_descList_self hk), nestedHists_roots_walkLt c hdc _⟩
      · exact ih c (mem_sortNodes.1 hc) hdc _ x hx

/-- what is known about a loaded history: rooted at the command root; child histories rooted strictly below their
parents, siblings in walk order; nested histories rooted at (non-root) folders of the tree -/
structure HistOK (t : Node) (g : Hist) : Prop where
  root : g.root = []
  child : ∀ x ∈ g.all, ∀ k ∈ x.children, x.root <+: k.root ∧ x.root.length < k.root.length
  isDir : ∀ x ∈ allDescendants g, x.root ≠ [] ∧ ∃ n, t.at? x.root = some n ∧ n.isDir = true
  order : ∀ x ∈ g.all, (rootsOf x.children).Pairwise WalkLt

theorem histOK_WF {t : Node} {h : Hist} (hg : HistOK t h) : h.WF := by
  intro x hx
  refine ⟨fun c hc => ⟨(hg.child x hx c hc).1, fun he => ?_⟩, ?_⟩
  · have := (hg.child x hx c hc).2
    rw [he] at this
    exact Nat.lt_irrefl _ this
  · exact (List.pairwise_map.1 (hg.order x hx)).imp fun hlt => hlt.not_prefix

theorem HistOK.nodup {t : Node} {g : Hist} (hg : HistOK t g) : (rootsOf g.all).Nodup := (histOK_WF hg).nodup

theorem loadHistory_histOK (t : Node) (g : Hist) (hl : loadHistory t = .ok g) (hd : t.NamesDistinct) :
    HistOK t g := by
  obtain ⟨-, rfl⟩ := (loadHistory_eq_ok t g).1 hl
  have hdesc : allDescendants (loaded t) = descList (nestedHists [] t) := buildHist_desc _ _ _
  have hshape : ∀ x ∈ (loaded t).all, (∀ k ∈ x.children, x.root <+: k.root ∧ x.root.length < k.root.length) ∧
      (rootsOf x.children).Pairwise WalkLt := by
    intro x hx
    rcases List.mem_cons.1 hx with rfl | hx
    · rw [loaded, buildHist_children, buildHist_root]
      exact ⟨fun k hk => nestedHists_root_below [] t k (mem_descList_self hk), nestedHists_roots_walkLt t hd []⟩
    · exact nestedHists_shape t hd [] x (hdesc ▸ hx)
  refine ⟨buildHist_root _ _ _, fun x hx => (hshape x hx).1, fun x hx => ?_, fun x hx => (hshape x hx).2⟩
  obtain ⟨d, s, hat, hds, -, -⟩ := loadHistory_stores t _ hl hd x hx
  refine ⟨nestedHists_root_ne [] t x (hdesc ▸ hx), d, hat, ?_⟩
  cases d with
  | file _ _ => cases hds
  | dir _ _ _ => rfl

/-- in `walkPost`, of two entries the earlier one is `WalkLt` the later one, or the later one is an ancestor (its root a
prefix) -/
theorem walkPost_order (g : Hist) : (∀ y ∈ g.all, ∀ c ∈ y.children, y.root <+: c.root) →
    (∀ y ∈ g.all, (rootsOf y.children).Pairwise WalkLt) →
    (walkPost g).Pairwise (fun a b => WalkLt a.root b.root ∨ b.root <+: a.root) := by
  induction g using Hist.induct with
  | mk r gg ch e cs ih =>
    intro hc ho
    have hsub : ∀ c ∈ cs, ∀ y ∈ c.all, y ∈ (Hist.mk r gg ch e cs).all := fun c hcm y hy =>
      all_trans _ (List.mem_cons_of_mem _ (child_mem_allDescendants (h := .mk r gg ch e cs) hcm)) hy
    rw [walkPost_eq, List.pairwise_append]
    refine ⟨?_, by simp, ?_⟩
    · rw [List.pairwise_flatMap]
      constructor
      · intro c hcm
        exact ih c hcm (fun y hy => hc y (hsub c hcm y hy)) (fun y hy => ho y (hsub c hcm y hy))
      · have hord := ho _ (Hist.self_mem_all _)
        rw [rootsOf, List.pairwise_map] at hord
        refine hord.imp_of_mem ?_
        intro k1 k2 hk1 hk2 hlt a ha b hb
        left
        obtain ⟨q1, hq1⟩ := all_root_prefix k1 (fun y hy => hc y (hsub k1 hk1 y hy)) a ((mem_walkPost k1 a).1 ha)
        obtain ⟨q2, hq2⟩ := all_root_prefix k2 (fun y hy => hc y (hsub k2 hk2 y hy)) b ((mem_walkPost k2 b).1 hb)
        rw [← hq1, ← hq2]
        exact hlt.append q1 q2
    · intro a ha b hb
      simp only [List.mem_singleton] at hb
      subst hb
      right
      obtain ⟨c, hcm, hac⟩ := List.mem_flatMap.1 ha
      exact all_root_prefix _ hc a (hsub c hcm a ((mem_walkPost c a).1 hac))

/-! ### routing (`ownerOf`, `relOf`) -/

/-- the root folder of the history a path is routed to -/
abbrev ownerOf (g : Hist) (p : RelPath) : RelPath := (route g p).1.root
/-- the path relative to that root -/
abbrev relOf (g : Hist) (p : RelPath) : RelPath := (route g p).2

theorem isPrefixOf_iff (a b : RelPath) : isPrefixOf a b = true ↔ a <+: b := by
  unfold isPrefixOf
  rw [List.prefix_iff_eq_take]
  simp only [Bool.and_eq_true, decide_eq_true_eq, beq_iff_eq]
  constructor
  · rintro ⟨-, h⟩; exact h.symm
  · intro h
    refine ⟨?_, h.symm⟩
    have := congrArg List.length h
    simp only [List.length_take] at this
    omega

section routeRoot
variable {g : Hist} (hr : g.root = [])
include hr

theorem route_mem (p : RelPath) : (route g p).1 ∈ g.all := by
  rcases (MhlProps.C08.route_deepest g p hr).1 with h | h
  · rw [h]; exact g.self_mem_all
  · exact List.mem_cons_of_mem _ h

theorem owner_prefix (p : RelPath) : ownerOf g p <+: p :=
  (isPrefixOf_iff _ _).1 (MhlProps.C08.route_deepest g p hr).2.1

theorem owner_append (p : RelPath) : ownerOf g p ++ relOf g p = p := by
  have h1 := (MhlProps.C08.route_deepest g p hr).2.2.1
  have h2 := owner_prefix hr p
  rw [List.prefix_iff_eq_append] at h2
  show (route g p).1.root ++ (route g p).2 = p
  rw [h1]; exact h2

theorem owner_nil : ownerOf g [] = [] ∧ relOf g [] = [] := by
  show (route g []).1.root = [] ∧ (route g []).2 = []
  rw [route_nil]
  exact ⟨hr, rfl⟩

theorem relOf_nil {p : RelPath} (h : relOf g p = []) :
    ownerOf g p = p ∧ (p = [] ∨ ∃ c ∈ allDescendants g, c.root = p) := by
  have h1 := owner_append hr p
  rw [h, List.append_nil] at h1
  refine ⟨h1, ?_⟩
  rcases List.mem_cons.1 (route_mem hr p) with h2 | h2
  · left
    have : ownerOf g p = g.root := congrArg Hist.root h2
    rw [← h1, this, hr]
  · exact Or.inr ⟨_, h2, h1⟩

end routeRoot

section route
variable {t : Node} {g : Hist} (hg : HistOK t g)
include hg

theorem owner_max (p : RelPath) {c : Hist} (hc : c ∈ allDescendants g) (hp : c.root <+: p) :
    c.root.length ≤ (ownerOf g p).length :=
  (MhlProps.C08.route_deepest g p hg.root).2.2.2 c hc (hg.isDir c hc).1 ((isPrefixOf_iff _ _).2 hp)

theorem owner_nested {c : Hist} (hc : c ∈ allDescendants g) :
    ownerOf g c.root = c.root ∧ relOf g c.root = [] := by
  have h1 := owner_prefix hg.root c.root
  have h2 := owner_max hg c.root hc (List.prefix_refl _)
  have h3 : ownerOf g c.root = c.root := List.IsPrefix.eq_of_length_le h1 h2
  refine ⟨h3, ?_⟩
  have h4 := owner_append hg.root c.root
  rw [h3] at h4
  exact List.append_right_eq_self.1 h4

theorem parentRoot_prefix {d pr : RelPath} (h : parentRoot g d = some pr) :
    pr <+: d ∧ pr.length < d.length ∧ ∃ c ∈ allDescendants g, c.root = d := by
  obtain ⟨x, hx, rfl, c, hc, rfl⟩ := parentRoot_some h
  exact ⟨(hg.child x hx c hc).1, (hg.child x hx c hc).2, c, child_of_mem_all hx hc, rfl⟩

theorem parentRoot_of_nested {c : Hist} (hc : c ∈ allDescendants g) : ∃ pr, parentRoot g c.root = some pr := by
  obtain ⟨x, hx, hcx⟩ := allDescendants_has_parent g c hc
  exact ⟨x.root, parentRoot_child hg.nodup hx hcx⟩

end route

open MhlProps.C08 in
theorem foldl_pickStep_map (F : Hist → Hist)
    (hF : ∀ a b : Hist, (F a).root.length > (F b).root.length ↔ a.root.length > b.root.length)
    (M : List Hist) (init : Option Hist) :
    (M.map F).foldl pickStep (init.map F) = (M.foldl pickStep init).map F := by
  induction M generalizing init with
  | nil => rfl
  | cons a as ih =>
    have hstep : pickStep (init.map F) (F a) = (pickStep init a).map F := by
      cases init with
      | none => rfl
      | some b =>
        simp only [pickStep, Option.map_some, hF a b]
        split <;> rfl
    rw [List.map_cons, List.foldl_cons, List.foldl_cons, hstep, ih]

/-! ### the owner of a path among all histories (C19)

`ownerHist` is `find_history_for_path` as `info -sf` uses it: the FIRST child whose root is a prefix of the path is
entered.  On a well-formed tree of histories that is the DEEPEST history whose root lies on the path.  What the loader
builds is well formed if sibling names are distinct, and need not be otherwise (`C19.loadHistory_WF_needs_names`).
The primed lemmas carry the proofs; C19 states them again under the unprimed names the property is claimed by. -/

theorem ownerHistList_eq (cs : List Hist) (p : RelPath) :
    ownerHistList cs p = (cs.find? fun c => c.root.isPrefixOf p).map fun c => ownerHist c p := by
  induction cs with
  | nil => simp [ownerHistList]
  | cons c cs ih =>
    rw [ownerHistList, List.find?_cons]
    cases hc : c.root.isPrefixOf p with
    | true => simp
    | false => simpa using ih

theorem ownerHist_eq (h : Hist) (p : RelPath) :
    ownerHist h p = match h.children.find? (fun c => c.root.isPrefixOf p) with
      | some c => ownerHist c p
      | none => h := by
  cases h with
  | mk r g ch e cs =>
    rw [ownerHist, ownerHistList_eq]
    simp only [Hist.children]
    cases cs.find? (fun c => c.root.isPrefixOf p) <;> rfl

theorem ownerHist_of_find_some {h c : Hist} {p : RelPath}
    (hf : h.children.find? (fun c => c.root.isPrefixOf p) = some c) : ownerHist h p = ownerHist c p := by
  rw [ownerHist_eq h p, hf]

theorem ownerHist_of_find_none {h : Hist} {p : RelPath}
    (hf : h.children.find? (fun c => c.root.isPrefixOf p) = none) : ownerHist h p = h := by
  rw [ownerHist_eq h p, hf]

theorem find_prefix_some {cs : List Hist} {p : RelPath} {c : Hist}
    (hf : cs.find? (fun c => c.root.isPrefixOf p) = some c) : c ∈ cs ∧ c.root <+: p := by
  have h1 := List.find?_some hf
  exact ⟨List.mem_of_find?_eq_some hf, List.isPrefixOf_iff_prefix.1 h1⟩

theorem ownerHist_mem' (h : Hist) (p : RelPath) : ownerHist h p ∈ allHists h := by
  induction h using Hist.induct with
  | mk r g ch e cs ih =>
    cases hf : (Hist.mk r g ch e cs).children.find? (fun c => c.root.isPrefixOf p) with
    | none => rw [ownerHist_of_find_none hf]; exact self_mem_allHists _
    | some c =>
      rw [ownerHist_of_find_some hf]
      have hc : c ∈ cs := List.mem_of_find?_eq_some hf
      exact mem_allHists_of_child (h := .mk r g ch e cs) hc (ih c hc)

theorem ownerHist_root_prefix' (h : Hist) (p : RelPath) (hp : h.root <+: p) : (ownerHist h p).root <+: p := by
  induction h using Hist.induct with
  | mk r g ch e cs ih =>
    cases hf : (Hist.mk r g ch e cs).children.find? (fun c => c.root.isPrefixOf p) with
    | none => rw [ownerHist_of_find_none hf]; exact hp
    | some c =>
      rw [ownerHist_of_find_some hf]
      have hc : c ∈ cs := List.mem_of_find?_eq_some hf
      have hcp : c.root <+: p := (find_prefix_some hf).2
      exact ih c hc hcp

theorem ownerHist_eq_self' (h : Hist) (p : RelPath) (hno : ∀ c ∈ h.children, ¬ c.root <+: p) :
    ownerHist h p = h := by
  apply ownerHist_of_find_none
  rw [List.find?_eq_none]
  intro c hc hpre
  exact hno c hc (List.isPrefixOf_iff_prefix.1 hpre)

theorem ownerHist_of_no_children (h : Hist) (p : RelPath) (hc : h.children = []) : ownerHist h p = h :=
  ownerHist_eq_self' h p (by rw [hc]; intro c hc; cases hc)

theorem ownerHist_eq_self_iff (h : Hist) (p : RelPath) (hne : ∀ x ∈ allDescendants h, x ≠ h) :
    ownerHist h p = h ↔ ∀ c ∈ h.children, ¬ c.root <+: p := by
  constructor
  · intro ho c hc hpre
    cases hf : h.children.find? (fun c => c.root.isPrefixOf p) with
    | none =>
      rw [List.find?_eq_none] at hf
      exact hf c hc (List.isPrefixOf_iff_prefix.2 hpre)
    | some c' =>
      have hc' : c' ∈ h.children := List.mem_of_find?_eq_some hf
      have hm := ownerHist_mem' c' p
      rw [← ownerHist_of_find_some hf, ho] at hm
      have : h ∈ allDescendants h := by
        rw [allDescendants_eq, List.mem_flatMap]
        exact ⟨c', hc', hm⟩
      exact hne h this rfl
  · exact ownerHist_eq_self' h p

/-- nearest enclosing: on a well-formed tree of histories, the root of every history whose root lies on the path is
at most as long as the root of the owner -/
theorem ownerHist_deepest' (h : Hist) (p : RelPath) (hw : h.WF) :
    ∀ k ∈ allHists h, k.root <+: p → k.root.length ≤ (ownerHist h p).root.length := by
  induction h using Hist.induct with
  | mk r g ch e cs ih =>
    intro k hk hkp
    rw [allHists_eq] at hk
    rcases List.mem_cons.1 hk with rfl | hk
    · exact (hw.root_prefix _ (ownerHist_mem' _ p)).length_le
    · obtain ⟨c', hc', hkc'⟩ := List.mem_flatMap.1 hk
      have hc'w : c'.WF := hw.child hc'
      have hc'p : c'.root <+: p := (hc'w.root_prefix k hkc').trans hkp
      cases hf : (Hist.mk r g ch e cs).children.find? (fun c => c.root.isPrefixOf p) with
      | none =>
        rw [List.find?_eq_none] at hf
        exact absurd (List.isPrefixOf_iff_prefix.2 hc'p) (hf c' hc')
      | some c =>
        rw [ownerHist_of_find_some hf]
        have hc : c ∈ cs := List.mem_of_find?_eq_some hf
        have hcp : c.root <+: p := (find_prefix_some hf).2
        have hpw := ((Hist.wf_iff _).1 hw).2.1
        have : c = c' := pairwise_rootsApart_eq hpw hc hc' (List.prefix_or_prefix_of_prefix hcp hc'p)
        subst this
        exact ih c hc hc'w k hkc' hkp

/-- on a well-formed history rooted on the path the owner is determined by the two properties: its root lies on the
path, and no member with its root on the path has a longer root -/
theorem ownerHist_root_unique (h : Hist) (p : RelPath) (hw : h.WF) (hp : h.root <+: p) (k : Hist)
    (hk : k ∈ allHists h) (hkp : k.root <+: p) (hmax : ∀ x ∈ allHists h, x.root <+: p → x.root.length ≤ k.root.length) :
    k.root = (ownerHist h p).root := by
  have h1 := ownerHist_deepest' h p hw k hk hkp
  have h2 := hmax _ (ownerHist_mem' h p) (ownerHist_root_prefix' h p hp)
  have h3 := List.prefix_of_prefix_length_le hkp (ownerHist_root_prefix' h p hp) h1
  exact h3.eq_of_length_le h2

/-- `Node.NamesDistinct`, under the name the statements of C19 use -/
abbrev Node.NoDupNames (t : Node) : Prop := t.NamesDistinct

theorem histOK_flat {g : Hist} (hc : g.children = []) (hr : g.root = []) (t : Node) : HistOK t g := by
  have hd := allDescendants_flat g hc
  have hall : g.all = [g] := by simp [Hist.all, hd]
  -- `g` is the only history and has no children: `child`, `isDir` and `order` have nothing to say
  refine ⟨hr, ?_, by simp [hd], ?_⟩ <;> simp [hall, hc]

theorem mem_all_of_prefix : ∀ {g : Hist}, g.WF → ∀ {x y : Hist}, x ∈ g.all → y ∈ g.all → x.root <+: y.root → y ∈ x.all := by
  intro g
  induction g using Hist.induct with
  | mk r gg ch e cs ih =>
    intro hw x y hx hy hpre
    obtain ⟨hch, hap, hkids⟩ := (Hist.wf_iff _).1 hw
    rw [Hist.all_eq] at hx hy
    rcases List.mem_cons.1 hx with rfl | hx
    · rw [Hist.all_eq]; exact hy
    obtain ⟨k, hk, hxk⟩ := List.mem_flatMap.1 hx
    have hky : k.root <+: y.root := ((hkids k hk).root_prefix x hxk).trans hpre
    rcases List.mem_cons.1 hy with rfl | hy
    · exact absurd (hky.eq_of_length_le (hch k hk).1.length_le) (hch k hk).2
    obtain ⟨k', hk', hyk⟩ := List.mem_flatMap.1 hy
    -- siblings with comparable roots are the same child
    cases pairwise_rootsApart_eq hap hk hk' (List.prefix_or_prefix_of_prefix hky ((hkids k' hk').root_prefix y hyk))
    exact ih k hk (hkids k hk) hxk hyk hpre

end MhlModel
