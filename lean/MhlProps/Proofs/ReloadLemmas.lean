/-
Writing generations into the `ascmhl` folders of a tree WITH NESTED HISTORIES, seen from the loader (the reload that
C03nested, C09nested and C09e2e rest on; the run itself: MhlProps/Proofs/SealedRunLemmas.lean).

`addWritten ws h` is the loaded history after the generations `ws` were written: same shape, every history that wrote
has its old generations followed by the new one.  `load_applyWritten`: `loadHistory (applyWritten t ws) = .ok
(addWritten ws h)`, one write at a time (`load_step`: into the root's folder by `C06.loadHistory_add_root`, into a
nested one along the path to it, `histsAt_addGeneration`; both on `C06.checkStore_add` and `C06.buildHist_add`).
`commit_writeOk`: what a commit writes satisfies the hypotheses of `load_applyWritten` (`WriteOk`), given that folder
names and time stamp are free of line feeds (`NoLineFeeds`).
-/
import MhlProps.C06
import MhlProps.Proofs.NestedLemmas
import MhlProps.Proofs.SameFilesLemmas

namespace MhlModel
open MhlProps.C02rec MhlProps.C04 MhlProps.C08

/-! ## the history after a write -/

def newGens (ws : List Written) (r : RelPath) : List LGen :=
  (ws.filter fun w => w.histRoot == r).map fun w => ⟨w.number, w.gen⟩

def newChain_n2 (ws : List Written) (r : RelPath) : List ChainEntry :=
  (ws.filter fun w => w.histRoot == r).map fun w => ⟨w.number, w.gen.fileName⟩

mutual
def addWritten (ws : List Written) : Hist → Hist
  | .mk r g c e cs =>
    .mk r (g ++ newGens ws r) (c ++ newChain_n2 ws r) (e || ws.any fun w => w.histRoot == r) (addWrittenList ws cs)
def addWrittenList (ws : List Written) : List Hist → List Hist
  | [] => []
  | c :: cs => addWritten ws c :: addWrittenList ws cs
end

theorem addWrittenList_eq_map (ws : List Written) (cs : List Hist) :
    addWrittenList ws cs = cs.map (addWritten ws) := by
  induction cs with
  | nil => rfl
  | cons c cs ih => rw [addWrittenList, ih]; rfl

theorem addWritten_root (ws : List Written) (h : Hist) : (addWritten ws h).root = h.root := by
  cases h; rfl

theorem addWritten_gens (ws : List Written) (h : Hist) : (addWritten ws h).gens = h.gens ++ newGens ws h.root := by
  cases h; rfl

theorem addWritten_chain (ws : List Written) (h : Hist) :
    (addWritten ws h).chain = h.chain ++ newChain_n2 ws h.root := by
  cases h; rfl

theorem addWritten_children (ws : List Written) (h : Hist) :
    (addWritten ws h).children = h.children.map (addWritten ws) := by
  cases h; rw [addWritten, ← addWrittenList_eq_map]; rfl

theorem newGens_nil (r : RelPath) : newGens [] r = [] := rfl
theorem newChain_nil (r : RelPath) : newChain_n2 [] r = [] := rfl

theorem newGens_cons (w : Written) (ws : List Written) (r : RelPath) :
    newGens (w :: ws) r = newGens [w] r ++ newGens ws r := by
  unfold newGens
  by_cases h : (w.histRoot == r) = true <;> simp [h]

theorem newChain_cons (w : Written) (ws : List Written) (r : RelPath) :
    newChain_n2 (w :: ws) r = newChain_n2 [w] r ++ newChain_n2 ws r := by
  unfold newChain_n2
  by_cases h : (w.histRoot == r) = true <;> simp [h]

theorem newGens_of_ne (ws : List Written) (r : RelPath) (h : ∀ w ∈ ws, w.histRoot ≠ r) : newGens ws r = [] := by
  unfold newGens
  rw [List.filter_eq_nil_iff.2 (fun w hw => by simpa using h w hw)]
  rfl

theorem newChain_of_ne (ws : List Written) (r : RelPath) (h : ∀ w ∈ ws, w.histRoot ≠ r) : newChain_n2 ws r = [] := by
  unfold newChain_n2
  rw [List.filter_eq_nil_iff.2 (fun w hw => by simpa using h w hw)]
  rfl

theorem any_root_of_ne (ws : List Written) (r : RelPath) (h : ∀ w ∈ ws, w.histRoot ≠ r) :
    (ws.any fun w => w.histRoot == r) = false := by
  rw [List.any_eq_false]
  intro w hw
  simpa using h w hw

theorem addWritten_other (ws : List Written) (h : Hist) (hne : ∀ w ∈ ws, w.histRoot ≠ h.root) :
    addWritten ws h = .mk h.root h.gens h.chain h.folderExists (h.children.map (addWritten ws)) := by
  cases h with
  | mk r g c e cs =>
    rw [addWritten, newGens_of_ne ws r hne, newChain_of_ne ws r hne, any_root_of_ne ws r hne, addWrittenList_eq_map,
      List.append_nil, List.append_nil, Bool.or_false]
    rfl

theorem filter_root_single (ws : List Written) (hnd : (ws.map (·.histRoot)).Nodup) (w : Written) (hw : w ∈ ws) :
    (ws.filter fun w' => w'.histRoot == w.histRoot) = [w] := by
  induction ws with
  | nil => cases hw
  | cons a as ih =>
    rw [List.map_cons, List.nodup_cons] at hnd
    rcases List.mem_cons.1 hw with rfl | hw'
    · have : (as.filter fun w' => w'.histRoot == w.histRoot) = [] := by
        rw [List.filter_eq_nil_iff]
        intro x hx hxe
        exact hnd.1 (List.mem_map.2 ⟨x, hx, by simpa using hxe⟩)
      simp [this]
    · have hne : (a.histRoot == w.histRoot) = false := by
        apply beq_false_of_ne
        intro he
        exact hnd.1 (List.mem_map.2 ⟨w, hw', he.symm⟩)
      rw [List.filter_cons, hne]
      exact ih hnd.2 hw'

theorem newGens_single (ws : List Written) (hnd : (ws.map (·.histRoot)).Nodup) (w : Written) (hw : w ∈ ws) :
    newGens ws w.histRoot = [⟨w.number, w.gen⟩] := by
  unfold newGens
  rw [filter_root_single ws hnd w hw]
  rfl

theorem addWritten_of_ne (ws : List Written) : (h : Hist) → (∀ x ∈ h.all, ∀ w ∈ ws, w.histRoot ≠ x.root) →
    addWritten ws h = h := by
  intro h
  induction h using Hist.induct with
  | _ r g c e cs ih =>
    intro hne
    rw [addWritten_other ws _ fun w hw => hne _ (Hist.self_mem_all _) w hw]
    show Hist.mk r g c e (cs.map (addWritten ws)) = _
    congr 1
    conv => rhs; rw [← List.map_id cs]
    apply List.map_congr_left
    intro k hk
    apply ih k hk
    intro x hx
    exact hne x (all_trans (.mk r g c e cs) (List.mem_cons_of_mem _ (child_mem_allDescendants hk)) hx)

theorem all_addWritten (ws : List Written) (h : Hist) : (addWritten ws h).all = h.all.map (addWritten ws) :=
  Hist.all_map _ (addWritten_children ws) h

theorem allDescendants_addWritten (ws : List Written) (h : Hist) :
    allDescendants (addWritten ws h) = (allDescendants h).map (addWritten ws) :=
  allDescendants_map _ (addWritten_children ws) h

theorem descList_addWritten (ws : List Written) : (cs : List Hist) →
    descList (addWrittenList ws cs) = (descList cs).map (addWritten ws) := fun cs => by
  rw [addWrittenList_eq_map]; exact descList_map _ (addWritten_children ws) cs

/-- routing does not see the new generations -/
theorem route_addWritten (ws : List Written) (h : Hist) (p : RelPath) :
    route (addWritten ws h) p = (addWritten ws (route h p).1, (route h p).2) := by
  rw [route_unfold, route_unfold, allDescendants_addWritten, List.filter_map]
  have hf : ((fun c : Hist => !c.root.isEmpty && isPrefixOf c.root p) ∘ addWritten ws) =
      fun c : Hist => !c.root.isEmpty && isPrefixOf c.root p := by
    funext c
    simp only [Function.comp, addWritten_root]
  rw [hf]
  have := foldl_pickStep_map (addWritten ws) (fun a b => by rw [addWritten_root, addWritten_root])
    ((allDescendants h).filter fun c => !c.root.isEmpty && isPrefixOf c.root p) none
  rw [Option.map_none] at this
  rw [this]
  cases ((allDescendants h).filter fun c => !c.root.isEmpty && isPrefixOf c.root p).foldl pickStep none with
  | none => rfl
  | some c => simp only [Option.map_some, addWritten_root]

theorem addWritten_cons (w : Written) (ws : List Written) : (h : Hist) →
    addWritten (w :: ws) h = addWritten ws (addWritten [w] h) := by
  intro h
  induction h using Hist.induct with
  | _ r g c e cs ih =>
    rw [addWritten, addWritten, addWritten, newGens_cons, newChain_cons, addWrittenList_eq_map,
      addWrittenList_eq_map, addWrittenList_eq_map, List.map_map]
    simp only [List.append_assoc, List.any_cons, List.any_nil, Bool.or_false, Bool.or_assoc]
    congr 1
    apply List.map_congr_left
    intro k hk
    exact ih k hk

theorem addWritten_nil : (h : Hist) → addWritten [] h = h := by
  intro h
  exact addWritten_of_ne [] h (fun _ _ w hw => by cases hw)

theorem map_addWritten_ne (w : Written) (v : List Hist) (hb : ∀ y ∈ descList v, y.root ≠ w.histRoot) :
    v.map (addWritten [w]) = v := by
  conv => rhs; rw [← List.map_id v]
  apply List.map_congr_left
  intro x hx
  apply addWritten_of_ne
  intro y hy w' hw'
  simp only [List.mem_singleton] at hw'
  subst hw'
  intro he
  apply hb y _ he.symm
  rw [descList_eq, List.mem_flatMap]
  exact ⟨x, hx, hy⟩

/-- the history rooted where `w` wrote, none below it rooted there: `w` comes last and nothing else changes -/
theorem addWritten_self (w : Written) (h : Hist) (hr : w.histRoot = h.root)
    (hb : ∀ y ∈ descList h.children, y.root ≠ w.histRoot) :
    addWritten [w] h =
      .mk h.root (h.gens ++ [⟨w.number, w.gen⟩]) (h.chain ++ [⟨w.number, w.gen.fileName⟩]) true h.children := by
  cases h with
  | mk r g c e cs =>
    cases hr
    rw [addWritten, addWrittenList_eq_map, map_addWritten_ne w cs hb]
    simp [newGens, newChain_n2, Hist.root, Hist.gens, Hist.chain, Hist.children]

/-! ## loading after a write -/

/-- the name of a history's folder (the command's folder for the root history) and the time stamp are free of line
feeds: what `parseGenName` needs to recognise the name of a generation just written (C06) -/
def NoLineFeeds (h : Hist) (rootName stamp : String) : Prop :=
  '\n' ∉ stamp.toList ∧ ∀ x ∈ h.all, '\n' ∉ ((x.root.getLast?).getD rootName).toList


theorem addGeneration_dir (w : Written) (nm : String) (cs : List Node) (hs : Option HistStore) :
    Node.addGeneration w (.dir nm cs hs) = .dir nm cs (some ((hs.getD {}).add w)) := rfl

/-- ONE WRITE INTO AN `ascmhl` FOLDER, in closed form: the tree keeps loading, and the histories found at or below any
folder on the way are those found before, the one rooted at `w.histRoot` with its new generation -/
theorem histsAt_addGeneration (w : Written) (hparse : parseGenName w.gen.fileName = some w.number)
    (hstate : w.gen.state = .ok) (r p : RelPath) (t d : Node) (s : HistStore) (hd : t.DistinctAlong r)
    (hat : t.at? r = some d) (hds : d.hist = some s) (hlt : ∀ g ∈ loadGens s, g.number < w.number)
    (hroot : w.histRoot = p ++ r) (hnil : allFaults t = []) :
    allFaults (Node.updateAt (Node.addGeneration w) t r) = [] ∧
      histsAt p (Node.updateAt (Node.addGeneration w) t r) = (histsAt p t).map (addWritten [w]) := by
  refine (Node.updateAt_relAt (fun p c c' => p <+: w.histRoot ∧ c'.name = c.name ∧ (allFaults c = [] →
    allFaults c' = [] ∧ histsAt p c' = (histsAt p c).map (addWritten [w]))) _ ?_ r p t d hd hat ?_).2.2 hnil
  · -- one child replaced
    intro p n pre c c' post h hnd ⟨hpre, hname, ih⟩
    have hp : p <+: w.histRoot := (List.prefix_append p [c.name]).trans hpre
    refine ⟨hp, rfl, fun hnil => ?_⟩
    obtain ⟨hroot, hkids⟩ := allFaults_nil_kids n _ h hnil
    obtain ⟨hc'nil, hc'h⟩ := ih (hkids c (by simp))
    have hne : ∀ w' ∈ [w], w'.histRoot ≠ p := by
      intro w' hw' he
      rw [List.mem_singleton.1 hw'] at he
      have := hpre.length_le
      rw [he] at this; simp at this; omega
    have hsib : ∀ x ∈ pre ++ post, (histsAt (p ++ [x.name]) x).map (addWritten [w]) = histsAt (p ++ [x.name]) x := by
      intro x hx
      -- the histories found below a sibling are rooted below it, and `w` did not write there
      refine map_addWritten_ne w _ fun y hy he => absurd (he ▸ histsAt_root_prefix _ x y hy) fun hxp => ?_
      have h1 := (List.prefix_of_prefix_length_le hxp hpre (by simp)).eq_of_length (by simp)
      have hxc : x.name = c.name := by simpa using h1
      rw [List.map_append, List.map_cons, List.nodup_append] at hnd
      rcases List.mem_append.1 hx with hx | hx
      · exact hnd.2.2 x.name (List.mem_map_of_mem hx) c.name List.mem_cons_self hxc
      · exact (List.nodup_cons.1 hnd.2.1).1 (hxc ▸ List.mem_map_of_mem hx)
    have hkids' : nestedHists p (.dir n (pre ++ c' :: post) h) =
        (nestedHists p (.dir n (pre ++ c :: post) h)).map (addWritten [w]) := by
      rw [nestedHists_dir, nestedHists_dir, List.map_flatMap,
        ← List.flatMap_map (f := fun y : String × List Hist => (y.1, y.2.map (addWritten [w]))) (g := (·.2)),
        ← isort_map keyLe keyLe (fun y : String × List Hist => (y.1, y.2.map (addWritten [w]))) (fun _ _ => rfl)]
      congr 2
      simp only [List.map_append, List.map_cons, List.map_map, hname, hc'h]
      congr 1
      · exact List.map_congr_left fun x hx =>
          congrArg (Prod.mk x.name) (hsib x (List.mem_append_left _ hx)).symm
      · congr 1
        exact List.map_congr_left fun x hx =>
          congrArg (Prod.mk x.name) (hsib x (List.mem_append_right _ hx)).symm
    refine ⟨allFaults_dir_nil n _ h hroot fun x hx => ?_, ?_⟩
    · rcases List.mem_append.1 hx with hx | hx
      · exact hkids x (by simp [hx])
      · rcases List.mem_cons.1 hx with rfl | hx
        · exact hc'nil
        · exact hkids x (by simp [hx])
    · cases h with
      | none => exact hkids'
      | some s₀ =>
        rw [histsAt_some rfl, histsAt_some rfl, hkids', List.map_singleton,
          addWritten_other [w] (buildHist p (some s₀) _) hne]
        rfl
  · -- the folder written into
    rw [← hroot]
    refine ⟨List.prefix_refl _, ?_, fun hnil => ?_⟩
    · cases d <;> rfl
    cases d with
    | file _ _ => cases hds
    | dir nm cs h =>
      cases hds
      -- `checkStore_add` and `buildHist_add`, as in `C06.loadHistory_add_root`: the walk below the folder does not
      -- look at the folder's own store
      obtain ⟨hsf, hkids⟩ := allFaults_nil_kids nm cs _ hnil
      have hchk := MhlProps.C06.checkStore_add s w w.number ((checkStore_ok_iff _).2 hsf) hparse hstate hlt
      rw [addGeneration_dir]
      refine ⟨allFaults_dir_nil nm cs _ ((checkStore_ok_iff _).1 hchk) hkids, ?_⟩
      rw [histsAt_some rfl, histsAt_some rfl, List.map_singleton, nestedHists_dir_hist _ nm cs _ (some s),
        addWritten_self w _ (buildHist_root _ _ _).symm (by rw [buildHist_children]; exact nestedHists_root_ne _ _)]
      exact congrArg (· :: []) (MhlProps.C06.buildHist_add s w _ hparse hstate hlt _ _)

/-- `w` is a valid next generation of the member of `h` rooted at `w.histRoot`: its file name parses to its number,
the manifest is intact, and the number is above every loaded number of that history -/
def WriteOk (h : Hist) (w : Written) : Prop :=
  parseGenName w.gen.fileName = some w.number ∧ w.gen.state = .ok ∧
    ∃ x ∈ h.all, x.root = w.histRoot ∧ ∀ g ∈ x.gens, g.number < w.number

theorem load_step (t : Node) (h : Hist) (w : Written) (hl : loadHistory t = .ok h) (hd : t.NamesDistinct)
    (hdir : t.isDir = true) (hw : WriteOk h w) :
    loadHistory (Node.updateAt (Node.addGeneration w) t w.histRoot) = .ok (addWritten [w] h) := by
  obtain ⟨hparse, hstate, x, hx, hxr, hlt⟩ := hw
  cases t with
  | file _ _ => cases hdir
  | dir nm cs hs =>
    rcases List.mem_cons.1 hx with rfl | hx
    · -- the root history wrote: `C06.loadHistory_add_root`, which needs nothing of the names
      have hr := loadHistory_root _ x hl
      have hb : ∀ y ∈ descList x.children, y.root ≠ w.histRoot := by
        obtain ⟨-, rfl⟩ := (loadHistory_eq_ok _ x).1 hl
        rw [← hxr, hr, loaded, buildHist_children]
        exact nestedHists_root_ne [] _
      rw [addWritten_self w x hxr.symm hb, ← hxr, hr, updateAt_nil, addGeneration_dir]
      exact MhlProps.C06.loadHistory_add_root nm cs hs x hl w _ hparse hstate hlt
    · -- a nested history wrote: along the path to its folder
      have hstores := loadHistory_stores _ h hl hd
      obtain ⟨hnil, rfl⟩ := (loadHistory_eq_ok _ h).1 hl
      rw [loadHistory_eq]
      suffices hs' : allFaults (Node.updateAt (Node.addGeneration w) (.dir nm cs hs) w.histRoot) = [] ∧
          loaded (Node.updateAt (Node.addGeneration w) (.dir nm cs hs) w.histRoot) =
            addWritten [w] (loaded (.dir nm cs hs)) by rw [hs'.1, hs'.2]; rfl
      rw [loaded, buildHist_desc] at hx
      have hne : w.histRoot ≠ [] := hxr ▸ nestedHists_root_ne [] _ x hx
      obtain ⟨d, s, hat, hds, hgens, -⟩ := hstores x (by rw [loaded, buildHist_desc]; exact hx)
      rw [hxr] at hat
      obtain ⟨h1, h2⟩ := histsAt_addGeneration w hparse hstate w.histRoot [] _ d s (hd.distinctAlong _) hat hds
        (hgens ▸ hlt) (by simp) hnil
      refine ⟨h1, ?_⟩
      obtain ⟨n, rest, hr⟩ := List.exists_cons_of_ne_nil hne
      rw [hr, updateAt_dir_cons] at h2 ⊢
      have hne' : ∀ w' ∈ [w], w'.histRoot ≠ ([] : RelPath) := fun w' hw' => by rwa [List.mem_singleton.1 hw']
      cases hs with
      | some s₀ => exact (List.cons.inj h2).1
      | none =>
        have h2' : nestedHists [] (.dir nm (Node.updateKids (Node.addGeneration w) n rest cs) none) =
            (nestedHists [] (.dir nm cs none)).map (addWritten [w]) := h2
        rw [loaded, loaded, Node.hist, Node.hist, h2', addWritten_other [w] (buildHist [] none _) hne']
        rfl

/-- induction on `ws` by `load_step`; `WriteOk` of the remaining writes survives a step because the roots are pairwise
different, so `addWritten [w]` leaves the generations of their histories alone -/
theorem load_applyWritten (ws : List Written) : ∀ (t : Node) (h : Hist), loadHistory t = .ok h → t.NamesDistinct →
    t.isDir = true → (ws.map (·.histRoot)).Nodup → (∀ w ∈ ws, WriteOk h w) →
    loadHistory (applyWritten t ws) = .ok (addWritten ws h) := by
  induction ws with
  | nil =>
    intro t h hl _ _ _ _
    rw [addWritten_nil]
    exact hl
  | cons w ws ih =>
    intro t h hl hd hdir hnd hok
    rw [List.map_cons, List.nodup_cons] at hnd
    have h1 := load_step t h w hl hd hdir (hok w (by simp))
    have hs : SameFilesDh t (Node.updateAt (Node.addGeneration w) t w.histRoot) :=
      strip_updateAt _ (strip_addGeneration w) _ t
    have := ih _ _ h1 (hs.namesDistinct.2 hd) (by rw [hs.isDir]; exact hdir) hnd.2 (by
      intro w' hw'
      obtain ⟨hp, hst, x, hx, hxr, hlt⟩ := hok w' (by simp [hw'])
      refine ⟨hp, hst, addWritten [w] x, ?_, by rw [addWritten_root]; exact hxr, ?_⟩
      · rw [all_addWritten]; exact List.mem_map_of_mem hx
      · rw [addWritten_gens, newGens_of_ne, List.append_nil]
        · exact hlt
        · intro w0 hw0
          simp only [List.mem_singleton] at hw0
          subst hw0
          rw [hxr]
          intro he
          exact hnd.1 (List.mem_map.2 ⟨w', hw', he.symm⟩))
    rw [addWritten_cons]
    exact this

/-- WHAT A COMMIT WRITES: each generation is a valid next generation of the history it is for, numbered one above that
history's latest (`NoLineFeeds`: else the new manifest's name does not parse, C06).  That the roots are pairwise
different is `commit_roots_nodup`. -/
theorem commit_writeOk {t : Node} {g : Hist} (hl : loadHistory t = .ok g) (s : Session)
    (rn stamp process : String) {ws : List Written} (hcm : commit g s rn stamp process none = .ok ws)
    (hlf : NoLineFeeds g rn stamp) :
    ∀ w ∈ ws, WriteOk g w ∧ ∃ x ∈ g.all, x.root = w.histRoot ∧ w.number = latestGenerationNumber x.gens + 1 := by
  intro w hw
  obtain ⟨x, hx, refs, hwo⟩ := (commit_written g s rn stamp process none hcm).2 w hw
  have hxa : x ∈ g.all := (mem_walkPost g x).1 hx
  obtain ⟨hroot, hnum, hstate, hparse⟩ := MhlProps.C06.writeOne_next _ _ _ _ _ _ _ _ hwo (hlf.2 x hxa) hlf.1
  refine ⟨⟨hparse, hstate, x, hxa, hroot.symm, fun g' hg' => ?_⟩, x, hxa, hroot.symm, hnum⟩
  have hsorted := loaded_all_gens (P := fun gs : List LGen => (gs.map (·.number)).Pairwise (· ≤ ·)) .nil
    MhlProps.C06.loadGens_sorted t g hl x hxa
  have := (MhlProps.C06.latest_is_max_of_sorted x.gens hsorted).1 g' hg'
  omega

end MhlModel
