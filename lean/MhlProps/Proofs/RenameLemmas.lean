/-
One file moved in a tree whose only history is the one at the root (helper module of C17detect).

A. `create -dr` with ONE expected path not come across and ONE visited path new: what the detection does, and the
   generation written: the one a run without `-dr` writes, with one previous path set (`RenamedGen`).
B. a tree with one file moved as the commands see it (`Moved`); `moveFile` gives such a pair of trees.
C. one file moved under ANY history that describes the tree (`MovedUnder`): the history with a `RenamedGen` appended
   describes the moved tree (through C17's lemmas on `recordedName` and `expectedOfGens`), and what verify / diff,
   `create` and `create -dr` say of the moved tree follows; C17detect instantiates it at the first seal.
-/
import MhlProps.Proofs.DescribesLemmas
import MhlProps.Proofs.SeqLemmas

namespace MhlModel

/-! ## A. `create -dr` with one path missing and one path new -/

section createDr
open MhlProps.C02rec MhlProps.C04

/-- the expected paths the traversal did not come across: the body of `cNotFound_u` (Proofs/CreateLemmas.lean, in
which `cRen` is stated), under the name `C17detect.createFolder_dr_order_independent` is stated with -/
def cNotFound (env : Env) (t : Node) (rootHist : Hist) (o : CreateOpts) : List RelPath :=
  (expectedPaths rootHist).filter fun p => !(cState env t rootHist o).found.contains p

theorem cNotFound_eq_u (env : Env) (t : Node) (rootHist : Hist) (o : CreateOpts) :
    cNotFound env t rootHist o = cNotFound_u env t rootHist o := rfl

/-- the order in which `create -dr` visits the not-found paths, `sorted(not_found_paths)` (DESIGN.md §8, D19): the
test `createFolder` and `cRen` hand to `isort` -/
abbrev pathLe (a b : RelPath) : Bool := strLe (posix a) (posix b)

def cNotFoundSorted (env : Env) (t : Node) (rootHist : Hist) (o : CreateOpts) : List RelPath :=
  isort pathLe (cNotFound env t rootHist o)

/-- the digest `detectRenames` takes for a visible file of the run: whatever the record carries, it is the digest
of the file's content; and the shape of the session it is looked up in: the single list of the root history, with
pairwise different record paths, among them the record of the file -/
theorem newDigest_visible_file (env : Env) (t : Node) (o : CreateOpts) (rootHist : Hist)
    (hc : rootHist.children = []) (hr : rootHist.root = []) (hd : t.NamesDistinct) (hn : t.NamesOk)
    (hf : o.formats ≠ []) (b : RelPath)
    (hb : (b, false) ∈ visiblePaths (cHit env rootHist o) t) (fmt : String) :
    newDigest env t (cSession env t rootHist o) b fmt = some (env.H fmt (fileContent t b)) ∧
    ∃ nl r, (cSession env t rootHist o).lists = [nl] ∧ nl = (cSession env t rootHist o).get [] ∧ nl.root = [] ∧
      (nl.records.map (·.path)).Nodup ∧ r ∈ nl.records ∧ r.path = posix b ∧ posix b ≠ "." := by
  obtain ⟨-, -, hnodup, hfiles, hlists⟩ := cSession_records env t o rootHist hc hr hd hn hf
  have hroot := Session.get_root (cSession env t rootHist o) []
  have hlist1 := hlists (isDir_of_visible hb)
  obtain ⟨r, hrm, hpath, -, -, -, hents⟩ := hfiles b hb
  have hdot : posix b ≠ "." := by
    obtain ⟨hne, hok⟩ := visible_names_ok _ t hn (b, false) hb
    exact fun h => hne ((posix_eq_dot hok).1 h)
  refine ⟨?_, _, r, hlist1, rfl, hroot, hnodup, hrm, hpath, hdot⟩
  have hh := holderOf_single _ _ hlist1 hroot hnodup r hrm b hpath hdot
  unfold newDigest holderEntries
  rw [hh]
  simp only [Option.map_some, Option.bind_some]
  unfold digestFor
  cases hfe : r.entries.find? (fun e => e.fmt == fmt) with
  | some e =>
    have hem := List.mem_of_find?_eq_some hfe
    have hfmt : e.fmt = fmt := by simpa using List.find?_some hfe
    rw [hents] at hem
    have := sealEntries_digest _ _ _ _ e hem
    simp only [this, hfmt]
  | none =>
    obtain ⟨c0, hat, hfile⟩ := MhlProps.C02.visible_on_disk _ t hd b false hb
    cases c0 with
    | dir _ _ _ => cases hfile
    | file nm c =>
      simp only [hat]
      unfold fileContent
      rw [hat]

/-- the detection with one candidate pair: the previous path of the record of `b` is set, `a` is found again, the
rename is reported.  The new paths are `[b]` and the not-found paths `[a]` (a filter with one member each), then
`detectRenames_single` (Proofs/DetectLemmas.lean). -/
theorem cRen_single (env : Env) (t : Node) (o : CreateOpts) (rootHist : Hist)
    (hc : rootHist.children = []) (hr : rootHist.root = []) (hd : t.NamesDistinct) (hn : t.NamesOk)
    (hf : o.formats ≠ []) (hdr : o.detectRenaming = true) (a b : RelPath)
    (hb : (b, false) ∈ visiblePaths (cHit env rootHist o) t)
    (hnew : ∀ p d, (p, d) ∈ visiblePaths (cHit env rootHist o) t → (isNewPath rootHist p = true ↔ p = b))
    (ha : a ∈ expectedPaths rootHist) (hanot : ∀ d, (a, d) ∉ visiblePaths (cHit env rootHist o) t)
    (hexp : ∀ p ∈ expectedPaths rootHist, p ≠ a → ∃ d, (p, d) ∈ visiblePaths (cHit env rootHist o) t)
    (oldE : Entry) (hE : findFirstAny rootHist.gens (posix a) = some oldE)
    (hdig : env.H oldE.fmt (fileContent t b) = oldE.digest) :
    cRen env t rootHist o =
      ({ cSession env t rootHist o with
          lists := [setPrevList ((cSession env t rootHist o).get []) (posix b) (posix a)] },
        [], [(posix a, posix b)]) := by
  obtain ⟨hnd, nl, rb, hlist1, hnl, hroot, hnodup, hrbm, hrbp, hdot⟩ :=
    newDigest_visible_file env t o rootHist hc hr hd hn hf b hb oldE.fmt
  subst hnl
  have hnewPaths : (cState env t rootHist o).newPaths = [b] := by
    rw [cState_newPaths env t rootHist o hd]
    apply filter_eq_singleton _ _ _ (visiblePaths_fst_nodup _ t hd)
    · exact List.mem_map.2 ⟨(b, false), hb, rfl⟩
    · intro x hx
      obtain ⟨⟨p, d⟩, hpd, rfl⟩ := List.mem_map.1 hx
      exact hnew p d hpd
  have hnotFound : cNotFound env t rootHist o = [a] := by
    unfold cNotFound
    rw [cState_found]
    apply filter_eq_singleton _ _ _ (expectedPaths_nodup rootHist) ha
    intro x hx
    simp only [Bool.not_eq_true', List.contains_eq_mem, decide_eq_false_iff_not, List.mem_map, not_exists, not_and]
    constructor
    · intro hnf
      by_contra hne
      obtain ⟨d, hd'⟩ := hexp x hx hne
      exact hnf (x, d) hd' rfl
    · rintro rfl ⟨p, d⟩ hpd hpe
      simp only at hpe
      subst hpe
      exact hanot d hpd
  have hnotFoundS : cNotFoundSorted env t rootHist o = [a] := by
    unfold cNotFoundSorted
    rw [hnotFound]
    rfl
  have hdet : detectRenames env t rootHist (cState env t rootHist o).session (cState env t rootHist o).newPaths
      (cNotFoundSorted env t rootHist o) =
      ({ cSession env t rootHist o with
          lists := [setPrevList ((cSession env t rootHist o).get []) (posix b) (posix a)] },
        [a], [(posix a, posix b)]) := by
    rw [hnewPaths, hnotFoundS]
    exact detectRenames_single env t rootHist hc _ _ hlist1 hroot rb a b
      (holderOf_single _ _ hlist1 hroot hnodup rb hrbm b hrbp hdot) hdot
      ((matchesB_iff _ _ _ _ _ _).2 ⟨oldE, hE, by rw [hnd, hdig]⟩)
  rw [cRen_dr hdr hdet, ← cNotFound_eq_u, hnotFound]
  simp

/-- what the commands need to know about the generation `create -dr` wrote after the move of `a` to `b`: it records
the tree `t2` as a run without `-dr` would (`Records`), but for the previous path of `b`; every entry of a file carries
the digest of the file's content -/
structure RenamedGen (env : Env) (hit : RelPath → Bool) (t2 : Node) (a b : RelPath) (g : Generation) : Prop where
  paths : ∀ s, s ∈ g.records.map (·.path) ↔ ∃ x ∈ visiblePaths hit t2, posix x.1 = s
  prevB : ∀ r ∈ g.records, r.path = posix b → r.prev = some (posix a)
  prevOther : ∀ r ∈ g.records, r.path ≠ posix b → r.prev = none
  digests : ∀ p, (p, false) ∈ visiblePaths hit t2 → ∀ r ∈ g.records, r.path = posix p →
    ∀ e ∈ r.entries, e.digest = env.H e.fmt (fileContent t2 p)

theorem RenamedGen.root_hist {env : Env} {hit : RelPath → Bool} {rn : String} {cs : List Node} {a b : RelPath}
    {g : Generation} (hs hs' : Option HistStore) (h : RenamedGen env hit (.dir rn cs hs) a b g) :
    RenamedGen env hit (.dir rn cs hs') a b g :=
  ⟨fun s => by rw [h.paths s, visiblePaths_root_hist _ rn cs hs hs'], h.prevB, h.prevOther, fun p hp => by
    rw [visiblePaths_root_hist _ rn cs hs' hs] at hp
    rw [fileContent_root_hist rn cs hs' hs]
    exact h.digests p hp⟩

theorem setPrevList_finalRec (nl : NewList) (k old : String) :
    (setPrevList nl k old).records.map finalRec =
      (nl.records.map finalRec).map fun r => if r.path == k then { r with prev := some old } else r := by
  simp only [setPrevList, List.map_map]
  refine List.map_congr_left fun r _ => ?_
  simp only [Function.comp, finalRec_path]
  split
  · unfold finalRec; split <;> rfl
  · rfl

theorem renamedGen_of_setPrev {env : Env} {t : Node} {o : CreateOpts} {rootHist : Hist} {a b : RelPath}
    {g0 g : Generation}
    (hs : Records (visiblePaths (cHit env rootHist o) t) (fileContent t)
      (fun p => writtenEntries env rootHist.gens (posix p) (fileContent t p) o.formats) g0)
    (hg : g.records = g0.records.map fun r => if r.path == posix b then { r with prev := some (posix a) } else r)
    (hb : (b, false) ∈ visiblePaths (cHit env rootHist o) t)
    (hfirst : FirstOk (fun f => env.H f (fileContent t b)) rootHist.gens (posix b))
    (hunknown : ∀ g ∈ rootHist.gens, g.gen.find (posix b) = none) :
    RenamedGen env (cHit env rootHist o) t a b g ∧
    ∃ r ∈ g.records, r.path = posix b ∧ r.prev = some (posix a) ∧ r.isDir = false ∧
      r.size = some (fileContent t b).length ∧
      (∀ e ∈ r.entries, e.action = "original" ∧ e.digest = env.H e.fmt (fileContent t b)) ∧
      (∀ f ∈ o.formats, ∃ e ∈ r.entries, e.fmt = f) := by
  have hpaths : g.records.map (·.path) = g0.records.map (·.path) := by
    rw [hg, List.map_map]
    exact List.map_congr_left fun r _ => by simp only [Function.comp]; split <;> rfl
  have hmem : ∀ r ∈ g.records, ∃ r0 ∈ g0.records,
      r = if r0.path == posix b then { r0 with prev := some (posix a) } else r0 := fun r hr => by
    rw [hg] at hr
    obtain ⟨r0, hr0, rfl⟩ := List.mem_map.1 hr
    exact ⟨r0, hr0, rfl⟩
  refine ⟨⟨fun s => by rw [hpaths]; exact hs.paths s, fun r hr hrp => ?_, fun r hr hrp => ?_,
    fun p hp r hr hrp e he => ?_⟩, ?_⟩
  · obtain ⟨r0, -, rfl⟩ := hmem r hr
    by_cases h0 : (r0.path == posix b) = true
    · rw [if_pos h0]
    · rw [if_neg h0] at hrp
      exact absurd (by simpa using hrp) h0
  · obtain ⟨r0, hr0, rfl⟩ := hmem r hr
    by_cases h0 : (r0.path == posix b) = true
    · rw [if_pos h0] at hrp
      exact absurd (by simpa using h0) hrp
    · rw [if_neg h0]
      exact hs.prev r0 hr0
  · obtain ⟨r0, hr0, rfl⟩ := hmem r hr
    have he' : e ∈ r0.entries := by split at he <;> exact he
    rw [(hs.of_path hp hr0 (by split at hrp <;> exact hrp)).2.2] at he'
    exact (writtenEntries_spec _ _ _ _ _ (writtenEntries_perm env _ _ _ _)).1 e he'
  · obtain ⟨r0, hr0, hpath, hdir, hsize, hents⟩ := hs.file b hb
    refine ⟨{ r0 with prev := some (posix a) }, ?_, hpath, rfl, hdir, hsize, fun e he => ?_, fun f hf => ?_⟩
    · rw [hg]
      exact List.mem_map.2 ⟨r0, hr0, by simp [hpath]⟩
    · obtain ⟨hd, hact⟩ := writtenEntries_unaltered hfirst o.formats e (hents ▸ he)
      rw [findOriginal_unrecorded hunknown] at hact
      exact ⟨hact, hd⟩
    · obtain ⟨-, -, hall, hnf⟩ := writtenEntries_spec rootHist.gens (posix b) (fun f => env.H f (fileContent t b))
        (isort strLe o.formats) _ (writtenEntries_perm env _ _ _ _)
      obtain ⟨e, he, hfe⟩ := hall (hnf hfirst) f ((mem_isort _ _ _).2 hf)
      exact ⟨e, hents ▸ he, hfe⟩

/-- `create -dr` with one candidate pair (one expected path not come across; one visited file new, of which the
history has no record; the digests agree): exit code 0, the rename reported, and the generation written is the one a
run without `-dr` would write, with `a` as the previous path of `b` -/
theorem createFolder_dr_single (env : Env) (t : Node) (o : CreateOpts) (rootHist : Hist)
    (hl : loadHistory t = .ok rootHist) (hc : rootHist.children = []) (hd : t.NamesDistinct) (hn : t.NamesOk)
    (hf : o.formats ≠ []) (hdr : o.detectRenaming = true) (a b : RelPath)
    (hfirst : ∀ p, (p, false) ∈ visiblePaths (cHit env rootHist o) t →
      FirstOk (fun f => env.H f (fileContent t p)) rootHist.gens (posix p))
    (hb : (b, false) ∈ visiblePaths (cHit env rootHist o) t)
    (hnew : ∀ p d, (p, d) ∈ visiblePaths (cHit env rootHist o) t → (isNewPath rootHist p = true ↔ p = b))
    (hunknown : ∀ g ∈ rootHist.gens, g.gen.find (posix b) = none)
    (ha : a ∈ expectedPaths rootHist) (hanot : ∀ d, (a, d) ∉ visiblePaths (cHit env rootHist o) t)
    (hexp : ∀ p ∈ expectedPaths rootHist, p ≠ a → ∃ d, (p, d) ∈ visiblePaths (cHit env rootHist o) t)
    (oldE : Entry) (hE : findFirstAny rootHist.gens (posix a) = some oldE)
    (hdig : env.H oldE.fmt (fileContent t b) = oldE.digest)
    (hrefs : ∀ g, rootHist.gens.getLast? = some g → g.gen.refs = []) :
    ∃ w, (createFolder env t o).err = none ∧ (createFolder env t o).written = [w] ∧
      (createFolder env t o).report.mismatch = [] ∧ (createFolder env t o).report.missing = [] ∧
      (createFolder env t o).report.renamed = [(posix a, posix b)] ∧
      writeOne rootHist (cRen env t rootHist o).1 env.rootName env.stamp "in-place" none rootHist [] = .ok w ∧
      RenamedGen env (cHit env rootHist o) t a b w.gen ∧
      ∃ r ∈ w.gen.records, r.path = posix b ∧ r.prev = some (posix a) ∧ r.isDir = false ∧
        r.size = some (fileContent t b).length ∧
        (∀ e ∈ r.entries, e.action = "original" ∧ e.digest = env.H e.fmt (fileContent t b)) ∧
        (∀ f ∈ o.formats, ∃ e ∈ r.entries, e.fmt = f) := by
  have hr := loadHistory_root t rootHist hl
  obtain ⟨w, heq, hw⟩ := createFolder_flat_outcome env t o rootHist hl hc (isDir_of_visible hb) hfirst hrefs
  have hren := cRen_single env t o rootHist hc hr hd hn hf hdr a b hb hnew ha hanot hexp oldE hE hdig
  -- the generation a run without `-dr` would write, and how the records of `w` differ from its records
  have hgood := cSession_good env t o rootHist fun p hp => by rw [route_flat rootHist hc]; exact hfirst p hp
  obtain ⟨w0, hw0⟩ := writeOne_isOk rootHist (cSession env t rootHist o) env.rootName env.stamp "in-place" none
    rootHist [] fun r hr => validate_of_good r (hgood.get _ r hr)
  have hrec0 := writeOne_flat_gen env t o rootHist hc hr hd hn hf w0 hw0
  have hrecs : w.gen.records =
      w0.gen.records.map fun r => if r.path == posix b then { r with prev := some (posix a) } else r := by
    rw [(writeOne_records _ _ _ _ _ _ _ _ _ hw).2.1, (writeOne_records _ _ _ _ _ _ _ _ _ hw0).2.1, hren, hr,
      ← setPrevList_finalRec]
    have := Session.get_root (cSession env t rootHist o) []
    generalize (cSession env t rootHist o).get [] = nl0 at this
    simp [Session.get, setPrevList, this]
  obtain ⟨hrg, hrec⟩ := renamedGen_of_setPrev hrec0 hrecs hb (hfirst b hb) hunknown
  rw [hren] at heq
  rw [heq]
  exact ⟨w, rfl, rfl, rfl, rfl, rfl, hw, hrg, hrec⟩

end createDr

/-! ## B. a tree with one file moved -/

section move

/-- the children `cs2` are the children `cs` after the visible file at `a` (content `c`) was moved to `b`, as far as
the commands can tell through the matcher `hit`: `b` is a visible file with content `c`, `a` is gone, every other
visible entry is where and what it was -/
structure Moved (hit : RelPath → Bool) (rn : String) (cs cs2 : List Node) (a b : RelPath) (c : Bytes) : Prop where
  flat : noNested (.dir rn cs2 none) = true
  distinct : (Node.dir rn cs2 none).NamesDistinct
  namesOk : (Node.dir rn cs2 none).NamesOk
  srcVisible : (a, false) ∈ visiblePaths hit (.dir rn cs none)
  srcContent : fileContent (.dir rn cs none) a = c
  dstFresh : ∀ d, (b, d) ∉ visiblePaths hit (.dir rn cs none)
  vis : ∀ p d, (p, d) ∈ visiblePaths hit (.dir rn cs2 none) ↔
    ((p, d) ∈ visiblePaths hit (.dir rn cs none) ∧ p ≠ a) ∨ (p = b ∧ d = false)
  content : ∀ p, (p, false) ∈ visiblePaths hit (.dir rn cs none) → p ≠ a →
    fileContent (.dir rn cs2 none) p = fileContent (.dir rn cs none) p
  dstContent : fileContent (.dir rn cs2 none) b = c

theorem Moved.dstVisible {hit : RelPath → Bool} {rn : String} {cs cs2 : List Node} {a b : RelPath} {c : Bytes}
    (hM : Moved hit rn cs cs2 a b c) : (b, false) ∈ visiblePaths hit (.dir rn cs2 none) :=
  (hM.vis b false).2 (Or.inr ⟨rfl, rfl⟩)

theorem Moved.ne {hit : RelPath → Bool} {rn : String} {cs cs2 : List Node} {a b : RelPath} {c : Bytes}
    (hM : Moved hit rn cs cs2 a b c) : b ≠ a := by
  rintro rfl
  exact hM.dstFresh false hM.srcVisible

theorem Moved.srcGone {hit : RelPath → Bool} {rn : String} {cs cs2 : List Node} {a b : RelPath} {c : Bytes}
    (hM : Moved hit rn cs cs2 a b c) : ∀ d, (a, d) ∉ visiblePaths hit (.dir rn cs2 none) := by
  intro d h
  rcases (hM.vis a d).1 h with ⟨-, h2⟩ | ⟨h2, -⟩
  · exact h2 rfl
  · exact hM.ne h2.symm

def movedKids (cs : List Node) (pa : RelPath) (na : String) (pb : RelPath) (nb : String) (c : Bytes) : List Node :=
  (moveFile (.dir "" cs none) pa na pb nb c).children

theorem moveFile_dir (rn : String) (cs : List Node) (h : Option HistStore) (pa : RelPath) (na : String)
    (pb : RelPath) (nb : String) (c : Bytes) :
    moveFile (.dir rn cs h) pa na pb nb c = .dir rn (movedKids cs pa na pb nb c) h := by
  unfold movedKids moveFile
  cases pa <;> cases pb <;> simp [Node.updateAt, removeChild, addChild, Node.children]

/-- `moveFile` is `addChild` at `pb` after `removeChild` at `pa` (`ht2`); each field of `Moved` is the lemma for the
removal followed by the one for the addition: `visible_removeAt` then `visible_addAt` for what is shown,
`removeAt_file` then `addAt_file` for the contents -/
theorem moveFile_moved (hit : RelPath → Bool) (rn : String) (cs : List Node) (pa : RelPath) (na : String)
    (pb : RelPath) (nb : String)
    (hflat : noNested (.dir rn cs none) = true) (hd : (Node.dir rn cs none).NamesDistinct)
    (hn : (Node.dir rn cs none).NamesOk)
    (ha : (pa ++ [na], false) ∈ visiblePaths hit (.dir rn cs none))
    (hpb : pb = [] ∨ (pb, true) ∈ visiblePaths hit (.dir rn cs none))
    (hnb : NameOk nb) (hfresh : (Node.dir rn cs none).at? (pb ++ [nb]) = none)
    (hhit : hit (pb ++ [nb]) = false) :
    Moved hit rn cs (movedKids cs pa na pb nb (fileContent (.dir rn cs none) (pa ++ [na])))
      (pa ++ [na]) (pb ++ [nb]) (fileContent (.dir rn cs none) (pa ++ [na])) := by
  generalize hc : fileContent (.dir rn cs none) (pa ++ [na]) = c
  generalize ht0 : Node.dir rn cs none = t0 at *
  obtain ⟨nA, hatA, hfileA⟩ := MhlProps.C02.visible_on_disk hit t0 hd _ false ha
  obtain ⟨nmA, cA, rfl⟩ : ∃ nm c, nA = .file nm c := by
    cases nA with
    | file nm c => exact ⟨nm, c, rfl⟩
    | dir _ _ _ => cases hfileA
  have hHas0 : Has t0 pb true := by
    rcases hpb with rfl | hv
    · exact ⟨t0, Node.at?_nil t0, by rw [← ht0]; rfl⟩
    · exact MhlProps.C02.visible_on_disk hit t0 hd _ true hv
  have hpba : pb ≠ pa ++ [na] := by
    rintro rfl
    obtain ⟨n, hn1, hn2⟩ := hHas0
    rw [hatA] at hn1
    cases hn1
    cases hn2
  have hHas1 : Has (Node.updateAt (removeChild na) t0 pa) pb true :=
    (removeAt_has t0 pa na nmA cA hatA pb true).2 ⟨hHas0, hpba⟩
  have hfresh1 : (Node.updateAt (removeChild na) t0 pa).at? (pb ++ [nb]) = none :=
    removeAt_none t0 pa na nmA cA hatA _ hfresh
  obtain ⟨hd1, hn1, hf1⟩ := removeAt_props na pa t0
  obtain ⟨hd2, hn2, hf2⟩ := addAt_props nb c hnb pb _ (hd1 hd) hfresh1
  have ht2 : Node.dir rn (movedKids cs pa na pb nb c) none =
      Node.updateAt (addChild (.file nb c)) (Node.updateAt (removeChild na) t0 pa) pb := by
    rw [← ht0, ← moveFile_dir]
    rfl
  have hbfree := unmatched_below_visible hit t0 pb nb hpb hhit
  subst ht0
  refine ⟨?_, ?_, ?_, ha, hc, ?_, ?_, ?_, ?_⟩
  · rw [ht2]; exact hf2 (hf1 hflat)
  · rw [ht2]; exact hd2
  · rw [ht2]; exact hn2 (hn1 hn)
  · intro d hv
    obtain ⟨n, hn1', -⟩ := MhlProps.C02.visible_on_disk hit _ hd _ d hv
    rw [hfresh] at hn1'
    cases hn1'
  · intro p d
    rw [ht2, visible_addAt hit _ (hd1 hd) pb nb c hHas1 hfresh1 p d, visible_removeAt hit _ hd pa na nmA cA hatA p d]
    constructor
    · rintro (h | ⟨rfl, rfl, -⟩)
      · exact Or.inl h
      · exact Or.inr ⟨rfl, rfl⟩
    · rintro (h | ⟨rfl, rfl⟩)
      · exact Or.inl h
      · exact Or.inr ⟨rfl, rfl, hbfree⟩
  · intro p hp hpa
    obtain ⟨n, hn1', hn2'⟩ := MhlProps.C02.visible_on_disk hit _ hd _ false hp
    cases n with
    | dir _ _ _ => cases hn2'
    | file nm c' =>
      have h1 := removeAt_file _ pa na nmA cA hatA p nm c' hn1' hpa
      have h2 := addAt_file _ pb nb c hHas1 hfresh1 p nm c' h1
      unfold fileContent
      rw [ht2, h2, hn1']
  · unfold fileContent
    rw [ht2, addAt_dst _ pb nb c hHas1 hfresh1]

end move

/-! ## C. one file moved under a history that describes the tree -/

section movedUnder
open MhlProps MhlProps.C02rec MhlProps.C04

variable {env : Env} {H : Hist} {P : List String} {fmt : RelPath → String} {rn : String} {cs cs2 : List Node}
  {a b : RelPath} {c : Bytes}

/-- the history with `G` appended describes the moved tree: `b` is looked up under `a` (`recordedName`) and compared
with what was recorded for `a`; `a` drops out of the expected paths -/
theorem Describes.append_renamed (D : Describes env H P (.dir rn cs none) fmt) (hM : Moved (env.hit P) rn cs cs2 a b c)
    (hname : ∀ p, (p, false) ∈ visiblePaths (env.hit P) (.dir rn cs none) → recordedName H.gens (posix p) = posix p)
    (hunk : ∀ g ∈ H.gens, g.gen.find (posix b) = none)
    (hfmt : fmt b = fmt a) (H' : Hist) (hc : H'.children = []) (hr : H'.root = []) (G : LGen)
    (hg : H'.gens = H.gens ++ [G]) (hign : G.gen.ignore = P) (hrefs : G.gen.refs = [])
    (hrg : RenamedGen env (env.hit P) (.dir rn cs2 none) a b G.gen) :
    Describes env H' P (.dir rn cs2 none) fmt := by
  have hbok := (visible_names_ok _ _ hM.namesOk _ hM.dstVisible).2
  have haok := (visible_names_ok _ _ D.namesOk _ hM.srcVisible).2
  have hnorec : ∀ g ∈ H.gens, ∀ r ∈ g.gen.records, r.path ≠ posix b := fun g hgm r hrm =>
    ((Generation.find_none_iff.1 (hunk g hgm)).1 r hrm).1
  -- a file of the moved tree other than `b` is a file of the old tree other than `a`, with its content
  have hold : ∀ p, (p, false) ∈ visiblePaths (env.hit P) (.dir rn cs2 none) → p ≠ b →
      (p, false) ∈ visiblePaths (env.hit P) (.dir rn cs none) ∧
        fileContent (.dir rn cs2 none) p = fileContent (.dir rn cs none) p := by
    intro p hp hpb
    rcases (hM.vis p false).1 hp with ⟨h1, h2⟩ | ⟨h, -⟩
    · exact ⟨h1, hM.content p h1 h2⟩
    · exact absurd h hpb
  -- what `G` finds for a file of the moved tree is its own record
  have hfound : ∀ p, (p, false) ∈ visiblePaths (env.hit P) (.dir rn cs2 none) → ∀ r, G.gen.find (posix p) = some r →
      ∀ e ∈ r.entries, e.digest = env.H e.fmt (fileContent (.dir rn cs2 none) p) := by
    intro p hp r hfind
    obtain ⟨hne, hpok⟩ := visible_names_ok _ _ hM.namesOk _ hp
    rcases Generation.find_some hfind with ⟨hrm, hpath | hprev⟩ | ⟨hdot, -⟩
    · exact hrg.digests p hp r hrm hpath
    · exfalso
      by_cases hrb : r.path = posix b
      · rw [hrg.prevB r hrm hrb] at hprev
        obtain rfl : a = p := posix_inj haok hpok (Option.some.inj hprev)
        exact hM.srcGone false hp
      · rw [hrg.prevOther r hrm hrb] at hprev
        cases hprev
    · exact absurd ((posix_eq_dot hpok).1 hdot) hne
  have hrecb : ∃ r ∈ G.gen.records, r.path = posix b :=
    List.mem_map.1 ((hrg.paths (posix b)).2 ⟨(b, false), hM.dstVisible, rfl⟩)
  refine ⟨hc, hr, by simp [latestIgnore, hg, hign], D.own, hM.distinct, hM.namesOk, fun p hp => ?_, fun p hp => ?_,
    fun q hq => ?_, fun g' hg' => ?_⟩
  · rw [hg, MhlProps.C17.recordedName_append]
    by_cases hpb : p = b
    · subst hpb
      obtain ⟨e, he, hf, hd⟩ := D.orig a hM.srcVisible
      rw [hname a hM.srcVisible] at he
      rw [MhlProps.C17.recordedName_id H.gens _ fun g hgm r hrm hrp => absurd hrp (hnorec g hgm r hrm),
        MhlProps.C17.recordedName_cons, MhlProps.C17.nameStep_renamed G _ (posix a) hrecb hrg.prevB]
      exact ⟨e, original_is_monotone _ _ _ e he, hf.trans hfmt.symm,
        by rw [hd, hfmt, hM.dstContent, hM.srcContent]⟩
    · obtain ⟨hp0, hcont⟩ := hold p hp hpb
      obtain ⟨e, he, hf, hd⟩ := D.orig p hp0
      rw [hname p hp0] at he ⊢
      rw [MhlProps.C17.recordedName_cons, MhlProps.C17.nameStep_id G _ fun r hrm hrp =>
        hrg.prevOther r hrm fun h => hpb (posix_inj (visible_names_ok _ _ hM.namesOk _ hp).2 hbok (hrp.symm.trans h))]
      exact ⟨e, original_is_monotone _ _ _ e he, hf, by rw [hd, hcont]⟩
  · rw [hg]
    refine firstOk_append_gen _ _ G _ ?_ (hfound p hp)
    by_cases hpb : p = b
    · subst hpb
      exact MhlProps.C04nested.firstOk_of_unrecorded _ _ _ hunk
    · obtain ⟨hp0, hcont⟩ := hold p hp hpb
      rw [hcont]
      exact D.firstOk p hp0
  · rw [mem_expectedPaths_of_flat hc, hr, hg, MhlProps.C17.expected_drops_previous] at hq
    rcases hq with ⟨h1, h2⟩ | ⟨r, hrm, rfl⟩
    · refine (D.expected q ((mem_expectedPaths_of_flat D.flat q).2 (D.root ▸ h1))).imp (fun ⟨d, hd⟩ => ⟨d, ?_⟩) id
      refine (hM.vis q d).2 (Or.inl ⟨hd, ?_⟩)
      rintro rfl
      obtain ⟨r, hrm, hrp⟩ := hrecb
      exact h2 ⟨r, hrm, posix q, hrg.prevB r hrm hrp, by rw [splitPath_posix haok]; rfl⟩
    · obtain ⟨⟨p, d⟩, hx, hxs⟩ := (hrg.paths r.path).1 (List.mem_map_of_mem hrm)
      refine .inl ⟨d, ?_⟩
      rw [← hxs, List.nil_append, splitPath_posix (visible_names_ok _ _ hM.namesOk _ hx).2]
      exact hx
  · obtain rfl : G = g' := by simpa [hg] using hg'
    exact hrefs

/-- one file moved since `H` described the tree: `H` describes the tree with the children `cs` and records what that
tree shows plainly (expected are exactly the visible paths, each has a record in every generation, no file is looked
up under another name); the file `a` is moved to `b` (`Moved`), of which no generation of `H` has a record.  What is
said below holds whatever `ascmhl` folder `hs` the moved tree has at its root, if it loads as `H`; the first seal of a
tree is the instance `C17detect.moved_under`. -/
structure MovedUnder (env : Env) (H : Hist) (P : List String) (fmt : RelPath → String) (rn : String)
    (cs cs2 : List Node) (a b : RelPath) (c : Bytes) : Prop where
  describes : Describes env H P (.dir rn cs none) fmt
  moved : Moved (env.hit P) rn cs cs2 a b c
  expected : ∀ p, p ∈ expectedPaths H ↔ ∃ d, (p, d) ∈ visiblePaths (env.hit P) (.dir rn cs none)
  known : ∀ p d, (p, d) ∈ visiblePaths (env.hit P) (.dir rn cs none) → isNewPath H p = false
  ownName : ∀ p, (p, false) ∈ visiblePaths (env.hit P) (.dir rn cs none) → recordedName H.gens (posix p) = posix p
  unknown : ∀ g ∈ H.gens, g.gen.find (posix b) = none

namespace MovedUnder
variable (M : MovedUnder env H P fmt rn cs cs2 a b c) (hs : Option HistStore)
include M

theorem names : (Node.dir rn cs2 hs).NamesDistinct ∧ (Node.dir rn cs2 hs).NamesOk :=
  ⟨(Node.namesDistinct_dir _ _ _).2 ((Node.namesDistinct_dir _ _ _).1 M.moved.distinct),
    fun s hm => M.moved.namesOk s ((Node.mem_descNames_dir _ _ _ _).2 ((Node.mem_descNames_dir _ _ _ _).1 hm))⟩

/-- what the moved tree shows, in the form `Snapshot.moved` asks for -/
theorem vis (x : RelPath × Bool) : x ∈ visiblePaths (env.hit P) (.dir rn cs2 hs) ↔
    (x ∈ visiblePaths (env.hit P) (.dir rn cs none) ∧ x.1 ≠ a) ∨ x = (b, false) := by
  obtain ⟨p, d⟩ := x
  rw [visiblePaths_root_hist _ rn cs2 hs none, M.moved.vis p d]
  simp

theorem firstOk (p : RelPath) (hp : (p, false) ∈ visiblePaths (env.hit P) (.dir rn cs2 hs)) :
    FirstOk (fun f => env.H f (fileContent (.dir rn cs2 hs) p)) H.gens (posix p) := by
  rw [fileContent_root_hist rn cs2 hs none]
  rw [visiblePaths_root_hist _ rn cs2 hs none] at hp
  rcases (M.moved.vis p false).1 hp with ⟨hp0, hpa⟩ | ⟨rfl, -⟩
  · rw [M.moved.content p hp0 hpa]
    exact M.describes.firstOk p hp0
  · exact MhlProps.C04nested.firstOk_of_unrecorded _ _ _ M.unknown

theorem isNew {p : RelPath} {d : Bool} (hp : (p, d) ∈ visiblePaths (env.hit P) (.dir rn cs2 hs)) :
    isNewPath H p = true ↔ p = b := by
  constructor
  · intro hnew
    rcases (M.vis hs (p, d)).1 hp with ⟨hp0, -⟩ | h
    · rw [M.known p d hp0] at hnew
      cases hnew
    · exact (Prod.mk.inj h).1
  · rintro rfl
    obtain ⟨g, gs, hg⟩ := List.exists_cons_of_ne_nil M.describes.gens_ne
    unfold isNewPath
    rw [List.any_eq_true]
    refine ⟨g, by rw [hg]; exact List.mem_cons_self, ?_⟩
    rw [Bool.not_eq_true', List.any_eq_false]
    intro r hr
    have := ((Generation.find_none_iff.1 (M.unknown g (by rw [hg]; exact List.mem_cons_self))).1 r hr).1
    simpa using this

/-- the first entry recorded for `a`, which rename detection compares `b` with, carries the digest of the content -/
theorem first_entry : ∃ oldE, findFirstAny H.gens (posix a) = some oldE ∧ env.H oldE.fmt c = oldE.digest := by
  obtain ⟨e, he, -, -⟩ := M.describes.orig a M.moved.srcVisible
  rw [M.ownName a M.moved.srcVisible, findOriginal_eq_lookup] at he
  obtain ⟨g, hg, r, hfind, hsel⟩ := lookupEntry_some he
  cases hany : findFirstAny H.gens (posix a) with
  | none =>
    -- a record with an `original` entry has a first entry
    rw [findFirstAny_eq_lookup, lookupEntry_eq_none] at hany
    have := hany g hg r hfind
    rw [List.head?_eq_none_iff.1 this] at hsel
    cases hsel
  | some oldE =>
    refine ⟨oldE, rfl, ?_⟩
    -- the first entry of any format is the first entry of its own format
    have h2 : findFirstOfFormat H.gens (posix a) oldE.fmt = some oldE := by
      rw [findFirstOfFormat_eq_lookup]
      rw [findFirstAny_eq_lookup] at hany
      refine lookupEntry_of_sel (fun es h => ?_) (fun es h => ?_) hany
      · rw [List.head?_eq_none_iff.1 h]; rfl
      · obtain ⟨xs, rfl⟩ : ∃ xs, es = oldE :: xs := by
          cases es with
          | nil => cases h
          | cons x xs => exact ⟨xs, by rw [Option.some.inj h]⟩
        simp
    rw [M.describes.firstOk a M.moved.srcVisible _ _ h2, M.moved.srcContent]

/-- VERIFY / DIFF on the moved tree: `b` is new, `a` is missing, nothing else is reported; verify ends with
`NewFilesFoundException` (21: new files rank above missing ones), diff with 10 -/
theorem verify (hl : loadHistory (.dir rn cs2 hs) = .ok H) (hashing : Bool) :
    (verifyOrDiff env (.dir rn cs2 hs) {} hashing none).err = some (if hashing then errNewFiles else errMissingFiles) ∧
    (verifyOrDiff env (.dir rn cs2 hs) {} hashing none).exitCode = (if hashing then 21 else 10) ∧
    (verifyOrDiff env (.dir rn cs2 hs) {} hashing none).report.mismatch = [] ∧
    (verifyOrDiff env (.dir rn cs2 hs) {} hashing none).report.new = [posix b] ∧
    (verifyOrDiff env (.dir rn cs2 hs) {} hashing none).report.missing = [posix a] := by
  refine M.describes.snapshot.moved _ none hashing hl (M.names hs).1 a b M.moved.srcVisible
    ((M.expected a).2 ⟨false, M.moved.srcVisible⟩) ?_ (M.vis hs) fun q hq hne => ?_
  · exact judgeFile_of_none (route_flat _ M.describes.flat b)
      (MhlProps.C17.recordedName_id H.gens _ fun g hg r hr hrp =>
        absurd hrp ((Generation.find_none_iff.1 (M.unknown g hg)).1 r hr).1)
      (findOriginal_unrecorded M.unknown) _ hashing
  · rw [fileContent_root_hist rn cs2 hs none, M.moved.content q hq hne]

/-- `create` without `-dr` on the moved tree ends with `CompletenessCheckFailedException` (exit code 10) naming `a`;
the generation is written all the same -/
theorem create (hl : loadHistory (.dir rn cs2 hs) = .ok H) (o₂ : CreateOpts) (hdr₂ : o₂.detectRenaming = false)
    (hcli : ∀ x ∈ o₂.ignoreCli, x ∈ P) (hfile : ∀ x ∈ o₂.ignoreFile, x ∈ P) :
    (createFolder env (.dir rn cs2 hs) o₂).err = some errMissingFiles ∧
    (createFolder env (.dir rn cs2 hs) o₂).exitCode = 10 ∧
    (createFolder env (.dir rn cs2 hs) o₂).report.missing = [posix a] ∧
    (createFolder env (.dir rn cs2 hs) o₂).report.mismatch = [] ∧
    (createFolder env (.dir rn cs2 hs) o₂).report.renamed = [] ∧
    ∃ w₂, (createFolder env (.dir rn cs2 hs) o₂).written = [w₂] := by
  have hhit := M.describes.cHit o₂ hcli hfile
  obtain ⟨w₂, heq, -⟩ := createFolder_flat_outcome env (.dir rn cs2 hs) o₂ H hl M.describes.flat rfl
    (fun p hp => M.firstOk hs p (hhit ▸ hp)) M.describes.refs
  rw [cRen_noDr env _ H o₂ hdr₂] at heq
  have hmiss : missingAfter (cHit env H o₂) (cNotFound_u env (.dir rn cs2 hs) H o₂) = [a] := by
    unfold cNotFound_u
    rw [cState_found, hhit]
    exact M.describes.snapshot.missing_of_moved _ a b M.moved.srcVisible
      ((M.expected a).2 ⟨false, M.moved.srcVisible⟩) M.moved.ne (M.vis hs)
  rw [heq, hmiss]
  have herr : createExit 0 [a] [] = some errMissingFiles := by
    rw [MhlProps.C03.create_missing_10 _ _ (by simp), errMissingFiles_eq]
  exact ⟨herr, MhlProps.C03.exitCode_of_err _ 10 (by rw [herr, errMissingFiles_eq]), rfl, rfl, rfl, w₂, rfl⟩

/-- `create -dr` on the moved tree.  The new path has no history, so the digests of `b` are taken as `original`s:
the link to the older generations is the previous path alone.  With the generation in the `ascmhl` folder the tree
loads as a history that describes the moved tree (so `Describes.verify_ok`, `Describes.reseal` say that verify / diff /
create accept it), given that `fmt` names for `b` the format it names for `a`.  The folder name and the stamp are free
of line feeds, else the name of the new manifest does not parse (C06). -/
theorem create_dr (hl : loadHistory (.dir rn cs2 hs) = .ok H) (o₂ : CreateOpts) (hf₂ : o₂.formats ≠ [])
    (hdr₂ : o₂.detectRenaming = true) (hcli : ∀ x ∈ o₂.ignoreCli, x ∈ P) (hfile : ∀ x ∈ o₂.ignoreFile, x ∈ P)
    (hfmt : fmt b = fmt a) (hrn : '\n' ∉ env.rootName.toList) (hst : '\n' ∉ env.stamp.toList) :
    ∃ w₂, (createFolder env (.dir rn cs2 hs) o₂).err = none ∧
      (createFolder env (.dir rn cs2 hs) o₂).written = [w₂] ∧
      (createFolder env (.dir rn cs2 hs) o₂).report.mismatch = [] ∧
      (createFolder env (.dir rn cs2 hs) o₂).report.missing = [] ∧
      (createFolder env (.dir rn cs2 hs) o₂).report.renamed = [(posix a, posix b)] ∧
      w₂.histRoot = [] ∧ w₂.number = latestGenerationNumber H.gens + 1 ∧
      (∀ r ∈ w₂.gen.records, r.path ≠ posix b → r.prev = none) ∧
      (∃ r ∈ w₂.gen.records, r.path = posix b ∧ r.prev = some (posix a) ∧ r.isDir = false ∧
        r.size = some c.length ∧
        (∀ e ∈ r.entries, e.action = "original" ∧ e.digest = env.H e.fmt c) ∧
        (∀ f ∈ o₂.formats, ∃ e ∈ r.entries, e.fmt = f)) ∧
      applyWritten (.dir rn cs2 hs) [w₂] = .dir rn cs2 (some ((hs.getD {}).add w₂)) ∧
      ∃ H', loadHistory (.dir rn cs2 (some ((hs.getD {}).add w₂))) = .ok H' ∧
        H'.gens = H.gens ++ [⟨w₂.number, w₂.gen⟩] ∧ Describes env H' P (.dir rn cs2 none) fmt := by
  have hhit := M.describes.cHit o₂ hcli hfile
  obtain ⟨hd2, hn2⟩ := M.names hs
  have hcb : fileContent (.dir rn cs2 hs) b = c := by rw [fileContent_root_hist rn cs2 hs none, M.moved.dstContent]
  obtain ⟨oldE, hE, hdigE⟩ := M.first_entry
  obtain ⟨w₂, h1, h2, h3, h4, h5, hw₂, hrg, r, hrm, hr1, hr2, hr3, hr4, hr5, hr6⟩ :=
    createFolder_dr_single env (.dir rn cs2 hs) o₂ H hl M.describes.flat hd2 hn2 hf₂ hdr₂ a b
      (fun p hp => M.firstOk hs p (hhit ▸ hp))
      (by rw [hhit]; exact (M.vis hs _).2 (Or.inr rfl))
      (fun p d hp => M.isNew hs (hhit ▸ hp)) M.unknown
      ((M.expected a).2 ⟨false, M.moved.srcVisible⟩)
      (fun d hd => by
        rw [hhit] at hd
        rcases (M.vis hs _).1 hd with ⟨-, h⟩ | h
        · exact h rfl
        · exact M.moved.ne (Prod.mk.inj h).1.symm)
      (fun p hp hpa => by
        obtain ⟨d, hd⟩ := (M.expected p).1 hp
        exact ⟨d, by rw [hhit]; exact (M.vis hs _).2 (Or.inl ⟨hd, hpa⟩)⟩)
      oldE hE (by rw [hcb]; exact hdigE) M.describes.refs
  rw [hcb] at hr4 hr5
  rw [hhit] at hrg
  have hcm := createFolder_written_commit env _ o₂ H hl (w := w₂) (by rw [h2]; exact List.mem_singleton_self _)
  rw [h2] at hcm
  obtain ⟨hroot, hnum, happ, H', hl', hc', hr', hg'⟩ := reload_flat hl M.describes.flat hcm hrn hst
  exact ⟨w₂, h1, h2, h3, h4, h5, hroot, hnum, hrg.prevOther, ⟨r, hrm, hr1, hr2, hr3, hr4, hr5, hr6⟩, happ, H', hl', hg',
    M.describes.append_renamed M.moved M.ownName M.unknown hfmt H' hc' hr' ⟨w₂.number, w₂.gen⟩ hg'
      (M.describes.written_ignore _ o₂ hcli hfile hw₂ (cRen_patterns env _ H o₂))
      (writeOne_refs_nil _ _ _ _ _ _ _ _ hw₂) (hrg.root_hist hs none)⟩

end MovedUnder

end movedUnder

end MhlModel
