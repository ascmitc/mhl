/-
The implementation-shaped computation of the directory hashes (per-folder contexts filled while folding over the
post-order traversal, child folders popped from the association list `dirHashes`) against the compositional definition
`nodeHashes`.

Each visit function is unfolded once, into the fold of a named per-child step (`createVisit_eq`, `dhVisit_eq`).
* What a child and a visit of `create` do to each field of the state (`childStep_found`, `_newPaths`, `_session`,
  `_failed`, `createVisit_found`, `_failed`, `_inv`, `_congr`, and `dhVisit_congr` for `verify -dh`): SessionLemmas,
  IgnoreNestedLemmas, C12nested and C13 rest on these.
* On (`dirHashes`, contexts) both steps are `dhDirStep`, and that is all the one induction over the tree
  (`foldl_visits_spec`, over the interface `CarriesDh`) needs to know of a command: C07impl for `createVisit`, DhLemmas
  and DhNestedLemmas (C09) for `dhVisit`, SessionLemmas for the hashes each visit records.
* The root record `appendDirHashes` leaves in the session (C07impl).
The first sections hold the initial contexts of a visit and the content of a child file (`fileContent_child`).
-/
import MhlModel.Commands
import MhlProps.Proofs.DirHashLemmas
import MhlProps.Proofs.SealLemmas
import MhlProps.Proofs.TraverseLemmas

namespace MhlModel

/-! ## the initial contexts of a visit -/

/-- `ctx0` of `createVisit` / `dhVisit` (for `noDir = false`) -/
def ctxInit (fmts : List String) : List (String × DirCtx) :=
  fmts.foldl (fun a f => ainsert f ({} : DirCtx) a) []

/-- the formats for which a folder gets directory hashes: the requested ones without repetitions, in order of first
occurrence (a Python dict keyed by format) -/
def ctxKeys (fmts : List String) : List String := fmts.foldl appendNew []

theorem ainsert_keyed {α : Type} (v : α) (f : String) (K : List String) :
    ainsert f v (K.map fun g => (g, v)) = (appendNew K f).map fun g => (g, v) := by
  induction K with
  | nil => simp [ainsert, appendNew]
  | cons k K ih =>
    simp only [List.map_cons, ainsert]
    by_cases hk : k = f
    · subst hk; simp [appendNew]
    · simp only [hk, if_false, ih]
      unfold appendNew
      by_cases hm : f ∈ K
      · simp [hm]
      · simp [hm, Ne.symm hk]

theorem ctxInit_eq (fmts : List String) : ctxInit fmts = (ctxKeys fmts).map fun g => (g, ({} : DirCtx)) := by
  have h : ∀ K : List String, fmts.foldl (fun a f => ainsert f ({} : DirCtx) a) (K.map fun g => (g, ({} : DirCtx))) =
      (fmts.foldl appendNew K).map fun g => (g, ({} : DirCtx)) := by
    induction fmts with
    | nil => intro _; rfl
    | cons f fs ih => intro K; rw [List.foldl_cons, List.foldl_cons, ainsert_keyed, ih]
  exact h []

theorem mem_ctxKeys (fmts : List String) (f : String) : f ∈ ctxKeys fmts ↔ f ∈ fmts :=
  (dedup_spec fmts).2 f

theorem ctxKeys_of_nodup (fmts : List String) (h : fmts.Nodup) : ctxKeys fmts = fmts := by
  unfold ctxKeys
  simpa using foldl_appendNew_of_nodup fmts [] (by simpa using h)

theorem ctxInit_keys (fmts : List String) : (ctxInit fmts).map Prod.fst = ctxKeys fmts := by
  rw [ctxInit_eq, List.map_map]
  exact List.map_id _

/-! ## nodes: name and kind by constructor, a child of the folder found at a path -/

theorem Node.name_file (n : String) (b : Bytes) : (Node.file n b).name = n := rfl
theorem Node.name_dir (n : String) (cs : List Node) (h : Option HistStore) : (Node.dir n cs h).name = n := rfl
theorem Node.isDir_file (n : String) (b : Bytes) : (Node.file n b).isDir = false := rfl
theorem Node.isDir_dir (n : String) (cs : List Node) (h : Option HistStore) : (Node.dir n cs h).isDir = true := rfl

theorem fileContent_child {t : Node} {here : RelPath} {n : String} {cs : List Node} {h : Option HistStore}
    (hat : t.at? here = some (.dir n cs h)) (hnd : (cs.map Node.name).Nodup) {nm : String} {b : Bytes}
    (hc : Node.file nm b ∈ cs) : fileContent t (here ++ [nm]) = b := by
  have := Node.at?_child hat hnd hc
  simp only [Node.name] at this
  simp [fileContent, this]

variable (env : Env) (t : Node) (rootHist : Hist) (fmts : List String)

/-! ## one visit of `create`: the fold of `childStep`, then the folder itself; field by field -/

/-- named copy of the anonymous per-child step of `createVisit` (definitionally the same function, see
`createVisit_eq`) -/
def childStep (noDir : Bool) (folder : RelPath)
    (acc : CreateState × List (String × DirCtx)) (ch : String × Bool) : CreateState × List (String × DirCtx) :=
      let (st, ctx) := acc
      let p := folder ++ [ch.1]
      let st := { st with found := st.found ++ [p],
                          newPaths := if isNewPath rootHist p then appendNew st.newPaths p else st.newPaths }
      if ch.2 then
        if noDir then (st, ctx)
        else
          let sub := (alookup p st.dirHashes).getD []
          let ctx := ctx.map fun (f, c) =>
            match sub.find? (fun x => x.1 == f) with
            | some (_, ch', sh) => (f, c.add env.H env.D f ch.1 ch' sh)
            | none => (f, c)
          ({ st with dirHashes := st.dirHashes.filter fun x => x.1 != p }, ctx)
      else
        let (s, res) := sealFile env.H rootHist st.session p (fileContent t p) fmts
        let nfail := (res.filter fun r => !r.2.2).length
        let st := { st with session := s, failed := st.failed + nfail,
                            mismatch := if nfail > 0 then appendNew st.mismatch (posix p) else st.mismatch }
        let ctx := ctx.map fun (f, c) =>
          match res.find? (fun x => x.1 == f) with
          | some (_, d, _) => (f, c.add env.H env.D f ch.1 d d)
          | none => (f, c)
        (st, ctx)

/-- the hashes of a folder from its filled contexts (the `hashes` of `createVisit`) -/
def ctxHashes (ctx : List (String × DirCtx)) : List (String × String × String) :=
  ctx.map fun (f, c) => (f, hashOfList env.H env.D f c.content, hashOfList env.H env.D f c.structure_)

abbrev DirHashes := List (RelPath × List (String × String × String))

/-- `createVisit` through its per-child step: the children are folded into the state and the contexts; the hashes of
the folder are read off the contexts, noted in `dirHashes` (not with `-n`) and recorded in the session.  Every other
statement about a visit goes through this one. -/
theorem createVisit_eq (noDir : Bool) (st : CreateState) (v : Visit) :
    createVisit env t rootHist fmts noDir st v =
      let r := v.children.foldl (childStep env t rootHist fmts noDir v.folder) (st, if noDir then [] else ctxInit fmts)
      { r.1 with
        dirHashes := if noDir then r.1.dirHashes else r.1.dirHashes ++ [(v.folder, ctxHashes env r.2)],
        session := appendDirHashes rootHist r.1.session v.folder (ctxHashes env r.2) } := by
  unfold createVisit
  cases noDir <;> rfl

section fields
variable (noDir : Bool) (folder : RelPath) (acc : CreateState × List (String × DirCtx)) (ch : String × Bool)

theorem childStep_found :
    (childStep env t rootHist fmts noDir folder acc ch).1.found = acc.1.found ++ [folder ++ [ch.1]] := by
  obtain ⟨nm, b⟩ := ch
  cases b <;> cases noDir <;> rfl

theorem childStep_newPaths :
    (childStep env t rootHist fmts noDir folder acc ch).1.newPaths =
      if isNewPath rootHist (folder ++ [ch.1]) then appendNew acc.1.newPaths (folder ++ [ch.1])
      else acc.1.newPaths := by
  obtain ⟨nm, b⟩ := ch
  cases b <;> cases noDir <;> rfl

theorem childStep_session :
    (childStep env t rootHist fmts noDir folder acc ch).1.session =
      if ch.2 then acc.1.session
      else (sealFile env.H rootHist acc.1.session (folder ++ [ch.1]) (fileContent t (folder ++ [ch.1])) fmts).1 := by
  obtain ⟨nm, b⟩ := ch
  cases b <;> cases noDir <;> rfl

theorem childStep_failed :
    (childStep env t rootHist fmts noDir folder acc ch).1.failed =
        (if ch.2 then acc.1.failed else acc.1.failed +
          ((sealFile env.H rootHist acc.1.session (folder ++ [ch.1]) (fileContent t (folder ++ [ch.1])) fmts).2.filter
            fun r => !r.2.2).length) ∧
      (childStep env t rootHist fmts noDir folder acc ch).1.mismatch =
        if ch.2 then acc.1.mismatch else
          if ((sealFile env.H rootHist acc.1.session (folder ++ [ch.1]) (fileContent t (folder ++ [ch.1])) fmts).2.filter
            fun r => !r.2.2).length > 0 then appendNew acc.1.mismatch (posix (folder ++ [ch.1])) else acc.1.mismatch := by
  obtain ⟨nm, b⟩ := ch
  obtain ⟨st, ctx⟩ := acc
  cases b
  -- `rfl` is slow here: the unifier starts to unfold `sealFile` on both sides
  · constructor <;> simp only [childStep, Bool.false_eq_true, if_false]
  · cases noDir <;> exact ⟨rfl, rfl⟩

theorem childStep_nil (st : CreateState) :
    (childStep env t rootHist fmts noDir folder (st, []) ch).2 = [] := by
  obtain ⟨nm, b⟩ := ch
  cases b <;> cases noDir <;> rfl

theorem childStep_congr (t₁ t₂ : Node)
    (h : ch.2 = false → fileContent t₁ (folder ++ [ch.1]) = fileContent t₂ (folder ++ [ch.1])) :
    childStep env t₁ rootHist fmts noDir folder acc ch = childStep env t₂ rootHist fmts noDir folder acc ch := by
  obtain ⟨nm, b⟩ := ch
  cases b
  · simp only [childStep, h rfl]
  · rfl

end fields

def visitFound (v : Visit) : List RelPath := v.children.map fun ch => v.folder ++ [ch.1]

theorem foldl_childStep_found (noDir : Bool) (folder : RelPath) (L : List (String × Bool))
    (acc : CreateState × List (String × DirCtx)) :
    (L.foldl (childStep env t rootHist fmts noDir folder) acc).1.found =
      acc.1.found ++ L.map fun ch => folder ++ [ch.1] := by
  induction L generalizing acc with
  | nil => simp
  | cons ch L ih => rw [List.foldl_cons, ih, childStep_found]; simp

theorem createVisit_found (noDir : Bool) (st : CreateState) (v : Visit) :
    (createVisit env t rootHist fmts noDir st v).found = st.found ++ visitFound v := by
  rw [createVisit_eq]
  exact foldl_childStep_found env t rootHist fmts noDir v.folder v.children _

theorem foldl_childStep_newPaths (noDir : Bool) (folder : RelPath) (L : List (String × Bool))
    (acc : CreateState × List (String × DirCtx)) :
    (L.foldl (childStep env t rootHist fmts noDir folder) acc).1.newPaths =
      (L.map fun ch => folder ++ [ch.1]).foldl
        (fun a p => if isNewPath rootHist p then appendNew a p else a) acc.1.newPaths := by
  induction L generalizing acc with
  | nil => rfl
  | cons ch L ih => rw [List.foldl_cons, ih, childStep_newPaths]; rfl

theorem createVisit_failed (noDir : Bool) (st : CreateState) (v : Visit)
    (hok : ∀ ch ∈ v.children, ch.2 = false →
      ∀ r ∈ (sealEntries (route rootHist (v.folder ++ [ch.1])).1.gens (posix (route rootHist (v.folder ++ [ch.1])).2)
        (fun f => env.H f (fileContent t (v.folder ++ [ch.1]))) fmts).2, r.2.2 = true)
    (h0 : st.failed = 0 ∧ st.mismatch = []) :
    (createVisit env t rootHist fmts noDir st v).failed = 0 ∧
      (createVisit env t rootHist fmts noDir st v).mismatch = [] := by
  rw [createVisit_eq]
  refine foldl_invariant (fun (a : CreateState × List (String × DirCtx)) => a.1.failed = 0 ∧ a.1.mismatch = [])
    _ _ ?_ _ h0
  intro a ch hch hP
  obtain ⟨h1, h2⟩ := childStep_failed env t rootHist fmts noDir v.folder a ch
  rw [h1, h2]
  cases hd : ch.2
  · have hnil : ((sealFile env.H rootHist a.1.session (v.folder ++ [ch.1]) (fileContent t (v.folder ++ [ch.1]))
        fmts).2.filter fun r => !r.2.2) = [] :=
      List.filter_eq_nil_iff.2 fun r hr => by simp [hok ch hch hd r (sealFile_snd .. ▸ hr)]
    simp [hnil, hP.1, hP.2]
  · exact hP

theorem createVisit_inv (P : Session → Prop) (env : Env) (t : Node) (rootHist : Hist) (fmts : List String)
    (noDir : Bool) (st : CreateState) (v : Visit) (hs : P st.session)
    (hseal : ∀ s, P s → ∀ ch ∈ v.children, ch.2 = false →
      P (sealFile env.H rootHist s (v.folder ++ [ch.1]) (fileContent t (v.folder ++ [ch.1])) fmts).1)
    (hdir : ∀ s hashes, P s → P (appendDirHashes rootHist s v.folder hashes)) :
    P (createVisit env t rootHist fmts noDir st v).session := by
  rw [createVisit_eq]
  refine hdir _ _ (foldl_invariant (fun (a : CreateState × List (String × DirCtx)) => P a.1.session) _ _ ?_ _ hs)
  intro a ch hch hP
  rw [childStep_session]
  cases hd : ch.2
  · exact hseal _ hP ch hch hd
  · exact hP

theorem createVisit_congr (t₁ t₂ : Node) (noDir : Bool) (st : CreateState) (v : Visit)
    (h : ∀ c ∈ v.children, c.2 = false → fileContent t₁ (v.folder ++ [c.1]) = fileContent t₂ (v.folder ++ [c.1])) :
    createVisit env t₁ rootHist fmts noDir st v = createVisit env t₂ rootHist fmts noDir st v := by
  rw [createVisit_eq, createVisit_eq,
    foldl_congr_mem v.children fun a c hc => childStep_congr env rootHist fmts noDir v.folder a c t₁ t₂ (h c hc)]

/-! ## one visit of `verify -dh`: the fold of `dhChildStep`, then the folder itself -/

/-- named copy of the anonymous per-child step of `dhVisit` (definitionally the same function, see `dhVisit_eq`) -/
def dhChildStep (env : Env) (t : Node) (rootHist : Hist) (fmts : List String) (o : DhOpts) (folder : RelPath)
    (acc : DhState × List (String × DirCtx)) (ch : String × Bool) : DhState × List (String × DirCtx) :=
  let (st, ctx) := acc
  let p := folder ++ [ch.1]
  if ch.2 then
    let (h, hrel) := route rootHist p
    let recorded := dirEntriesFor h (posix hrel)
    let sub := (alookup p st.dirHashes).getD []
    let ctx := ctx.map fun (f, c) =>
      match sub.find? (fun x => x.1 == f) with
      | some (_, ch', sh) => (f, c.add env.H env.D f ch.1 ch' sh)
      | none => (f, c)
    let st := { st with dirHashes := st.dirHashes.filter fun x => x.1 != p }
    let st := if o.rootOnly then st else dhCompare fmts true (posix p) sub st recorded
    (st, ctx)
  else
    let content := fileContent t p
    let ctx := ctx.map fun (f, c) => let d := env.H f content; (f, c.add env.H env.D f ch.1 d d)
    (st, ctx)

def dhKids (env : Env) (t : Node) (rootHist : Hist) (fmts : List String) (o : DhOpts) (st : DhState) (v : Visit) :
    DhState × List (String × DirCtx) :=
  v.children.foldl (dhChildStep env t rootHist fmts o v.folder) (st, ctxInit fmts)

/-- `dhVisit` through its per-child step: the children are folded into the state and the contexts; the hashes of the
folder are read off the contexts and noted in `dirHashes`, and printed with `-co`.  Every other statement about a
visit of `verify -dh` goes through this one. -/
theorem dhVisit_eq (o : DhOpts) (st : DhState) (v : Visit) :
    dhVisit env t rootHist fmts o st v =
      let r := dhKids env t rootHist fmts o st v
      let st' : DhState := { r.1 with dirHashes := r.1.dirHashes ++ [(v.folder, ctxHashes env r.2)] }
      let out := (ctxHashes env r.2).map fun x => posix v.folder ++ " " ++ x.1 ++ " " ++ x.2.1 ++ " " ++ x.2.2
      if o.calculateOnly && !(o.rootOnly && !v.folder.isEmpty) then { st' with lines := st'.lines ++ out } else st' := by
  unfold dhVisit
  rfl

theorem dhChildStep_congr (o : DhOpts) (folder : RelPath) (acc : DhState × List (String × DirCtx))
    (ch : String × Bool) (t₁ t₂ : Node)
    (h : ch.2 = false → fileContent t₁ (folder ++ [ch.1]) = fileContent t₂ (folder ++ [ch.1])) :
    dhChildStep env t₁ rootHist fmts o folder acc ch = dhChildStep env t₂ rootHist fmts o folder acc ch := by
  obtain ⟨nm, b⟩ := ch
  cases b
  · simp only [dhChildStep, h rfl]
  · rfl

theorem dhVisit_congr (t₁ t₂ : Node) (o : DhOpts) (st : DhState) (v : Visit)
    (h : ∀ c ∈ v.children, c.2 = false → fileContent t₁ (v.folder ++ [c.1]) = fileContent t₂ (v.folder ++ [c.1])) :
    dhVisit env t₁ rootHist fmts o st v = dhVisit env t₂ rootHist fmts o st v := by
  rw [dhVisit_eq, dhVisit_eq, dhKids, dhKids,
    foldl_congr_mem v.children fun a c hc => dhChildStep_congr env rootHist fmts o v.folder a c t₁ t₂ (h c hc)]

/-! ## what a child does to (`dirHashes`, contexts), in both commands -/

/-- what a child of the visited folder does to (`dirHashes`, contexts), in `create` and in `verify -dh` alike: a file
adds its digests to every context; a sub-folder adds the hashes its own visit left in `dirHashes`, which are taken
out -/
def dhDirStep (env : Env) (t : Node) (folder : RelPath)
    (acc : DirHashes × List (String × DirCtx)) (ch : String × Bool) : DirHashes × List (String × DirCtx) :=
  let p := folder ++ [ch.1]
  if ch.2 then
    let sub := (alookup p acc.1).getD []
    (acc.1.filter fun x => x.1 != p,
     acc.2.map fun (f, c) =>
        match sub.find? (fun x => x.1 == f) with
        | some (_, ch', sh) => (f, c.add env.H env.D f ch.1 ch' sh)
        | none => (f, c))
  else
    (acc.1, acc.2.map fun (f, c) =>
      (f, c.add env.H env.D f ch.1 (env.H f (fileContent t p)) (env.H f (fileContent t p))))

theorem dhDirStep_keys (folder : RelPath) (acc : DirHashes × List (String × DirCtx)) (ch : String × Bool) :
    (dhDirStep env t folder acc ch).2.map Prod.fst = acc.2.map Prod.fst := by
  unfold dhDirStep
  split
  · simp only [List.map_map]
    apply List.map_congr_left
    intro x _
    simp only [Function.comp]
    split <;> rfl
  · simp only [List.map_map]
    rfl

/-- on (`dirHashes`, contexts) the per-child step of `createVisit` is `dhDirStep`, when the contexts are those of
requested formats: the digests it reads off the result list of `sealFile` are those of the file's content -/
theorem childStep_dh (folder : RelPath) (acc : CreateState × List (String × DirCtx)) (ch : String × Bool)
    (hk : ∀ k ∈ acc.2.map Prod.fst, k ∈ fmts) :
    ((childStep env t rootHist fmts false folder acc ch).1.dirHashes,
        (childStep env t rootHist fmts false folder acc ch).2) =
      dhDirStep env t folder (acc.1.dirHashes, acc.2) ch := by
  obtain ⟨st, ctx⟩ := acc
  obtain ⟨nm, b⟩ := ch
  cases b
  · simp only [childStep, dhDirStep, Bool.false_eq_true, if_false, Prod.mk.injEq, true_and]
    apply List.map_congr_left
    intro x hx
    obtain ⟨ok, hfind⟩ := sealEntries_res_find (route rootHist (folder ++ [nm])).1.gens
      (posix (route rootHist (folder ++ [nm])).2) (fun f => env.H f (fileContent t (folder ++ [nm]))) fmts x.1
      (hk x.1 (List.mem_map_of_mem hx))
    rw [sealFile_snd, hfind]
  · simp only [childStep, dhDirStep, if_true, Bool.false_eq_true, if_false]

/-! ## one visit against the specification: the entries of the sub-folders are consumed, the contexts filled -/

/-- the `dirHashes` entry of the node `c` found at `p` -/
def specEntry (hit : RelPath → Bool) (K : List String) (p : RelPath) (c : Node) :
    RelPath × List (String × String × String) :=
  (p, K.map fun f => (f, (nodeHashes env.H env.D f hit p c).1, (nodeHashes env.H env.D f hit p c).2))

/-- what the child `c` of the folder at `here` adds to the context of format `f` -/
def addKid (hit : RelPath → Bool) (here : RelPath) (f : String) (cx : DirCtx) (c : Node) : DirCtx :=
  cx.add env.H env.D f c.name (nodeHashes env.H env.D f hit (here ++ [c.name]) c).1
    (nodeHashes env.H env.D f hit (here ++ [c.name]) c).2

/-- the spec entries of the directories among `L` (what their visits left in `dirHashes`) -/
def specEntries (env : Env) (hit : RelPath → Bool) (K : List String) (here : RelPath) (L : List Node) : DirHashes :=
  (L.filter (·.isDir)).map fun c => specEntry env hit K (here ++ [c.name]) c

theorem alookup_specEntries (env : Env) (hit : RelPath → Bool) (K : List String) (here : RelPath) (base : DirHashes)
    (c : Node) (L : List Node) (hd : c.isDir = true) (hb0 : ∀ x ∈ base, x.1 ≠ here ++ [c.name]) :
    alookup (here ++ [c.name]) (base ++ specEntries env hit K here (c :: L)) =
      some (specEntry env hit K (here ++ [c.name]) c).2 := by
  rw [alookup_append_of_not_mem _ _ _ hb0]
  simp only [specEntries, List.filter_cons, hd, if_true, List.map_cons]
  exact alookup_cons_self _ _ _

theorem filter_specEntries (env : Env) (hit : RelPath → Bool) (K : List String) (here : RelPath) (base : DirHashes)
    (c : Node) (L : List Node) (hd : c.isDir = true) (hb0 : ∀ x ∈ base, x.1 ≠ here ++ [c.name])
    (hne : ∀ c' ∈ L, c.name ≠ c'.name) :
    (base ++ specEntries env hit K here (c :: L)).filter (fun x => x.1 != here ++ [c.name]) =
      base ++ specEntries env hit K here L := by
  have hc : ((specEntry env hit K (here ++ [c.name]) c).1 != here ++ [c.name]) = false := by simp [specEntry]
  rw [List.filter_append, filter_ne_of_not_mem _ _ hb0]
  simp only [specEntries, List.filter_cons, hd, if_true, List.map_cons, hc, Bool.false_eq_true, if_false]
  rw [filter_ne_of_not_mem]
  intro x hx
  obtain ⟨c', hc', rfl⟩ := List.mem_map.1 hx
  simpa [specEntry] using Ne.symm (hne c' (List.mem_filter.1 hc').1)

theorem dhDirStep_node (env : Env) (t : Node) (hit : RelPath → Bool) (here : RelPath) (K : List String)
    (base : DirHashes) (c : Node) (L : List Node) (C : String → DirCtx)
    (hfile : ∀ nm b, c = Node.file nm b → fileContent t (here ++ [nm]) = b)
    (hb0 : ∀ x ∈ base, x.1 ≠ here ++ [c.name]) (hne : ∀ c' ∈ L, c.name ≠ c'.name) :
    dhDirStep env t here (base ++ specEntries env hit K here (c :: L), K.map fun f => (f, C f)) (c.name, c.isDir) =
      (base ++ specEntries env hit K here L, K.map fun f => (f, addKid env hit here f (C f) c)) := by
  cases c with
  | file nm b =>
    simp only [dhDirStep, Node.name_file, Node.isDir_file, Bool.false_eq_true, if_false, List.map_map,
      hfile nm b rfl, specEntries, List.filter_cons, addKid, nodeHashes_file]
    rfl
  | dir nm cs h =>
    -- the look-up finds the spec entry of the sub-folder, the filter then drops it (and nothing else)
    have hlook := alookup_specEntries env hit K here base (.dir nm cs h) L rfl hb0
    have hfilt := filter_specEntries env hit K here base (.dir nm cs h) L rfl hb0 hne
    simp only [Node.name_dir, Node.isDir_dir] at hlook hfilt ⊢
    simp only [dhDirStep, if_true, hlook, Option.getD_some, hfilt, List.map_map, Prod.mk.injEq, true_and]
    apply List.map_congr_left
    intro f hf
    simp only [Function.comp, specEntry, find?_keyed K _ f hf, addKid, Node.name_dir]

theorem foldl_dhDirStep (env : Env) (t : Node) (hit : RelPath → Bool)
    (here : RelPath) (K : List String) (base : DirHashes)
    (L : List Node) (C : String → DirCtx)
    (hfile : ∀ nm b, Node.file nm b ∈ L → fileContent t (here ++ [nm]) = b)
    (hpw : L.Pairwise fun a b => a.name ≠ b.name)
    (hbase : ∀ c ∈ L, ∀ x ∈ base, x.1 ≠ here ++ [c.name]) :
    (L.map fun c => (c.name, c.isDir)).foldl (dhDirStep env t here)
        (base ++ specEntries env hit K here L, K.map fun f => (f, C f)) =
      (base, K.map fun f => (f, L.foldl (addKid env hit here f) (C f))) := by
  induction L generalizing C with
  | nil => simp [specEntries]
  | cons c L ih =>
    rw [List.pairwise_cons] at hpw
    rw [List.map_cons, List.foldl_cons,
      dhDirStep_node env t hit here K base c L C (fun nm b hc => hfile nm b (hc ▸ List.mem_cons_self ..))
        (hbase c (List.mem_cons_self ..)) hpw.1,
      ih _ (fun nm b h => hfile nm b (List.mem_cons_of_mem _ h)) hpw.2
        (fun c' h => hbase c' (List.mem_cons_of_mem _ h))]
    rfl

/-! ## the traversal of a directory through its sorted visible child nodes -/

/-- the visible children of the directory at `here`, sorted by name (as nodes) -/
def visNodes (hit : RelPath → Bool) (here : RelPath) (cs : List Node) : List Node :=
  (isort (fun a b => strLe a.name b.name) cs).filter fun c => !hit (here ++ [c.name])

theorem visKids_eq_map (hit : RelPath → Bool) (here : RelPath) (cs : List Node) :
    visKids hit here cs = (visNodes hit here cs).map (kidOf hit here) := by
  unfold visKids visNodes
  rw [isort_map (fun a b : Node => strLe a.name b.name) (fun a b : Kid => strLe a.name b.name) (kidOf hit here)
    (fun _ _ => rfl) cs, List.filter_map]
  rfl

theorem traverse_dir_nodes (hit : RelPath → Bool) (here : RelPath) (n : String) (cs : List Node)
    (h : Option HistStore) :
    traverse hit here (.dir n cs h) =
      (visNodes hit here cs).flatMap (fun c => traverse hit (here ++ [c.name]) c) ++
        [⟨here, (visNodes hit here cs).map fun c => (c.name, c.isDir)⟩] := by
  rw [traverse_dir, visKids_eq_map, List.flatMap_map, List.map_map]
  rfl

theorem mem_visNodes (hit : RelPath → Bool) (here : RelPath) (cs : List Node) (c : Node) :
    c ∈ visNodes hit here cs ↔ c ∈ cs ∧ hit (here ++ [c.name]) = false := by
  simp [visNodes, mem_isort]

theorem visNodes_perm (hit : RelPath → Bool) (here : RelPath) (cs : List Node) :
    (visNodes hit here cs).Perm (cs.filter fun c => !hit (here ++ [c.name])) :=
  (isort_perm _ cs).filter _

theorem visNodes_pairwise (hit : RelPath → Bool) (here : RelPath) (cs : List Node)
    (hnd : (cs.map Node.name).Nodup) : (visNodes hit here cs).Pairwise (fun a b => a.name ≠ b.name) := by
  unfold visNodes
  apply List.Pairwise.filter
  rw [pairwise_isort (fun h => Ne.symm h)]
  rw [List.Nodup, List.pairwise_map] at hnd
  exact hnd

/-! ## the filled contexts give the specified hashes -/

theorem foldl_addKid (hit : RelPath → Bool) (here : RelPath) (f : String) (L : List Node) (cx : DirCtx) :
    L.foldl (addKid env hit here f) cx =
      { content := cx.content ++ L.map fun c => (kidOf_d env.H env.D f hit here c).content,
        structure_ := cx.structure_ ++ L.map fun c => bindName env.H env.D f (kidOf_d env.H env.D f hit here c) } := by
  induction L generalizing cx with
  | nil => simp
  | cons c L ih => simp [List.foldl_cons, ih, addKid, DirCtx.add, kidOf_d, bindName]

theorem ctxHashes_spec (hit : RelPath → Bool) (here : RelPath) (K : List String) (n : String)
    (cs : List Node) (h : Option HistStore) :
    ctxHashes env (K.map fun f => (f, (visNodes hit here cs).foldl (addKid env hit here f) {})) =
      (specEntry env hit K here (.dir n cs h)).2 := by
  simp only [ctxHashes, specEntry, List.map_map]
  apply List.map_congr_left
  intro f _
  simp only [Function.comp, foldl_addKid, nodeHashes_dir, List.nil_append]
  -- the contexts list the visible children in sorted order, the specification in listing order
  have hp : ((visNodes hit here cs).map (kidOf_d env.H env.D f hit here)).Perm
      (visKids_d env.H env.D f hit here cs) := by
    unfold visKids_d
    rw [List.filter_map]
    exact (visNodes_perm hit here cs).map _
  rw [← hashOfList_perm env.H env.D f (hp.map (·.content)),
    ← hashOfList_perm env.H env.D f (hp.map (bindName env.H env.D f))]
  simp only [List.map_map]
  rfl

/-! ## folds that carry directory hashes -/

/-- a fold over visits carries directory hashes (`dh` of its state): a visit is, on them, the fold of `dhDirStep` over
the children from the empty contexts, followed by appending the hashes of the filled contexts for the folder -/
def CarriesDh {σ : Type} (env : Env) (t : Node) (fmts : List String) (f : σ → Visit → σ) (dh : σ → DirHashes) : Prop :=
  ∀ st v, dh (f st v) =
    (v.children.foldl (dhDirStep env t v.folder) (dh st, ctxInit fmts)).1 ++
      [(v.folder, ctxHashes env (v.children.foldl (dhDirStep env t v.folder) (dh st, ctxInit fmts)).2)]

section rules
variable {σ : Type} {env t fmts} {f : σ → Visit → σ} {dh : σ → DirHashes}

/-- How a fold over visits is shown to carry directory hashes: on `dh`, a visit folds `step` over the children from the
empty contexts and appends the hashes of the filled contexts for the folder; and on (`dh`, contexts) `step` is
`dhDirStep`, at least while the contexts are those of requested formats (`dhDirStep` keeps the keys) -/
theorem CarriesDh.of_step
    (step : RelPath → σ × List (String × DirCtx) → String × Bool → σ × List (String × DirCtx))
    (hvisit : ∀ st v, dh (f st v) =
      dh (v.children.foldl (step v.folder) (st, ctxInit fmts)).1 ++
        [(v.folder, ctxHashes env (v.children.foldl (step v.folder) (st, ctxInit fmts)).2)])
    (hstep : ∀ folder acc ch, (∀ k ∈ acc.2.map Prod.fst, k ∈ fmts) →
      (dh (step folder acc ch).1, (step folder acc ch).2) = dhDirStep env t folder (dh acc.1, acc.2) ch) :
    CarriesDh env t fmts f dh := by
  have hfold : ∀ folder (L : List (String × Bool)) (acc : σ × List (String × DirCtx)),
      (∀ k ∈ acc.2.map Prod.fst, k ∈ fmts) →
      (dh (L.foldl (step folder) acc).1, (L.foldl (step folder) acc).2) =
        L.foldl (dhDirStep env t folder) (dh acc.1, acc.2) := by
    intro folder L
    induction L with
    | nil => intro _ _; rfl
    | cons ch L ih =>
      intro acc hk
      have h1 := hstep folder acc ch hk
      rw [List.foldl_cons, List.foldl_cons, ← h1]
      have h2 : (step folder acc ch).2 = (dhDirStep env t folder (dh acc.1, acc.2) ch).2 := congrArg Prod.snd h1
      refine ih _ fun k hk' => hk k ?_
      rwa [h2, dhDirStep_keys] at hk'
  intro st v
  have h : (dh (v.children.foldl (step v.folder) (st, ctxInit fmts)).1,
      (v.children.foldl (step v.folder) (st, ctxInit fmts)).2) =
        v.children.foldl (dhDirStep env t v.folder) (dh st, ctxInit fmts) :=
    hfold v.folder v.children (st, ctxInit fmts) fun k hk => (mem_ctxKeys fmts k).1 (ctxInit_keys fmts ▸ hk)
  rw [hvisit, ← h]

/-- What one visit does in any fold that carries directory hashes: the visit of the folder `.dir n cs h`, started with
the spec entries of its visible sub-folders pending after `base`, consumes them into the contexts and appends the
spec entry of the folder -/
theorem CarriesDh.visit (hf : CarriesDh env t fmts f dh) {hit : RelPath → Bool} {st : σ} {v : Visit}
    {n : String} {cs : List Node} {h : Option HistStore} {base : DirHashes}
    (hat : t.at? v.folder = some (.dir n cs h)) (hnd : (cs.map Node.name).Nodup)
    (hch : v.children = (visNodes hit v.folder cs).map fun c => (c.name, c.isDir))
    (hdhs : dh st = base ++ specEntries env hit (ctxKeys fmts) v.folder (visNodes hit v.folder cs))
    (hbase : ∀ c ∈ visNodes hit v.folder cs, ∀ x ∈ base, x.1 ≠ v.folder ++ [c.name]) :
    dh (f st v) = base ++ [specEntry env hit (ctxKeys fmts) v.folder (.dir n cs h)] := by
  have hfold : v.children.foldl (dhDirStep env t v.folder) (dh st, ctxInit fmts) =
      (base, (ctxKeys fmts).map fun f =>
        (f, (visNodes hit v.folder cs).foldl (addKid env hit v.folder f) {})) := by
    rw [hch, hdhs, ctxInit_eq]
    exact foldl_dhDirStep env t hit v.folder (ctxKeys fmts) base (visNodes hit v.folder cs) (fun _ => {})
      (fun nm b hm => fileContent_child hat hnd ((mem_visNodes hit v.folder cs _).1 hm).1)
      (visNodes_pairwise hit v.folder cs hnd) hbase
  rw [hf]
  simp only [hfold]
  rw [ctxHashes_spec env hit v.folder (ctxKeys fmts) n cs h]
  rfl

/-- what a visit finds: it is the visit of a directory `.dir n cs h` of the tree and lists its visible children, and
the directory hashes `dhs` it starts from end with the spec entries of the sub-folders among them (each once, no
other entry with such a key) -/
def VisitReady (env : Env) (t : Node) (hit : RelPath → Bool) (K : List String) (dhs : DirHashes) (v : Visit) : Prop :=
  ∃ n cs h base, t.at? v.folder = some (.dir n cs h) ∧ (cs.map Node.name).Nodup ∧
    v.children = (visNodes hit v.folder cs).map (fun c => (c.name, c.isDir)) ∧
    dhs = base ++ specEntries env hit K v.folder (visNodes hit v.folder cs) ∧
    ∀ c ∈ visNodes hit v.folder cs, ∀ x ∈ base, x.1 ≠ v.folder ++ [c.name]

theorem VisitReady.visit (hf : CarriesDh env t fmts f dh) {hit : RelPath → Bool} {st : σ} {v : Visit}
    (hr : VisitReady env t hit (ctxKeys fmts) (dh st) v) :
    ∃ d base, t.at? v.folder = some d ∧ dh (f st v) = base ++ [specEntry env hit (ctxKeys fmts) v.folder d] := by
  obtain ⟨n, cs, h, base, hat, hnd, hch, hdhs, hbase⟩ := hr
  exact ⟨_, base, hat, hf.visit hat hnd hch hdhs hbase⟩

end rules

theorem createVisit_dirHashes (st : CreateState) (v : Visit) :
    (createVisit env t rootHist fmts false st v).dirHashes =
      (v.children.foldl (childStep env t rootHist fmts false v.folder) (st, ctxInit fmts)).1.dirHashes ++
        [(v.folder, ctxHashes env
          (v.children.foldl (childStep env t rootHist fmts false v.folder) (st, ctxInit fmts)).2)] := by
  rw [createVisit_eq]
  rfl

theorem createVisit_carriesDh :
    CarriesDh env t fmts (createVisit env t rootHist fmts false) CreateState.dirHashes :=
  .of_step (childStep env t rootHist fmts false) (createVisit_dirHashes env t rootHist fmts)
    (childStep_dh env t rootHist fmts)

/-! ## the fold over the visits of the children, and of a whole directory -/

/-- a property of every visit of a list and the state it starts from -/
def EachVisit {σ : Type} (f : σ → Visit → σ) (P : σ → Visit → Prop) : List Visit → σ → Prop
  | [], _ => True
  | v :: vs, st => P st v ∧ EachVisit f P vs (f st v)

theorem eachVisit_append {σ : Type} (f : σ → Visit → σ) (P : σ → Visit → Prop) (a b : List Visit) (st : σ) :
    EachVisit f P (a ++ b) st ↔ EachVisit f P a st ∧ EachVisit f P b (a.foldl f st) := by
  induction a generalizing st with
  | nil => simp [EachVisit]
  | cons v a ih => simp only [List.cons_append, EachVisit, ih, List.foldl_cons, and_assoc]

theorem EachVisit.imp {σ : Type} {f : σ → Visit → σ} {P Q : σ → Visit → Prop} (h : ∀ st v, P st v → Q st v)
    {vs : List Visit} {st : σ} (hP : EachVisit f P vs st) : EachVisit f Q vs st := by
  induction vs generalizing st with
  | nil => trivial
  | cons v vs ih => exact ⟨h _ _ hP.1, ih hP.2⟩

theorem prefix_singleton_ne {here : RelPath} {a b : String} (hab : a ≠ b) :
    ¬ (here ++ [a]) <+: (here ++ [b]) := by
  intro hp
  have := hp.eq_of_length (by simp)
  exact hab (by simpa using this)

/-- The fold over the traversals of the children `L` of a folder appends the spec entries of the folders among `L`, in
order, given that the traversal of each child appends its own entry.  The key of a sibling is not a prefix of the key
of another, so the condition on the starting state carries over from child to child. -/
theorem foldl_kids {σ : Type} (f : σ → Visit → σ) (dh : σ → DirHashes) (P : σ → Visit → Prop)
    (env : Env) (hit : RelPath → Bool) (here : RelPath) (K : List String) (L : List Node)
    (ih : ∀ c ∈ L, c.isDir = true → ∀ st, (∀ x ∈ dh st, ¬ (here ++ [c.name]) <+: x.1) →
      dh ((traverse hit (here ++ [c.name]) c).foldl f st) = dh st ++ [specEntry env hit K (here ++ [c.name]) c] ∧
      EachVisit f P (traverse hit (here ++ [c.name]) c) st)
    (hpw : L.Pairwise fun a b => a.name ≠ b.name) (st : σ)
    (hst : ∀ c ∈ L, ∀ x ∈ dh st, ¬ (here ++ [c.name]) <+: x.1) :
    dh ((L.flatMap fun c => traverse hit (here ++ [c.name]) c).foldl f st) =
        dh st ++ specEntries env hit K here L ∧
      EachVisit f P (L.flatMap fun c => traverse hit (here ++ [c.name]) c) st := by
  unfold specEntries
  induction L generalizing st with
  | nil => exact ⟨by simp, trivial⟩
  | cons c L ihL =>
    rw [List.pairwise_cons] at hpw
    rw [List.flatMap_cons, List.foldl_append]
    have ih' := fun c' hc' => ih c' (List.mem_cons_of_mem _ hc')
    have hst' := fun c' hc' => hst c' (List.mem_cons_of_mem _ hc')
    cases hd : c.isDir with
    | false =>
      have : traverse hit (here ++ [c.name]) c = [] := by
        cases c with
        | file n b => rw [traverse]
        | dir n cs h => simp [Node.isDir] at hd
      rw [this, List.foldl_nil, List.filter_cons, hd, List.nil_append]
      exact ihL ih' hpw.2 st hst'
    | true =>
      obtain ⟨h1, hT⟩ := ih c (List.mem_cons_self ..) hd st (hst c (List.mem_cons_self ..))
      -- the entry of `c` just appended is not at or below a later sibling
      obtain ⟨h2, hT'⟩ := ihL ih' hpw.2 ((traverse hit (here ++ [c.name]) c).foldl f st) (by
        intro c' hc' x hx
        rw [h1, List.mem_append, List.mem_singleton] at hx
        rcases hx with hx | rfl
        · exact hst' c' hc' x hx
        · exact prefix_singleton_ne (Ne.symm (hpw.1 c' hc')))
      refine ⟨?_, (eachVisit_append f P _ _ st).2 ⟨hT, hT'⟩⟩
      rw [h2, h1, List.filter_cons, hd, if_pos rfl, List.map_cons, List.append_assoc]
      rfl

/-- The refinement, for any fold over visits that carries directory hashes (`createVisit`, `dhVisit`).  The fold over the
traversal of the directory `d` found at `here` below the root, started from ANY state without a key at or below
`here`, appends exactly one entry to the directory hashes: `here` with, for each format key, the content and structure
hash the compositional definition `nodeHashes` assigns to `d`; and EVERY visit on the way is `VisitReady`. -/
theorem foldl_visits_spec {σ : Type} (f : σ → Visit → σ) (dh : σ → DirHashes) (hf : CarriesDh env t fmts f dh)
    (hit : RelPath → Bool) (d : Node) :
    d.isDir = true → ∀ (here : RelPath) (st : σ), t.at? here = some d → d.NamesDistinct →
      (∀ x ∈ dh st, ¬ here <+: x.1) →
      dh ((traverse hit here d).foldl f st) = dh st ++ [specEntry env hit (ctxKeys fmts) here d] ∧
      EachVisit f (fun st v => VisitReady env t hit (ctxKeys fmts) (dh st) v) (traverse hit here d) st := by
  induction d using Node.induct with
  | file n c => intro h; simp [Node.isDir] at h
  | dir n cs h ih =>
    intro _ here st hat hnd hst
    rw [Node.namesDistinct_dir] at hnd
    have hVN := mem_visNodes hit here cs
    have hbelow : ∀ c : Node, ∀ x ∈ dh st, ¬ (here ++ [c.name]) <+: x.1 :=
      fun c x hx hp => hst x hx ((List.prefix_append _ _).trans hp)
    have hbase : ∀ c ∈ visNodes hit here cs, ∀ x ∈ dh st, x.1 ≠ here ++ [c.name] :=
      fun c _ x hx he => hbelow c x hx (he ▸ List.prefix_refl _)
    obtain ⟨hkidsD, hkidsT⟩ := foldl_kids f dh (fun st v => VisitReady env t hit (ctxKeys fmts) (dh st) v)
      env hit here (ctxKeys fmts) (visNodes hit here cs)
      (fun c hc hdir st' hst' => ih c ((hVN c).1 hc).1 hdir (here ++ [c.name]) st'
        (Node.at?_child hat hnd.1 ((hVN c).1 hc).1) (hnd.2 c ((hVN c).1 hc).1) hst')
      (visNodes_pairwise hit here cs hnd.1) st (fun c _ => hbelow c)
    -- the visit of the directory itself is ready, and appends the entry of the directory
    rw [traverse_dir_nodes, List.foldl_append, List.foldl_cons, List.foldl_nil]
    exact ⟨hf.visit (v := ⟨here, (visNodes hit here cs).map fun c => (c.name, c.isDir)⟩) hat hnd.1 rfl hkidsD hbase,
      (eachVisit_append f _ _ _ st).2 ⟨hkidsT, ⟨n, cs, h, dh st, hat, hnd.1, rfl, hkidsD, hbase⟩, trivial⟩⟩

theorem foldl_createVisit_dirHashes (hit : RelPath → Bool) (d : Node) (hd : d.isDir = true) (here : RelPath)
    (st : CreateState) (hat : t.at? here = some d) (hnd : d.NamesDistinct)
    (hst : ∀ x ∈ st.dirHashes, ¬ here <+: x.1) :
    ((traverse hit here d).foldl (createVisit env t rootHist fmts false) st).dirHashes =
      st.dirHashes ++ [specEntry env hit (ctxKeys fmts) here d] :=
  (foldl_visits_spec env t fmts _ _ (createVisit_carriesDh env t rootHist fmts) hit d hd here st hat hnd hst).1

/-! ## what a visit records in the session; the root record of the root history -/

/-- the entries `appendDirHashes` writes for a list of (format, content hash, structure hash); the same list as
`dirEnts` (CreateLemmas), under the name the statement of `C07impl.create_root_record` uses -/
def dirEntries (hashes : List (String × String × String)) : List Entry :=
  hashes.map fun (f, c, st) => { fmt := f, digest := c, shash := some st }

theorem appendDirHashes_root_record (rootHist : Hist) (s : Session) (hashes : List (String × String × String)) :
    ∃ r, ((appendDirHashes rootHist s [] hashes).get rootHist.root).rootRec = some r ∧ r.isDir = true ∧
      ∃ pre, r.entries = pre ++ dirEntries hashes := by
  -- whatever the session was, the record "." written to the list of the root history is as claimed
  have hrec : ∀ s : Session, ∃ r, (((s.touch rootHist.root).get rootHist.root).update "." none fun r =>
      { r with isDir := true, entries := r.entries ++ dirEntries hashes }).rootRec = some r ∧ r.isDir = true ∧
        ∃ pre, r.entries = pre ++ dirEntries hashes :=
    fun s => ⟨_, NewList.update_dot_rootRec _ _ _, rfl, _, rfl⟩
  unfold appendDirHashes
  rw [route_nil]
  simp only [List.isEmpty_nil, if_true, show posix [] = "." from rfl]
  cases parentRoot rootHist rootHist.root with
  | none =>
    simp only
    rw [Session.get_record]
    exact hrec s
  | some pr =>
    simp only
    -- the copy one level above goes to another list, or (if the root were its own parent) is the same write again
    by_cases hpr : pr = rootHist.root
    · subst hpr
      rw [show posix (([] : RelPath).drop rootHist.root.length) = "." by simp [posix], Session.get_record]
      exact hrec _
    · rw [Session.get_record_ne _ hpr, Session.get_record]
      exact hrec s

/-- the last thing `createVisit` does to the session is to record, for the visited folder, exactly the hashes it
appends to `dirHashes` -/
theorem createVisit_session (st : CreateState) (v : Visit) {pre : DirHashes} {hs : List (String × String × String)}
    (h : (createVisit env t rootHist fmts false st v).dirHashes = pre ++ [(v.folder, hs)]) :
    ∃ s', (createVisit env t rootHist fmts false st v).session = appendDirHashes rootHist s' v.folder hs := by
  rw [createVisit_dirHashes] at h
  have := List.append_inj_right' h rfl
  rw [List.cons.injEq, Prod.mk.injEq] at this
  exact ⟨_, by rw [createVisit_eq, ← this.1.2]; rfl⟩

end MhlModel
