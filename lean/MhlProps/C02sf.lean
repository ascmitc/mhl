/-
C02sf — the `-sf` half of C02: with `create -sf` the new generation(s) hold records for exactly the named files (or all
files beneath a named folder) and for nothing else; every file record carries the file's path relative to its history
root and a correct digest in every requested format.

About `MhlModel.createSingleFiles` (commands.py `create_for_single_files_subcommand`), `filesBelow`, `sealFile`,
`commit`.  Nested histories are allowed, to any depth.

Setting: `loadHistory t = .ok rootHist`, `t.NamesDistinct`, `t.NamesOk`, `o.formats ≠ []`, `o.singleFiles ≠ []` (only
needed to read `create` as `createSingleFiles`), and for 3–5 the commit went through:
`commit rootHist (sfSession env t rootHist o) env.rootName env.stamp "in-place" = .ok ws`.

`targets env t rootHist o` is the list the model folds `sealFile` over, `sfSession` the session it commits (both
defined in MhlProps/Proofs/SingleFileLemmas.lean, beside `createSingleFiles_eq`, which says so).
`owner rootHist p` / `relIn rootHist p` (C08part): the root folder of the deepest history whose root is a prefix of
`p`, and `p` relative to it.

Section 1 (`sf_targets_spec`) and the record-kind half of section 5 (`sf_no_dir_records`) hold in this setting.
Sections 2, 3, 4 and the root-hash half of 5 are FALSE of the model in this setting alone; they hold under one further
hypothesis on the named paths, `SfOk t o.singleFiles` (MhlProps/Proofs/SingleFileLemmas.lean):
  (a) a named path that does NOT resolve in the tree consists of names that can be path components (no '/', not ".")
      — `t.NamesOk` says this only for names that are in the tree; the model seals a named path that is not on disk
      as a file with EMPTY content, under whatever text `posix` makes of it;
  (b) the root path `[]` is only named when the root is a folder — the model admits a tree that is a single file; then
      `-sf []` seals the root itself under the path ".", i.e. as the ROOT record of the list, and `commit` writes its
      entries as `<roothash>`.
Both are necessary: `sf_root_hash_false_without_wf` (b), `sf_root_hash_false_bad_name`,
`sf_exact_false_bad_names` (a) are evaluated counterexamples.  The theorems C02 is claimed by that need `SfOk` carry the
suffix `_partial` (`sf_facts`, `sf_roots_iff`, `sf_written_sound`, `sf_written_no_root_hash`, which they rest on, need it
too).  `o.formats ≠ []` is needed for the existence halves only (last example); `sf_written_sound` and
`sf_written_no_root_hash` are stated without it.  `SfOk.of_names` derives it from "every named path is made of well-formed names and the root is a folder".

Sections: 1 the targets (`sf_targets_spec`; a named path that is not in the tree IS a target and is sealed with empty
content), 2 the session after the fold, 3 the same through `commit`, with which histories are written
(`sf_written_exact_partial`), 4 the entries of the written record of a target (`sf_digests_correct_partial`), 5 no
directory records, no root hash.
-/
import MhlProps.C08part
import MhlProps.Proofs.SingleFileLemmas
import MhlProps.Proofs.WrittenEntriesLemmas

namespace MhlProps.C02sf
open MhlModel MhlProps.C02rec MhlProps.C08part

/-! ### 0. the list `createSingleFiles` folds over, and the session it commits -/

/-- `targets` is literally the first fold of `createSingleFiles` -/
theorem targets_eq (env : Env) (t : Node) (rootHist : Hist) (o : CreateOpts) :
    targets env t rootHist o =
      o.singleFiles.foldl (fun acc p =>
        match t.at? p with
        | some (.dir _ _ _) =>
          (filesBelow (env.hit (setPatterns (latestIgnore rootHist.gens) o.ignoreCli o.ignoreFile)) t p).foldl
            appendNew acc
        | _ => appendNew acc p) [] := rfl

/-- `sfSession` is literally `sealFile` folded over the targets -/
theorem sfSession_eq (env : Env) (t : Node) (rootHist : Hist) (o : CreateOpts) :
    sfSession env t rootHist o =
      (targets env t rootHist o).foldl
        (fun s p => (sealFile env.H rootHist s p (fileContent t p) (isort strLe o.formats)).1)
        ({ patterns := setPatterns (latestIgnore rootHist.gens) o.ignoreCli o.ignoreFile } : Session) := rfl

theorem sf_written (env : Env) (t : Node) (o : CreateOpts) (rootHist : Hist) (hl : loadHistory t = .ok rootHist)
    (ws : List Written)
    (hcm : commit rootHist (sfSession env t rootHist o) env.rootName env.stamp "in-place" = .ok ws) :
    (createSingleFiles env t o).written = ws ∧ (o.singleFiles ≠ [] → (create env t o).written = ws) := by
  have h1 : (createSingleFiles env t o).written = ws := by
    rcases createSingleFiles_cases env t o rootHist hl with ⟨e, he, -⟩ | h
    · exact nomatch he.symm.trans hcm
    · exact Except.ok.inj (h.symm.trans hcm)
  exact ⟨h1, fun hne => by rw [create_eq_createSingleFiles env t o hne, h1]⟩

theorem sf_written_cases (env : Env) (t : Node) (o : CreateOpts) :
    (createSingleFiles env t o).written = [] ∨ ∃ rootHist, loadHistory t = .ok rootHist ∧
      commit rootHist (sfSession env t rootHist o) env.rootName env.stamp "in-place" =
        .ok (createSingleFiles env t o).written := by
  cases hl : loadHistory t with
  | error e => exact Or.inl (by simp [createSingleFiles, hl])
  | ok rootHist =>
    rcases createSingleFiles_cases env t o rootHist hl with ⟨e, -, h⟩ | hcm
    · exact Or.inl (by rw [h])
    · exact Or.inr ⟨rootHist, rfl, hcm⟩

/-! ### 1. the targets -/

/-- `p` is a target iff
* `p` is a named path that is NOT a folder of the tree — a file of the tree, or a path that does not resolve at all —, or
* some named path `d` is a folder of the tree and `p = d ++ q` is a FILE of the tree strictly below `d` none of whose
  prefixes LONGER than `d` is matched by the patterns (matched as root-relative paths; `d` itself and the folders above
  it are not tested: naming an ignored folder seals its visible files). -/
theorem sf_targets_spec (env : Env) (t : Node) (rootHist : Hist) (o : CreateOpts) (hd : t.NamesDistinct)
    (p : RelPath) :
    p ∈ targets env t rootHist o ↔
      (p ∈ o.singleFiles ∧ ∀ n, t.at? p = some n → n.isDir = false) ∨
      ∃ d ∈ o.singleFiles, ∃ n, t.at? d = some n ∧ n.isDir = true ∧ ∃ q, q ≠ [] ∧ p = d ++ q ∧
        (∃ c, t.at? p = some c ∧ c.isDir = false) ∧
        ∀ k, d.length < k → k ≤ p.length → cHit env rootHist o (p.take k) = false := by
  unfold targets
  rw [mem_sfTargets]
  exact or_congr Iff.rfl (exists_congr fun d => and_congr_right fun _ => exists_congr fun n =>
    and_congr_right fun hn => and_congr_right fun _ => mem_visFrom_at _ hd hn p false)

/-- the same with the traversal: the files below a named folder `d` are the files `traverse hit d n` yields for the
node `n` at `d` -/
theorem sf_targets_spec_traverse (env : Env) (t : Node) (rootHist : Hist) (o : CreateOpts) (p : RelPath) :
    p ∈ targets env t rootHist o ↔
      (p ∈ o.singleFiles ∧ ∀ n, t.at? p = some n → n.isDir = false) ∨
      ∃ d ∈ o.singleFiles, ∃ n, t.at? d = some n ∧ n.isDir = true ∧
        ∃ v ∈ traverse (cHit env rootHist o) d n, ∃ c ∈ v.children, c.2 = false ∧ p = v.folder ++ [c.1] := by
  unfold targets
  rw [mem_sfTargets]
  exact or_congr Iff.rfl (exists_congr fun d => and_congr_right fun _ => exists_congr fun n =>
    and_congr_right fun _ => and_congr_right fun _ => mem_visFrom_traverse _ d n p false)

/-- no path is sealed twice -/
theorem targets_nodup (env : Env) (t : Node) (rootHist : Hist) (o : CreateOpts) :
    (targets env t rootHist o).Nodup :=
  sfTargets_nodup _ t o.singleFiles

/-- **what the model does with a named path that does not exist in the tree**: it IS a target, and what `sealFile`
is given as its content is the empty byte string (so, by 2, it gets a file record with size 0 and the digests of the
empty content; the tool itself would fail on `os.path.getsize`) -/
theorem sf_missing_named_path (env : Env) (t : Node) (rootHist : Hist) (o : CreateOpts) (p : RelPath)
    (hp : p ∈ o.singleFiles) (hat : t.at? p = none) :
    p ∈ targets env t rootHist o ∧ fileContent t p = [] := by
  refine ⟨(mem_sfTargets _ t _ p).2 (Or.inl ⟨hp, ?_⟩), ?_⟩
  · intro n hn; rw [hat] at hn; cases hn
  · unfold fileContent; rw [hat]

/-- a named folder contributes nothing but files below it; in particular an empty or entirely ignored folder
contributes nothing -/
theorem sf_named_folder (env : Env) (t : Node) (rootHist : Hist) (o : CreateOpts) (hd : t.NamesDistinct)
    (d : RelPath) (n : Node) (hn : t.at? d = some n) (hnd : n.isDir = true) :
    d ∉ targets env t rootHist o := by
  intro h
  have := (sfTargets_shape _ t hd o.singleFiles d h).1 n hn
  rw [hnd] at this
  cases this

/-! ### the well-formedness of the named paths -/

theorem SfOk.of_names {t : Node} {named : List RelPath} (h1 : ∀ p ∈ named, ∀ n ∈ p, NameOk n)
    (h2 : [] ∈ named → t.isDir = true) : SfOk t named :=
  ⟨fun p hp _ => h1 p hp, h2⟩

/-- when every named path resolves in a tree that is a folder, nothing is to be assumed -/
theorem SfOk.of_on_disk {t : Node} {named : List RelPath} (h1 : ∀ p ∈ named, ∃ n, t.at? p = some n)
    (h2 : t.isDir = true) : SfOk t named := by
  refine ⟨fun p hp hat => ?_, fun _ => h2⟩
  obtain ⟨n, hn⟩ := h1 p hp
  rw [hat] at hn
  cases hn

/-! ### 2. the session after the fold -/

section session
variable (env : Env) (t : Node) (o : CreateOpts) (rootHist : Hist) (hl : loadHistory t = .ok rootHist)
  (hd : t.NamesDistinct) (hn : t.NamesOk) (hf : o.formats ≠ []) (hwf : SfOk t o.singleFiles)
include hl hd hn hf hwf

omit hf in
/-- what the theorems of this section and the next start from: the loaded history is well-formed, the targets (as
visited items, all of them files) are unambiguous, and the session `create -sf` commits satisfies the invariant
`SInv` of folder-mode `create` for them -/
theorem sf_facts :
    HistOK t rootHist ∧ ItemsOk rootHist ((targets env t rootHist o).map fun p => (p, false)) ∧
      SInv env t rootHist (isort strLe o.formats) (fun _ => []) (sfPats rootHist o) (sfSession env t rootHist o)
        ((targets env t rootHist o).map fun p => (p, false)) := by
  have hg := loadHistory_histOK t rootHist hl hd
  obtain ⟨h1, h2⟩ := sfFold_sinv (env := env) (fmts := isort strLe o.formats) (sfPats rootHist o) hg (cHit env rootHist o) hd hn
    o.singleFiles hwf
  exact ⟨hg, h1, h2⟩

theorem sf_roots_iff (R : RelPath) :
    R ∈ (sfSession env t rootHist o).roots ↔ ∃ p ∈ targets env t rootHist o, owner rootHist p = R := by
  obtain ⟨hg, hok, hs⟩ := sf_facts env t o rootHist hl hd hn hwf
  constructor
  · intro hR
    obtain ⟨x, hx, h | h⟩ := hs.roots R hR <;> obtain ⟨p, hp, rfl⟩ := List.mem_map.1 hx
    · exact ⟨p, hp, h.symm⟩
    · exact Bool.noConfusion h.1
  · rintro ⟨p, hp, rfl⟩
    exact (hs.file_done (isort_ne_nil_of_ne_nil strLe hf) (List.mem_map.2 ⟨p, hp, rfl⟩)).1

/-
Why `hwf : SfOk t o.singleFiles` (the statement below is false with `hl hd hn hf` only: `sf_exact_false_bad_names`,
`sf_root_hash_false_without_wf`): `sealFile` files the record of a target `p` under the TEXT
`posix (relIn rootHist p)`.  For a named path that is not on disk nothing in the setting makes that text identify the
path (`["a/b"]` and `["a", "b"]` share a record, which then gets the entries twice; `["."]` and, for a root that is a
file, `[]` have the text "." and are filed as the ROOT record).
-/
/-- Under `SfOk`: after the fold the session keeps the patterns, its lists have pairwise
different roots and each list pairwise different record paths, and
* for every target `p`: the list of `owner rootHist p` is in the session and has a record for `p` under
  `posix (relIn rootHist p)` — a FILE record, no previous path, the length of the content as size (0 for a path that is
  not on disk) and exactly the entries `sealEntries` returns for the content against the generations of THAT history;
* NOTHING ELSE: every record of every list is the record of a target — it sits in the list of the target's owner
  under the target's path relative to the owner (so `l.root ++ splitPath r.path` is the target) and is a file record;
  no list has a root record; every list belongs to the owner of some target. -/
theorem sf_session_exact_partial :
    let s := sfSession env t rootHist o
    s.patterns = setPatterns (latestIgnore rootHist.gens) o.ignoreCli o.ignoreFile ∧
    (s.lists.map (·.root)).Nodup ∧ (∀ l ∈ s.lists, (l.records.map (·.path)).Nodup) ∧
    (∀ p ∈ targets env t rootHist o,
      ∃ l ∈ s.lists, l.root = owner rootHist p ∧ ∃ r ∈ l.records,
        r.path = posix (relIn rootHist p) ∧ r.isDir = false ∧ r.prev = none ∧
        r.size = some (fileContent t p).length ∧
        r.entries = (sealEntries (route rootHist p).1.gens (posix (relIn rootHist p))
          (fun f => env.H f (fileContent t p)) (isort strLe o.formats)).1) ∧
    (∀ l ∈ s.lists, ∀ r ∈ l.records, ∃ p ∈ targets env t rootHist o,
        l.root = owner rootHist p ∧ r.path = posix (relIn rootHist p) ∧ l.root ++ splitPath r.path = p ∧
        r.isDir = false) ∧
    (∀ l ∈ s.lists, l.rootRec = none) ∧
    (∀ l ∈ s.lists, ∃ p ∈ targets env t rootHist o, l.root = owner rootHist p) := by
  intro s
  obtain ⟨hg, hok, hs⟩ := sf_facts env t o rootHist hl hd hn hwf
  have hget : ∀ l ∈ s.lists, s.get l.root = l := fun l hlm => Session.get_of_mem _ hs.core.nodup hlm
  have hsound : ∀ l ∈ s.lists, ∀ r ∈ l.records, ∃ p ∈ targets env t rootHist o,
      l.root = owner rootHist p ∧ r.path = posix (relIn rootHist p) ∧ l.root ++ splitPath r.path = p ∧
      r.isDir = false := by
    intro l hlm r hr
    rw [← hget l hlm] at hr
    exact hs.core.item_of_files hg.root hok hr
  refine ⟨hs.core.pats, hs.core.nodup, fun l hlm => by rw [← hget l hlm]; exact hs.core.paths _, fun p hp => ?_,
    hsound, fun l hlm => ?_, fun l hlm => ?_⟩
  · obtain ⟨hroots, r, hr, hrest⟩ :=
      hs.file_done (isort_ne_nil_of_ne_nil strLe hf) (List.mem_map.2 ⟨p, hp, rfl⟩)
    exact ⟨_, Session.get_mem _ hroots, Session.get_root _ _, r, hr, hrest⟩
  · rw [← hget l hlm]
    exact hs.core.rootRec_files _
  · obtain ⟨p, hp, h⟩ := (sf_roots_iff env t o rootHist hl hd hn hf hwf l.root).1 (List.mem_map_of_mem hlm)
    exact ⟨p, hp, h.symm⟩

/-- a named path that is not on disk has, in the session, a file record of size 0 with the digests of the EMPTY
content -/
theorem sf_missing_sealed_empty_partial (p : RelPath) (hp : p ∈ o.singleFiles) (hat : t.at? p = none) :
    ∃ l ∈ (sfSession env t rootHist o).lists, l.root = owner rootHist p ∧ ∃ r ∈ l.records,
      r.path = posix (relIn rootHist p) ∧ r.isDir = false ∧ r.size = some 0 ∧
      r.entries = (sealEntries (route rootHist p).1.gens (posix (relIn rootHist p))
        (fun f => env.H f []) (isort strLe o.formats)).1 := by
  obtain ⟨hpt, hc⟩ := sf_missing_named_path env t rootHist o p hp hat
  obtain ⟨l, hlm, hlr, r, hr, h1, h2, -, h4, h5⟩ :=
    (sf_session_exact_partial env t o rootHist hl hd hn hf hwf).2.2.2.1 p hpt
  rw [hc] at h4 h5
  exact ⟨l, hlm, hlr, r, hr, h1, h2, h4, h5⟩

end session

/-! ### 3. through the commit -/

section written
variable (env : Env) (t : Node) (o : CreateOpts) (rootHist : Hist) (hl : loadHistory t = .ok rootHist)
  (hd : t.NamesDistinct) (hn : t.NamesOk) (hf : o.formats ≠ []) (hwf : SfOk t o.singleFiles) (ws : List Written)
  (hcm : commit rootHist (sfSession env t rootHist o) env.rootName env.stamp "in-place" = .ok ws)
include hl hd hn hf hwf hcm

omit hf in
/-- nothing but targets is recorded, whatever the formats (also none): every record of every written generation is the
record of a target, in the generation of the target's owner, under the target's path relative to the owner -/
theorem sf_written_sound :
    ∀ w ∈ ws, ∀ r ∈ w.gen.records, ∃ p ∈ targets env t rootHist o,
      w.histRoot = owner rootHist p ∧ r.path = posix (relIn rootHist p) ∧ w.histRoot ++ splitPath r.path = p ∧
      r.isDir = false := by
  obtain ⟨hg, hok, hs⟩ := sf_facts env t o rootHist hl hd hn hwf
  intro w hw r hr
  obtain ⟨r0, hr0, rfl⟩ := commit_record_of _ _ _ _ _ hcm hw hr
  rw [finalRec_path, finalRec_isDir]
  exact hs.core.item_of_files hg.root hok hr0

omit hf in
/-- no list of the session has a root record, so no written generation has a root hash, whatever the formats -/
theorem sf_written_no_root_hash : ∀ w ∈ ws, w.gen.rootHash = none := by
  obtain ⟨-, -, hs⟩ := sf_facts env t o rootHist hl hd hn hwf
  intro w hw
  obtain ⟨h, -, -, -, hrh⟩ := commit_records hcm hw
  rw [hrh, hs.core.rootRec_files]
  rfl

/-- Under `SfOk`: the generations `create -sf` writes have pairwise different history roots
and each has pairwise different record paths, and
* every target `p` is recorded in the generation of its owner (which is therefore written), under
  `posix (relIn rootHist p)`: a file record, the content length as size, the entries a reordering (sorted by format) of
  the relabelled `sealEntries` against the OWNER's generations;
* every record of every written generation is the record of a target, in the generation of the target's owner, under the
  target's path relative to the owner — hence each target is recorded ONCE (the record paths of a generation are
  pairwise different, and a record that denotes `p` is the one above) and nothing but targets is recorded;
* no written generation has a root hash;
* a generation written for a history that owns no target (a reference carrier) has NO records;
* which histories are written: exactly the owners of targets and their ancestors — in the tree of histories
  (`(route rootHist p).1 ∈ h :: allDescendants h`) or, equivalently, by folder (`h.root <+: owner rootHist p`); a
  history that is neither is not written. -/
theorem sf_written_exact_partial :
    (ws.map (·.histRoot)).Nodup ∧ (∀ w ∈ ws, (w.gen.records.map (·.path)).Nodup) ∧
    (∀ p ∈ targets env t rootHist o,
      ∃ w ∈ ws, w.histRoot = owner rootHist p ∧ ∃ r ∈ w.gen.records,
        r.path = posix (relIn rootHist p) ∧ r.isDir = false ∧ r.prev = none ∧
        r.size = some (fileContent t p).length ∧
        r.entries.Perm ((sealEntries (route rootHist p).1.gens (posix (relIn rootHist p))
          (fun f => env.H f (fileContent t p)) (isort strLe o.formats)).1.map relabel)) ∧
    (∀ w ∈ ws, ∀ r ∈ w.gen.records, ∃ p ∈ targets env t rootHist o,
        w.histRoot = owner rootHist p ∧ r.path = posix (relIn rootHist p) ∧ w.histRoot ++ splitPath r.path = p ∧
        r.isDir = false) ∧
    (∀ w ∈ ws, w.gen.rootHash = none) ∧
    (∀ w ∈ ws, (∀ p ∈ targets env t rootHist o, owner rootHist p ≠ w.histRoot) → w.gen.records = []) ∧
    (∀ h ∈ walkPost rootHist, ((∃ w ∈ ws, w.histRoot = h.root) ↔
        ∃ p ∈ targets env t rootHist o, (route rootHist p).1 ∈ h :: allDescendants h)) ∧
    (∀ h ∈ walkPost rootHist, ((∃ w ∈ ws, w.histRoot = h.root) ↔
        ∃ p ∈ targets env t rootHist o, h.root <+: owner rootHist p)) := by
  obtain ⟨hg, hok, hs⟩ := sf_facts env t o rootHist hl hd hn hwf
  obtain ⟨h1, h2, h3, -⟩ := hs.written hg hok hcm
  have hroots := sf_roots_iff env t o rootHist hl hd hn hf hwf
  have hsound := sf_written_sound env t o rootHist hl hd hn hwf ws hcm
  have htree : ∀ h ∈ walkPost rootHist, ((∃ w ∈ ws, w.histRoot = h.root) ↔
      ∃ p ∈ targets env t rootHist o, (route rootHist p).1 ∈ h :: allDescendants h) := by
    intro h hh
    have hall : h ∈ rootHist.all := (mem_walkPost _ _).1 hh
    rw [commit_wrote_iff hg _ _ _ _ _ hcm hall]
    constructor
    · rintro ⟨x, hx, hxr⟩
      obtain ⟨p, hp, hpo⟩ := (hroots x.root).1 hxr
      have : (route rootHist p).1 = x :=
        mem_all_root_inj hg.nodup (route_mem hg.root p) (all_trans rootHist hall hx) hpo
      exact ⟨p, hp, by rw [this]; exact hx⟩
    · rintro ⟨p, hp, hx⟩
      exact ⟨_, hx, (hroots _).2 ⟨p, hp, rfl⟩⟩
  refine ⟨h1, h2, fun p hp => h3 p (List.mem_map.2 ⟨p, hp, rfl⟩) (sealEntries_ne_nil _ _ _ _
    (isort_ne_nil_of_ne_nil strLe hf)), hsound, sf_written_no_root_hash env t o rootHist hl hd hn hwf ws hcm,
    fun w hw hno => ?_, htree, fun h hh => ?_⟩
  · cases hrs : w.gen.records with
    | nil => rfl
    | cons r rs =>
      obtain ⟨p, hp, hown, -⟩ := hsound w hw r (by rw [hrs]; exact List.mem_cons_self)
      exact absurd hown.symm (hno p hp)
  · have hall : h ∈ rootHist.all := (mem_walkPost _ _).1 hh
    rw [htree h hh]
    constructor
    · rintro ⟨p, hp, hx⟩
      exact ⟨p, hp, ((histOK_WF hg).of_mem hall).root_prefix _ hx⟩
    · rintro ⟨p, hp, hpre⟩
      exact ⟨p, hp, mem_all_of_prefix (histOK_WF hg) hall (route_mem hg.root p) hpre⟩

/-- each target once, spelled out: a record of a written generation that denotes the target `p` is THE record of `p`
in the generation of `p`'s owner -/
theorem sf_written_once_partial (p : RelPath) (hp : p ∈ targets env t rootHist o) :
    ∀ w ∈ ws, ∀ r ∈ w.gen.records, w.histRoot ++ splitPath r.path = p →
      w.histRoot = owner rootHist p ∧ r.path = posix (relIn rootHist p) ∧ r.isDir = false := by
  intro w hw r hr hden
  obtain ⟨p', -, h1, h2, h3, h4⟩ := sf_written_sound env t o rootHist hl hd hn hwf ws hcm w hw r hr
  have : p' = p := h3.symm.trans hden
  subst this
  exact ⟨h1, h2, h4⟩

/-! ### 4. the digests -/

/-- Under `SfOk`: the written record `r` of a target `p` (it exists, in the generation of
`p`'s owner, under `posix (relIn rootHist p)`), with `gens` the generations of the owner, `path` that text and
`dig f = env.H f (fileContent t p)`:
* every entry carries the digest of the content in its format, there is at most one entry per format, and the
  entries are sorted by format;
* NO EARLIER RECORD (`find path = none` in every generation of the owner): the entries are exactly one `original`
  entry per requested format (a format requested twice counts once) with digest `env.H fmt content`;
* RECORDED (C04): with an `original` on record, an entry in an already recorded format is `verified` iff the digest
  equals the FIRST recorded digest of that format, else `failed`; an entry in a format new for the file is `verified`
  and is only there when no entry failed;
* when no entry failed every requested format is there; an unaltered file (`C04.FirstOk`) has no failed entry. -/
theorem sf_digests_correct_partial (p : RelPath) (hp : p ∈ targets env t rootHist o) :
    ∃ w ∈ ws, w.histRoot = owner rootHist p ∧ ∃ r ∈ w.gen.records, r.path = posix (relIn rootHist p) ∧
      (∀ e ∈ r.entries, e.digest = env.H e.fmt (fileContent t p)) ∧
      (r.entries.map (·.fmt)).Nodup ∧
      r.entries.Pairwise (fun a b => strLe a.fmt b.fmt = true) ∧
      ((∀ g ∈ (route rootHist p).1.gens, g.gen.find (posix (relIn rootHist p)) = none) →
        r.entries.Perm ((o.formats.foldl appendNew []).map fun f =>
          ({ fmt := f, digest := env.H f (fileContent t p), action := "original" } : Entry))) ∧
      (∀ o0, findOriginal (route rootHist p).1.gens (posix (relIn rootHist p)) = some o0 →
        (∀ e ∈ r.entries, ∀ e1,
          findFirstOfFormat (route rootHist p).1.gens (posix (relIn rootHist p)) e.fmt = some e1 →
            (e.action = "verified" ↔ env.H e.fmt (fileContent t p) = e1.digest) ∧
            (e.action = "failed" ↔ env.H e.fmt (fileContent t p) ≠ e1.digest)) ∧
        (∀ e ∈ r.entries, findFirstOfFormat (route rootHist p).1.gens (posix (relIn rootHist p)) e.fmt = none →
          e.action = "verified" ∧ ∀ e' ∈ r.entries, e'.action ≠ "failed")) ∧
      ((∀ e ∈ r.entries, e.action ≠ "failed") → ∀ f ∈ o.formats, ∃ e ∈ r.entries, e.fmt = f) ∧
      (C04.FirstOk (fun f => env.H f (fileContent t p)) (route rootHist p).1.gens (posix (relIn rootHist p)) →
        ∀ e ∈ r.entries, e.action ≠ "failed") := by
  obtain ⟨w, hw, hwr, r, hr, h1, h2, -, -, h5⟩ :=
    (sf_written_exact_partial env t o rootHist hl hd hn hf hwf ws hcm).2.2.1 p hp
  obtain ⟨hdig, hrec, hreq, hok⟩ := writtenEntries_spec _ _ _ _ r.entries h5
  -- sortedness: `r` is the finalised form of a file record of the session
  have hsorted : r.entries.Pairwise (fun a b => strLe a.fmt b.fmt = true) := by
    obtain ⟨r0, -, rfl⟩ := commit_record_of _ _ _ _ _ hcm hw hr
    rw [finalRec_isDir] at h2
    exact finalRec_sorted r0 h2
  refine ⟨w, hw, hwr, r, hr, h1, hdig, writtenEntries_fmts_nodup _ _ _ _ _ h5, hsorted, ?_, hrec, ?_, hok⟩
  · intro hfresh
    rw [sealEntries_unrecorded hfresh, List.map_map] at h5
    refine h5.trans ?_
    have hrel : (relabel ∘ fun f => ({ fmt := f, digest := env.H f (fileContent t p), action := "original" } : Entry))
        = fun f => ({ fmt := f, digest := env.H f (fileContent t p), action := "original" } : Entry) := by
      funext f
      simp [relabel]
    rw [hrel]
    refine List.Perm.map _ ?_
    rw [List.perm_ext_iff_of_nodup (dedup_spec _).1 (dedup_spec _).1]
    intro f
    rw [(dedup_spec _).2, (dedup_spec _).2, mem_isort]
  · intro hnf f hfm
    exact hreq hnf f ((mem_isort strLe o.formats f).2 hfm)

end written

/-! ### 5. no directory records, no root hash -/

/-- **no directory record, ever**: whatever is named (no hypothesis at all — not even that the history loads), every
record of every generation `createSingleFiles` writes is a file record -/
theorem sf_no_dir_records (env : Env) (t : Node) (o : CreateOpts) :
    ∀ w ∈ (createSingleFiles env t o).written, ∀ r ∈ w.gen.records, r.isDir = false := by
  intro w hw r hr
  rcases sf_written_cases env t o with h | ⟨rootHist, -, hcm⟩
  · rw [h] at hw; cases hw
  · obtain ⟨r0, hr0, rfl⟩ := commit_record_of _ _ _ _ _ hcm hw hr
    rw [finalRec_isDir]
    exact Session.AllRecs.get (sfFold_filesOnly env t rootHist _ _ _ (by intro l hl'; simp at hl')) _ r0 hr0

theorem sf_no_root_hash_partial (env : Env) (t : Node) (o : CreateOpts) (rootHist : Hist)
    (hl : loadHistory t = .ok rootHist) (hd : t.NamesDistinct) (hn : t.NamesOk) (hwf : SfOk t o.singleFiles) :
    ∀ w ∈ (createSingleFiles env t o).written, w.gen.rootHash = none := by
  intro w hw
  rcases sf_written_cases env t o with h | ⟨rootHist', hl', hcm⟩
  · rw [h] at hw; cases hw
  · cases hl.symm.trans hl'
    exact sf_written_no_root_hash env t o rootHist hl hd hn hwf _ hcm w hw

/-- Under `SfOk`: no written generation of `create -sf` contains a directory record or a root
hash.  The first half needs no hypothesis (`sf_no_dir_records`). -/
theorem sf_no_dir_hashes_partial (env : Env) (t : Node) (o : CreateOpts) (rootHist : Hist)
    (hl : loadHistory t = .ok rootHist) (hd : t.NamesDistinct) (hn : t.NamesOk) (hf : o.formats ≠ [])
    (hsf : o.singleFiles ≠ []) (hwf : SfOk t o.singleFiles) :
    ∀ w ∈ (create env t o).written, (∀ r ∈ w.gen.records, r.isDir = false) ∧ w.gen.rootHash = none := by
  rw [create_eq_createSingleFiles env t o hsf]
  exact fun w hw => ⟨sf_no_dir_records env t o w hw, sf_no_root_hash_partial env t o rootHist hl hd hn hwf w hw⟩

/-! ### the statements of 2–5 are FALSE without `SfOk`: evaluated counterexamples -/

section Counterexamples

/-- (b) a tree that is a single file, `-sf []`: every hypothesis of the setting holds, `SfOk` does not -/
example : loadHistory (.file "f" [1]) = .ok (.mk [] [] [] false []) ∧ (Node.file "f" [1]).NamesDistinct ∧
    (Node.file "f" [1]).NamesOk ∧ ¬ SfOk (.file "f" [1]) [[]] := by
  refine ⟨rfl, trivial, by decide, fun h => ?_⟩
  have := h.2 (by simp)
  cases this

/-- (b) for that tree the generation written has no record and a root hash: the file was sealed as the root record "." -/
theorem sf_root_hash_false_without_wf :
    ¬ ∀ w ∈ (create nestEnv (.file "f" [1]) { formats := ["md5"], singleFiles := [[]] }).written,
      w.gen.rootHash = none := by
  decide +kernel

set_option synthInstance.maxSize 100000 in
example : ((create nestEnv (.file "f" [1]) { formats := ["md5"], singleFiles := [[]] }).written.map fun w =>
      (w.histRoot, w.gen.records.length, w.gen.rootHash.isSome,
        (w.gen.rootHash.getD []).map fun e => (e.fmt, e.digest, e.action))) =
    [([], 0, true, [("md5", "md5:1", "original")])] := by decide +kernel

/-- (a) a named path that is not on disk and whose one name is ".": sealed (empty content) as the root record too -/
theorem sf_root_hash_false_bad_name :
    ¬ ∀ w ∈ (create nestEnv (.dir "root" [] none) { formats := ["md5"], singleFiles := [["."]] }).written,
      w.gen.rootHash = none := by
  decide +kernel

/-- (a) two named paths that are not on disk and have the same POSIX text: both are targets -/
example : targets nestEnv (.dir "root" [] none) (.mk [] [] [] false [])
    { formats := ["md5"], singleFiles := [["a/b"], ["a", "b"]] } = [["a/b"], ["a", "b"]] := by decide +kernel

/-- (a) for these two paths there is one record, holding the entries of both: no record has the entries `sealEntries` returns for its
target (clause 3 of `sf_written_exact_partial` fails, and so does the "at most one entry per format" of
`sf_digests_correct_partial`, which is what is negated here, literally, for this run) -/
theorem sf_exact_false_bad_names :
    ¬ ∀ p ∈ targets nestEnv (.dir "root" [] none) (.mk [] [] [] false [])
          { formats := ["md5"], singleFiles := [["a/b"], ["a", "b"]] },
        ∃ w ∈ (create nestEnv (.dir "root" [] none)
          { formats := ["md5"], singleFiles := [["a/b"], ["a", "b"]] }).written,
        w.histRoot = owner (.mk [] [] [] false []) p ∧ ∃ r ∈ w.gen.records,
          r.path = posix (relIn (.mk [] [] [] false []) p) ∧ (r.entries.map (·.fmt)).Nodup := by
  decide +kernel

/-- the setting holds for that run -/
example : loadHistory (.dir "root" [] none) = .ok (.mk [] [] [] false []) ∧
    (Node.dir "root" [] none).NamesOk ∧ ¬ SfOk (.dir "root" [] none) [["a/b"], ["a", "b"]] := by
  refine ⟨rfl, by decide, fun h => ?_⟩
  have := h.1 ["a/b"] (by simp) rfl "a/b" (by simp)
  revert this
  decide

example : ((create nestEnv (.dir "root" [] none) { formats := ["md5"], singleFiles := [["a/b"], ["a", "b"]] }).written.map
      fun w => w.gen.records.map fun r => (r.path, r.entries.map fun e => (e.fmt, e.action))) =
    [[("a/b", [("md5", "original"), ("md5", "original")])]] := by decide +kernel

end Counterexamples

/-! ### non-vacuity: a nested history at `A/` (and one at `B/` that is not touched), `create -sf top.txt -sf A/x.txt -sf sub` -/

section Examples

/- `NamesDistinct` and `NamesOk` recurse on the tree: left reducible, the elaborator evaluates the sealed tree below
whenever it normalises a goal that states one of them. -/
seal Node.NamesDistinct Node.NamesOk

/-- before any run: `A/` and `B/` hold an (empty) `ascmhl` folder; `sub/` has two files, one of them ignored -/
def sfTree0 : Node :=
  .dir "root"
    [ .file "top.txt" [1],
      .file "other.txt" [9, 9],
      .dir "A" [ .file "x.txt" [1, 2], .file "y.txt" [3] ] (some {}),
      .dir "B" [ .file "z.txt" [7] ] (some {}),
      .dir "sub" [ .file "keep.txt" [1, 2, 3], .file ".DS_Store" [] ] none ] none

def sfOpts : CreateOpts := { formats := ["md5"], singleFiles := [["top.txt"], ["A", "x.txt"], ["sub"]] }

set_option synthInstance.maxSize 100000 in
/-- the first run, on the fresh tree, evaluated through the whole pipeline: `A/x.txt` in the generation of `A` under
`x.txt`; `top.txt` and `sub/keep.txt` (not `sub/.DS_Store`, not `other.txt`, not `A/y.txt`) in the generation of the
root, which references the one of `A`; no directory record, no root hash; `B` is not written -/
example : ((create nestEnv sfTree0 sfOpts).written.map fun w =>
      (w.histRoot, w.number,
        w.gen.records.map (fun r => (r.path, r.isDir, r.entries.map fun e => (e.fmt, e.digest, e.action))),
        w.gen.rootHash.isSome, w.gen.refs)) =
    [ (["A"], 1, [("x.txt", false, [("md5", "md5:2", "original")])], false, []),
      ([], 1, [("top.txt", false, [("md5", "md5:1", "original")]),
               ("sub/keep.txt", false, [("md5", "md5:3", "original")])], false,
        ["A/ascmhl/0001_A_1970-01-01_000000Z.mhl"]) ] := by decide +kernel

/-- after a folder-mode `create`: every history has one generation recording all its files -/
def sfTree : Node := applyWritten sfTree0 (create nestEnv sfTree0 { formats := ["md5"] }).written

def sfHist : Hist :=
  match loadHistory sfTree with
  | .ok h => h
  | .error _ => .mk [] [] [] false []

/-- the second run: another format, a named path that is not on disk, a path named twice -/
def sfOpts2 : CreateOpts :=
  { formats := ["sha1", "md5"],
    singleFiles := [["top.txt"], ["A", "x.txt"], ["sub"], ["ghost.txt"], ["top.txt"]] }

/-- the closed facts about `sfTree` and `sfHist`, evaluated together (the kernel shares the evaluation of the sealed
tree within one declaration only).  The tests of the hypotheses for the second run: the tree loads, sibling names are
distinct, names are well-formed, and the commit goes through and writes two generations; then the histories in walk
order, the targets, the routing, and what the last example reads off `A/x.txt` and `B` -/
theorem sfTree_tests :
    ((match loadHistory sfTree with | .ok _ => true | .error _ => false) = true ∧
      namesDistinctB sfTree = true ∧ sfTree.NamesOk ∧
      ((∀ p ∈ sfOpts2.singleFiles, ∀ n ∈ p, NameOk n) ∧ sfTree.isDir = true) ∧
      (match commit sfHist (sfSession nestEnv sfTree sfHist sfOpts2) nestEnv.rootName nestEnv.stamp "in-place" with
        | .ok ws => ws.length | .error _ => 0) = 2) ∧
    (walkPost sfHist).map (fun h => (h.root, h.gens.map (·.number))) = [(["A"], [1]), (["B"], [1]), ([], [1])] ∧
    targets nestEnv sfTree sfHist sfOpts2 = [["top.txt"], ["A", "x.txt"], ["sub", "keep.txt"], ["ghost.txt"]] ∧
    ((owner sfHist ["A", "x.txt"], relIn sfHist ["A", "x.txt"]) = (["A"], ["x.txt"]) ∧
      (owner sfHist ["sub", "keep.txt"], relIn sfHist ["sub", "keep.txt"]) = ([], ["sub", "keep.txt"]) ∧
      (owner sfHist ["ghost.txt"], relIn sfHist ["ghost.txt"]) = ([], ["ghost.txt"])) ∧
    ((["A", "x.txt"] : RelPath) ∈ targets nestEnv sfTree sfHist sfOpts2 ∧
      (owner sfHist ["A", "x.txt"] = ["A"] ∧ posix (relIn sfHist ["A", "x.txt"]) = "x.txt" ∧
        fileContent sfTree ["A", "x.txt"] = [1, 2]) ∧
      (∃ h ∈ walkPost sfHist, h.root = ["B"]) ∧
      ¬ ∃ p ∈ targets nestEnv sfTree sfHist sfOpts2, ["B"] <+: owner sfHist p) := by
  decide +kernel

theorem sfHist_loaded : loadHistory sfTree = .ok sfHist := by
  have h := sfTree_tests.1.1
  unfold sfHist
  cases hl : loadHistory sfTree with
  | ok x => rfl
  | error e => rw [hl] at h; cases h

example : (walkPost sfHist).map (fun h => (h.root, h.gens.map (·.number))) =
    [(["A"], [1]), (["B"], [1]), ([], [1])] := sfTree_tests.2.1

theorem sfTree_distinct : sfTree.NamesDistinct := namesDistinctB_sound _ sfTree_tests.1.2.1
theorem sfTree_namesOk : sfTree.NamesOk := sfTree_tests.1.2.2.1
theorem sfOpts2_wf : SfOk sfTree sfOpts2.singleFiles := SfOk.of_names sfTree_tests.1.2.2.2.1.1 fun _ => sfTree_tests.1.2.2.2.1.2

theorem sf_commit : ∃ ws, commit sfHist (sfSession nestEnv sfTree sfHist sfOpts2) nestEnv.rootName nestEnv.stamp
    "in-place" = .ok ws ∧ ws.length = 2 := by
  have h := sfTree_tests.1.2.2.2.2
  cases hc : commit sfHist (sfSession nestEnv sfTree sfHist sfOpts2) nestEnv.rootName nestEnv.stamp "in-place" with
  | ok ws => rw [hc] at h; exact ⟨ws, rfl, h⟩
  | error e => rw [hc] at h; cases h

/-- all hypotheses of the theorems hold for the second run -/
example : loadHistory sfTree = .ok sfHist ∧ sfTree.NamesDistinct ∧ sfTree.NamesOk ∧ sfOpts2.formats ≠ [] ∧
    sfOpts2.singleFiles ≠ [] ∧ SfOk sfTree sfOpts2.singleFiles ∧
    ∃ ws, commit sfHist (sfSession nestEnv sfTree sfHist sfOpts2) nestEnv.rootName nestEnv.stamp "in-place" = .ok ws :=
  ⟨sfHist_loaded, sfTree_distinct, sfTree_namesOk, by decide, by decide, sfOpts2_wf, by
    obtain ⟨ws, h, -⟩ := sf_commit; exact ⟨ws, h⟩⟩

/-- the targets: the named folder `sub` gives its one visible file, the path named twice is there once, the path
that is not on disk is there -/
example : targets nestEnv sfTree sfHist sfOpts2 =
    [["top.txt"], ["A", "x.txt"], ["sub", "keep.txt"], ["ghost.txt"]] := sfTree_tests.2.2.1

example : (owner sfHist ["A", "x.txt"], relIn sfHist ["A", "x.txt"]) = (["A"], ["x.txt"]) ∧
    (owner sfHist ["sub", "keep.txt"], relIn sfHist ["sub", "keep.txt"]) = ([], ["sub", "keep.txt"]) ∧
    (owner sfHist ["ghost.txt"], relIn sfHist ["ghost.txt"]) = ([], ["ghost.txt"]) := sfTree_tests.2.2.2.1

set_option synthInstance.maxSize 100000 in
/-- what the second run writes: the recorded files are verified in the recorded format and get the new one; the
path that is not on disk is sealed as an empty file (size 0, `original`); `B` is not written -/
example : ((create nestEnv sfTree sfOpts2).written.map fun w =>
      (w.histRoot, w.number,
        w.gen.records.map (fun r => (r.path, r.isDir, r.entries.map fun e => (e.fmt, e.digest, e.action))),
        w.gen.rootHash.isSome, w.gen.refs)) =
    [ (["A"], 2, [("x.txt", false, [("md5", "md5:2", "verified"), ("sha1", "sha1:2", "verified")])], false, []),
      ([], 2, [("top.txt", false, [("md5", "md5:1", "verified"), ("sha1", "sha1:1", "verified")]),
               ("sub/keep.txt", false, [("md5", "md5:3", "verified"), ("sha1", "sha1:3", "verified")]),
               ("ghost.txt", false, [("md5", "md5:0", "original"), ("sha1", "sha1:0", "original")])], false,
        ["A/ascmhl/0002_A_1970-01-01_000000Z.mhl"]) ] := by decide +kernel

/-- the sizes and the reference carrier, evaluated together -/
theorem sfTree_written :
    ((create nestEnv sfTree sfOpts2).written.map fun w => w.gen.records.map (·.size)) =
      [[some 2], [some 1, some 3, some 0]] ∧
    ((create nestEnv sfTree { formats := ["md5"], singleFiles := [["A", "x.txt"]] }).written.map fun w =>
        (w.histRoot, w.gen.records.map (·.path), w.gen.rootHash.isSome, w.gen.refs)) =
      [ (["A"], ["x.txt"], false, []), ([], [], false, ["A/ascmhl/0002_A_1970-01-01_000000Z.mhl"]) ] := by
  decide +kernel

/-- the sizes: the content lengths; 0 for the path that is not on disk -/
example : ((create nestEnv sfTree sfOpts2).written.map fun w => w.gen.records.map (·.size)) =
    [[some 2], [some 1, some 3, some 0]] := sfTree_written.1

/-- a reference carrier: only `A/x.txt` is named; the root history is written WITHOUT records, to carry the
reference; `B` is not written -/
example : ((create nestEnv sfTree { formats := ["md5"], singleFiles := [["A", "x.txt"]] }).written.map fun w =>
      (w.histRoot, w.gen.records.map (·.path), w.gen.rootHash.isSome, w.gen.refs)) =
    [ (["A"], ["x.txt"], false, []), ([], [], false, ["A/ascmhl/0002_A_1970-01-01_000000Z.mhl"]) ] :=
  sfTree_written.2

/-- `sf_written_exact_partial`, `sf_digests_correct_partial` and `sf_no_dir_hashes_partial` applied to the second run -/
example : ∃ ws, (create nestEnv sfTree sfOpts2).written = ws ∧ (ws.map (·.histRoot)).Nodup ∧
    (∃ w ∈ ws, w.histRoot = ["A"] ∧ ∃ r ∈ w.gen.records, r.path = "x.txt" ∧
      ∀ e ∈ r.entries, e.digest = nestEnv.H e.fmt [1, 2]) ∧
    (∀ w ∈ ws, ∀ r ∈ w.gen.records, ∃ p ∈ targets nestEnv sfTree sfHist sfOpts2,
      w.histRoot = owner sfHist p ∧ r.path = posix (relIn sfHist p)) ∧
    (¬ ∃ w ∈ ws, w.histRoot = ["B"]) ∧
    (∀ w ∈ ws, (∀ r ∈ w.gen.records, r.isDir = false) ∧ w.gen.rootHash = none) := by
  obtain ⟨ws, hcm, -⟩ := sf_commit
  have hw := sf_written nestEnv sfTree sfOpts2 sfHist sfHist_loaded ws hcm
  have h3 := sf_written_exact_partial nestEnv sfTree sfOpts2 sfHist sfHist_loaded sfTree_distinct sfTree_namesOk
    (by decide) sfOpts2_wf ws hcm
  obtain ⟨hp, ho, ⟨hB, hBm, hBr⟩, hnoB⟩ : (["A", "x.txt"] : RelPath) ∈ targets nestEnv sfTree sfHist sfOpts2 ∧
      (owner sfHist ["A", "x.txt"] = ["A"] ∧ posix (relIn sfHist ["A", "x.txt"]) = "x.txt" ∧
        fileContent sfTree ["A", "x.txt"] = [1, 2]) ∧
      (∃ h ∈ walkPost sfHist, h.root = ["B"]) ∧
      ¬ ∃ p ∈ targets nestEnv sfTree sfHist sfOpts2, ["B"] <+: owner sfHist p := sfTree_tests.2.2.2.2
  obtain ⟨w, hwm, hwr, r, hr, hrp, hdig, -⟩ := sf_digests_correct_partial nestEnv sfTree sfOpts2 sfHist sfHist_loaded
    sfTree_distinct sfTree_namesOk (by decide) sfOpts2_wf ws hcm _ hp
  have h5 := sf_no_dir_hashes_partial nestEnv sfTree sfOpts2 sfHist sfHist_loaded sfTree_distinct sfTree_namesOk
    (by decide) (by decide) sfOpts2_wf
  rw [hw.2 (by decide)] at h5
  refine ⟨ws, hw.2 (by decide), h3.1, ⟨w, hwm, by rw [hwr, ho.1], r, hr, by rw [hrp, ho.2.1], ?_⟩, ?_, ?_, h5⟩
  · intro e he
    rw [hdig e he, ho.2.2]
  · intro w' hw' r' hr'
    obtain ⟨p, hp', h1, h2, -⟩ := h3.2.2.2.1 w' hw' r' hr'
    exact ⟨p, hp', h1, h2⟩
  · rw [← hBr, h3.2.2.2.2.2.2.2 hB hBm, hBr]
    exact hnoB

/-- `o.formats ≠ []` is needed for the existence halves of 2–4: with no format requested a file that has no earlier
record gets no entry, hence no record, and nothing is written (a recorded file would still be verified in a recorded
format) -/
example : (create nestEnv sfTree0 { formats := [], singleFiles := [["top.txt"]] }).written = [] ∧
    targets nestEnv sfTree0 (.mk [] [] [] false [.mk ["A"] [] [] true [], .mk ["B"] [] [] true []])
      { formats := [], singleFiles := [["top.txt"]] } = [["top.txt"]] := by
  constructor <;> decide +kernel

end Examples

end MhlProps.C02sf
