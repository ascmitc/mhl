/-
A history without nested histories that DESCRIBES a tree (`Describes`): stated by the look-ups the commands make
(`recordedName`, `findOriginal`, `findFirstOfFormat`, `expectedPaths`, `latestIgnore`), not by the records that
answer them.  What verify / diff / a further `create` say of such a history, and the first seal as the first way a
history comes to describe a tree; the other, a generation that records one moved file with its previous path, is
`Describes.append_renamed` (Proofs/RenameLemmas.lean).
-/
import MhlProps.Proofs.SealVerifyLemmas
import MhlProps.Proofs.SnapshotLemmas

namespace MhlModel
open MhlProps MhlProps.C02rec MhlProps.C04

/-- `H` (no nested histories, latest pattern list `P`) describes the tree `t`: every file `t` shows through `P` is
compared by verify with the digest of its content in `t` (in the format `fmt` names for it) and is unaltered with
respect to the first digest recorded in every format; nothing is expected that `t` does not show -/
structure Describes (env : Env) (H : Hist) (P : List String) (t : Node) (fmt : RelPath → String) : Prop where
  flat : H.children = []
  root : H.root = []
  latest : latestIgnore H.gens = some P
  own : P ≠ [] ∧ P.Nodup
  distinct : t.NamesDistinct
  namesOk : t.NamesOk
  orig : ∀ p, (p, false) ∈ visiblePaths (env.hit P) t →
    ∃ e, findOriginal H.gens (recordedName H.gens (posix p)) = some e ∧ e.fmt = fmt p ∧
      e.digest = env.H (fmt p) (fileContent t p)
  firstOk : ∀ p, (p, false) ∈ visiblePaths (env.hit P) t →
    FirstOk (fun f => env.H f (fileContent t p)) H.gens (posix p)
  expected : ∀ p ∈ expectedPaths H, (∃ d, (p, d) ∈ visiblePaths (env.hit P) t) ∨ hitAbove (env.hit P) p = true
  refs : ∀ g, H.gens.getLast? = some g → g.gen.refs = []

variable {env : Env} {H : Hist} {P : List String} {t : Node} {fmt : RelPath → String} {rn : String} {cs : List Node}

theorem Describes.vHit (D : Describes env H P t fmt) : vHit env H {} = env.hit P := by
  unfold MhlModel.vHit
  rw [setPatterns_latest_own D.latest D.own.1 D.own.2 _ _ (fun _ h => absurd h List.not_mem_nil)
    (fun _ h => absurd h List.not_mem_nil)]

theorem Describes.cHit (D : Describes env H P t fmt) (o : CreateOpts) (hcli : ∀ x ∈ o.ignoreCli, x ∈ P)
    (hfile : ∀ x ∈ o.ignoreFile, x ∈ P) : cHit env H o = env.hit P := by
  unfold MhlProps.C02rec.cHit
  rw [setPatterns_latest_own D.latest D.own.1 D.own.2 _ _ hcli hfile]

theorem Describes.gens_ne (D : Describes env H P t fmt) : H.gens ≠ [] := by
  intro h
  have := D.latest
  rw [h] at this
  cases this

theorem Describes.snapshot (D : Describes env H P t fmt) : Snapshot env H (env.hit P) t fmt where
  gens := D.gens_ne
  matcher := D.vHit
  distinct := D.distinct
  judge := fun T hashing q hq => by
    obtain ⟨e, he, hf, hd⟩ := D.orig q hq
    rw [judgeFile_of_original (route_flat _ D.flat q) rfl he, hf, hd]
  expected := D.expected

/-! ### the commands on the described tree, with any `ascmhl` folder at its root that loads as `H` -/

theorem Describes.verify_ok (D : Describes env H P (.dir rn cs none) fmt) (hs : Option HistStore)
    (hl : loadHistory (.dir rn cs hs) = .ok H) (hashing : Bool) :
    (verifyOrDiff env (.dir rn cs hs) {} hashing none).err = none ∧
    (verifyOrDiff env (.dir rn cs hs) {} hashing none).exitCode = 0 ∧
    (verifyOrDiff env (.dir rn cs hs) {} hashing none).report.mismatch = [] ∧
    (verifyOrDiff env (.dir rn cs hs) {} hashing none).report.new = [] ∧
    (verifyOrDiff env (.dir rn cs hs) {} hashing none).report.missing = [] :=
  D.snapshot.unchanged _ none hashing hl (fun x => by rw [visiblePaths_root_hist _ rn cs hs none])
    fun q _ _ => by rw [fileContent_root_hist rn cs hs none]

theorem Describes.reseal (D : Describes env H P (.dir rn cs none) fmt) (hs : Option HistStore)
    (hl : loadHistory (.dir rn cs hs) = .ok H) (o : CreateOpts)
    (hdr : o.detectRenaming = false) (hcli : ∀ x ∈ o.ignoreCli, x ∈ P) (hfile : ∀ x ∈ o.ignoreFile, x ∈ P) :
    ∃ w, (createFolder env (.dir rn cs hs) o).err = none ∧ (createFolder env (.dir rn cs hs) o).written = [w] ∧
      (createFolder env (.dir rn cs hs) o).report.mismatch = [] ∧
      (createFolder env (.dir rn cs hs) o).report.missing = [] ∧
      (createFolder env (.dir rn cs hs) o).report.renamed = [] ∧
      writeOne H (cSession env (.dir rn cs hs) H o) env.rootName env.stamp "in-place" none H [] = .ok w := by
  have hhit := D.cHit o hcli hfile
  apply createFolder_flat_ok env _ o H hl D.flat hdr rfl
  · intro p hp
    rw [hhit, visiblePaths_root_hist _ rn cs hs none] at hp
    rw [fileContent_root_hist rn cs hs none]
    exact D.firstOk p hp
  · intro p hp
    rw [hhit, visiblePaths_root_hist _ rn cs hs none]
    exact D.expected p hp
  · exact D.refs

theorem Describes.written_ignore {t : Node} (D : Describes env H P t fmt) (T : Node) (o : CreateOpts)
    (hcli : ∀ x ∈ o.ignoreCli, x ∈ P)
    (hfile : ∀ x ∈ o.ignoreFile, x ∈ P) {s : Session} {rootHist : Hist} {refs : List Written} {w : Written}
    (hw : writeOne rootHist s env.rootName env.stamp "in-place" none H refs = .ok w)
    (hpat : s.patterns = (cSession env T H o).patterns) : w.gen.ignore = P := by
  rw [MhlProps.C12.written_ignore _ _ _ _ _ _ _ _ _ hw, hpat, cSession_patterns,
    setPatterns_latest_own D.latest D.own.1 D.own.2 _ _ hcli hfile]
  exact setPatterns_latest_own D.latest D.own.1 D.own.2 _ _ (fun _ h => h) (fun _ h => absurd h List.not_mem_nil)

theorem SealedGen.describes {formats : List String} {g : Generation} (hs : SealedGen env t (env.hit P) formats g)
    (hd : t.NamesDistinct) (hn : t.NamesOk) (hf : formats ≠ []) (hP : P ≠ [] ∧ P.Nodup) (hign : g.ignore = P)
    (hrefs : g.refs = []) (k : Nat) (chain : List ChainEntry) (ex : Bool) :
    Describes env (.mk [] [⟨k, g⟩] chain ex []) P t (fun _ => firstFormat formats) where
  flat := rfl
  root := rfl
  latest := by simp [latestIgnore, Hist.gens, hign]
  own := hP
  distinct := hd
  namesOk := hn
  orig := fun p hp => ⟨_, by
    simp only [Hist.gens, hs.recordedName_eq]; exact hs.findOriginal_eq hf k p hp, rfl, rfl⟩
  firstOk := fun p hp => hs.firstOk k p hp
  expected := fun p hp => .inl (hs.expected hn k chain ex p hp)
  refs := fun g' hg' => by
    obtain rfl : (⟨k, g⟩ : LGen) = g' := by simpa [Hist.gens] using hg'
    exact hrefs

end MhlModel
